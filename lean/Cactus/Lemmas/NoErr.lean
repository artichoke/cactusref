import Cactus.Lemmas.Final
/-!
# No library error in contract-respecting executions

`State.okErr`: the sticky error field is empty, or the machine ran out of fuel, or the process
aborted (`inc_strong`/`inc_weak` overflow guards, double panic).  In every state of every
contract-respecting execution (`ReachableP`) this holds: the library never touches released or
moved-out memory (`uaf`, `movedLinks`, `movedValue`, `doubleFree`, `underflow`, `corrupt`) and the
program never uses a dangling handle (`dangling`).
-/
namespace Cactus
open State

/-- the only errors a contract-respecting execution can end with -/
def State.okErr (s : State) : Prop := s.err = none ∨ s.err = some .fuel ∨ s.err = some .abort

namespace State

theorem okErr_of_none {s : State} (h : s.err = none) : s.okErr := Or.inl h

theorem okErr_of_err_eq {s s' : State} (h : s'.err = s.err) (hs : s.okErr) : s'.okErr := by
  unfold okErr; rw [h]; exact hs

theorem okErr_fail_abort {s : State} (h : s.okErr) : (s.fail .abort).okErr := by
  cases he : s.err with
  | none => exact Or.inr (Or.inr (fail_err_of_none s _ he))
  | some e => exact okErr_of_err_eq (fail_err_of_some s _ e he |>.trans he.symm) h

theorem okErr_fail_fuel {s : State} (h : s.okErr) : (s.fail .fuel).okErr := by
  cases he : s.err with
  | none => exact Or.inr (Or.inl (fail_err_of_none s _ he))
  | some e => exact okErr_of_err_eq (fail_err_of_some s _ e he |>.trans he.symm) h

theorem cell_of_weak_ne_zero {s : State} (hO : s.InvO) {o : Nat} {ob : Obj} (hg : s.heap[o]? = some ob)
    (hw : ob.weak ≠ 0) : s.cell o = some ob := by
  refine cell_of_not_freed hg ?_
  cases hf : ob.freed with
  | false => rfl
  | true => exact absurd ((hO o ob hg).2.2.2.mp hf) hw

theorem weak_ne_zero_of_cell {s : State} (hO : s.InvO) {o : Nat} {ob : Obj} (hc : s.cell o = some ob) :
    ob.weak ≠ 0 := by
  intro h0
  have hf := (hO o ob (get_of_cell hc)).2.2.2.mpr h0
  rw [freed_of_cell hc] at hf
  cases hf

theorem modVal_err_of_valOf {s : State} {o : Nat} (hv : (s.valOf o).isSome = true) (he : s.err = none)
    (r w ra : List Nat) (f : Val → Val) :
    (({ s with roots := r, wroots := w, raws := ra } : State).modVal o f).err = none :=
  (modVal_err_eq_none_iff _ o f).mpr ⟨he, hv⟩

structure Safe (s : State) : Prop where
  err : s.err = none
  core : s.InvCore
  rng : s.InvR
  safe : s.InvSCore

namespace Safe
variable {s : State}

theorem invO (h : s.Safe) : s.InvO := h.core.1
theorem invB (h : s.Safe) : s.InvB := h.core.2.1
theorem invC (h : s.Safe) : s.InvC := h.core.2.2.1
theorem invW (h : s.Safe) : s.InvW := h.core.2.2.2.1
theorem invK (h : s.Safe) : s.InvK := h.core.2.2.2.2

theorem live_of_ext (h : s.Safe) {o : Nat} (hp : 0 < s.ext o + s.inHeap o) : s.isLive o = true :=
  h.safe.1 o hp

theorem live_of_root (h : s.Safe) {r o : Nat} (hr : nthMod s.roots r = some o) : s.isLive o = true :=
  h.live_of_ext (by have := ext_pos_of_mem_roots (mem_of_nthMod hr); omega)

theorem useRoot_eq (h : s.Safe) (r : Nat) : s.useRoot r = nthMod s.roots r := by
  unfold useRoot
  cases hr : nthMod s.roots r with
  | none => rfl
  | some o => simp [h.live_of_root hr]

theorem badRoot_eq (h : s.Safe) (r : Nat) : s.badRoot r = s := by
  unfold badRoot
  cases hr : nthMod s.roots r with
  | none => rfl
  | some o => simp [h.live_of_root hr]

theorem live_obj (h : s.Safe) {o : Nat} (hl : s.isLive o = true) :
    ∃ ob n v t, s.cell o = some ob ∧ ob.strong = .cnt (n + 1) ∧ ob.value = some v ∧ ob.links = some t
      ∧ ob.weak ≠ 0 := by
  obtain ⟨ob, n, hc, hs⟩ := (isLive_iff_cell s o).mp hl
  obtain ⟨hv, hlk, -, -⟩ := (h.invO o ob (get_of_cell hc)).1 n hs
  obtain ⟨v, hv⟩ := Option.isSome_iff_exists.1 hv
  obtain ⟨t, ht⟩ := Option.isSome_iff_exists.1 hlk
  exact ⟨ob, n, v, t, hc, hs, hv, ht, weak_ne_zero_of_cell h.invO hc⟩

theorem valOf_of_live (h : s.Safe) {o : Nat} (hl : s.isLive o = true) : (s.valOf o).isSome = true := by
  obtain ⟨ob, n, v, t, hc, -, hv, -, -⟩ := h.live_obj hl
  rw [valOf_of_cell hc, hv]; rfl

theorem tableOf_of_live (h : s.Safe) {o : Nat} (hl : s.isLive o = true) : (s.tableOf o).isSome = true := by
  obtain ⟨t, ht⟩ := live_tableOf h.invO hl
  rw [ht]; rfl

theorem cell_of_live (h : s.Safe) {o : Nat} (hl : s.isLive o = true) : ∃ ob, s.cell o = some ob ∧ ob.weak ≠ 0 := by
  obtain ⟨ob, _, _, _, hc, -, -, -, hw⟩ := h.live_obj hl
  exact ⟨ob, hc, hw⟩

theorem weak_cell (h : s.Safe) {o : Nat} (hp : 0 < s.extW o + s.inHeapW o + s.pendW o) :
    ∃ ob, s.cell o = some ob ∧ ob.weak ≠ 0 := by
  have hlt : o < s.heap.length := Nat.lt_of_not_le fun hge => by have := (h.rng o hge).2; omega
  obtain ⟨ob, hg⟩ : ∃ ob, s.heap[o]? = some ob := ⟨s.heap[o], List.getElem?_eq_getElem hlt⟩
  have hw := h.invW o hlt
  rw [weakNat_of_get hg] at hw
  have hne : ob.weak ≠ 0 := by omega
  exact ⟨ob, cell_of_weak_ne_zero h.invO hg hne, hne⟩

theorem weak_cell_of_wroot (h : s.Safe) {o : Nat} (hw : o ∈ s.wroots) : ∃ ob, s.cell o = some ob ∧ ob.weak ≠ 0 :=
  h.weak_cell (by have := extW_pos_of_mem_wroots hw; omega)

/-- the target of a strong handle owned by a pending frame has not been released: it is live, or
a member of a group under collection that still owns its implicit weak reference -/
theorem cell_of_pend (h : s.Safe) {o : Nat} (hp : 0 < s.pend o) : ∃ ob, s.cell o = some ob ∧ ob.weak ≠ 0 := by
  cases hl : s.isLive o with
  | true => exact h.cell_of_live hl
  | false =>
    obtain ⟨ob, hg, -, -, himp⟩ := h.safe.2.1 o hp hl
    have hc := cell_of_implicit h.invO h.invW hg himp
    exact ⟨ob, hc, weak_ne_zero_of_cell h.invO hc⟩

theorem live_of_held (h : s.Safe) {o t : Nat} {v : Val} (hv : s.valOf o = some v) (ht : t ∈ v.held) :
    s.isLive t = true := by
  apply h.live_of_ext
  obtain ⟨ob, hc, hval⟩ := (valOf_eq_some_iff s o v).mp hv
  have h1 : 0 < s.H o t := by
    rw [H_of_get (get_of_cell hc), Obj.heldList_of_some hval]
    exact (count_pos_iff_mem v.held t).mpr ht
  have := H_le_inHeap s o t
  omega

theorem weak_cell_of_held (h : s.Safe) {o t : Nat} {v : Val} (hv : s.valOf o = some v) (ht : t ∈ v.weaks) :
    ∃ ob, s.cell t = some ob ∧ ob.weak ≠ 0 := by
  obtain ⟨ob, hc, -⟩ := (valOf_eq_some_iff s o v).mp hv
  have h1 : 0 < s.inHeapW t :=
    (inHeapW_pos_iff s t).mpr ⟨o, get_lt (get_of_cell hc), by rw [weaksOf_of_valOf hv]; exact ht⟩
  exact h.weak_cell (by omega)

theorem incStrong_err (h : s.Safe) {o : Nat} (hl : s.isLive o = true) : (s.incStrong o).err = none :=
  (incStrong_err_of_isLive hl).trans h.err

theorem incWeak_err (h : s.Safe) {o : Nat} (hc : ∃ ob, s.cell o = some ob ∧ ob.weak ≠ 0) :
    (s.incWeak o).err = none :=
  (incWeak_err_eq_none_iff s o).mpr ⟨h.err, hc⟩

theorem modVal_err (h : s.Safe) {o : Nat} (hl : s.isLive o = true) (r w ra : List Nat) (f : Val → Val) :
    (({ s with roots := r, wroots := w, raws := ra } : State).modVal o f).err = none :=
  modVal_err_of_valOf (h.valOf_of_live hl) h.err r w ra f

theorem adopt_err (h : s.Safe) {a b : Nat} (ha : s.isLive a = true) (hb : s.isLive b = true) (same : Bool) :
    (s.adopt a b same).err = none :=
  (adopt_err_eq_none_iff s a b same).mpr ⟨h.err, h.tableOf_of_live ha, Or.inr (h.tableOf_of_live hb)⟩

theorem not_refused (h : s.Safe) {fw : List Nat} (hw : ∀ o ∈ fw, (s.cell o).isSome = true) {e : Err}
    (hc : Refused s fw e) : False := by
  cases hc with
  | dangling hm hd =>
    refine hd ?_
    rcases hm with hm | hm | ⟨p, v, hv, hm⟩
    · exact h.live_of_ext (by have := ext_pos_of_mem_roots hm; omega)
    · exact h.live_of_ext (by have := ext_pos_of_mem_raws hm; omega)
    · exact h.live_of_held hv hm
  | @uaf o hm hc =>
    have hs : (s.cell o).isSome = true := by
      rcases hm with hm | hm | hm
      · exact isLive_cell_isSome hm
      · obtain ⟨ob, hc', -⟩ := h.weak_cell_of_wroot hm
        rw [hc']; rfl
      · exact hw o hm
    rw [hc] at hs
    cases hs
  | movedValue hl hv =>
    have hs := h.valOf_of_live hl
    rw [hv] at hs
    cases hs

end Safe

theorem cell_isSome_setObj {s : State} {o : Nat} {ob : Obj} (hc : s.cell o = some ob) {ob' : Obj}
    (hf : ob'.freed = ob.freed) (x : Nat) : ((s.setObj o ob').cell x).isSome = (s.cell x).isSome := by
  by_cases hx : x = o
  · subst hx
    rw [cell_setObj_same' _ (cell_some_lt s x ob hc), hc, hf, freed_of_cell hc]; rfl
  · rw [cell_setObj_other' s _ hx]

theorem cell_isSome_incStrong (s : State) (o x : Nat) :
    ((s.incStrong o).cell x).isSome = (s.cell x).isSome := by
  rcases incStrong_cases s o with ⟨e, he⟩ | ⟨ob, n, hc, hs, he⟩ <;> rw [he]
  · rw [cell_fail]
  · exact cell_isSome_setObj hc (by rfl) x

theorem cell_isSome_incWeak (s : State) (o x : Nat) :
    ((s.incWeak o).cell x).isSome = (s.cell x).isSome := by
  rcases incWeak_cases s o with ⟨e, he⟩ | ⟨ob, hc, hw, he⟩ <;> rw [he]
  · rw [cell_fail]
  · exact cell_isSome_setObj hc (by rfl) x

theorem okErr_incStrong {s : State} {o : Nat} (h : s.okErr) (hc : (s.cell o).isSome = true) :
    (s.incStrong o).okErr := by
  obtain ⟨ob, hc⟩ := Option.isSome_iff_exists.1 hc
  unfold incStrong
  simp only [hc]
  split
  · exact okErr_of_err_eq rfl h
  · exact okErr_fail_abort h

theorem okErr_incWeak {s : State} {o : Nat} (h : s.okErr) (hc : (s.cell o).isSome = true) :
    (s.incWeak o).okErr := by
  obtain ⟨ob, hc⟩ := Option.isSome_iff_exists.1 hc
  unfold incWeak
  simp only [hc]
  split
  · exact okErr_fail_abort h
  · exact okErr_of_err_eq rfl h

theorem okErr_foldl {g : State → Nat → State}
    (hg : ∀ {s o}, s.okErr → (s.cell o).isSome = true → (g s o).okErr)
    (hc : ∀ s o x, ((g s o).cell x).isSome = (s.cell x).isSome) :
    ∀ (l : List Nat) {s : State}, s.okErr → (∀ o ∈ l, (s.cell o).isSome = true) → (l.foldl g s).okErr
  | [], _, h, _ => h
  | a :: l, _, h, hr =>
    okErr_foldl hg hc l (hg h (hr a List.mem_cons_self))
      (fun o ho => by rw [hc]; exact hr o (List.mem_cons_of_mem _ ho))

theorem okErr_cloneHandles {s : State} {v : Val} (h : s.okErr)
    (hh : ∀ o ∈ v.held, (s.cell o).isSome = true) (hw : ∀ o ∈ v.weaks, (s.cell o).isSome = true) :
    (s.cloneHandles v).okErr :=
  okErr_foldl okErr_incWeak cell_isSome_incWeak _ (okErr_foldl okErr_incStrong cell_isSome_incStrong _ h hh)
    (fun o ho => by
      rw [foldl_incStrong_invariant (fun s => (s.cell o).isSome) (fun s a => cell_isSome_incStrong s a o)]
      exact hw o ho)

theorem purgePeers_cell {s s1 : State} {o : Nat} {ob : Obj} (hO : s.InvO) (hB : s.InvB)
    (hl : s.isLive o = true) (hT : ∀ p, s1.tableOf p = s.tableOf p) (herr : s1.err = none)
    (hc : s1.cell o = some ob) :
    (s1.purgePeers o).err = none ∧ ∃ ob2, (s1.purgePeers o).cell o = some ob2
      ∧ ob2.strong = ob.strong ∧ ob2.weak = ob.weak ∧ ob2.value = ob.value := by
  obtain ⟨t, ht⟩ := live_tableOf hO hl
  obtain ⟨e1, -, -, hLO⟩ := purgePeers_of_InvB hO hB hl hT ht herr
  obtain ⟨ob2, hg2, q1, q2, q3, q4, -⟩ := hLO.obj o ob (get_of_cell hc)
  exact ⟨e1, ob2, cell_of_not_freed hg2 (q4.trans (freed_of_cell hc)), q1, q2, q3⟩

theorem giveUp_err_of_live {s : State} {o : Nat} (herr : s.err = none) (hO : s.InvO) (hB : s.InvB)
    (hl : s.isLive o = true) : (s.giveUp o).err = none := by
  obtain ⟨ob, n, hc, hs⟩ := (isLive_iff_cell s o).mp hl
  obtain ⟨e1, ob2, hc2, -, q2, -⟩ := purgePeers_cell hO hB hl (fun _ => rfl) herr hc
  have hw2 : ob2.weak ≠ 0 := by rw [q2]; exact weak_ne_zero_of_cell hO hc
  unfold giveUp
  simp only [hc2]
  rw [decWeakFree_err (ob := { ob2 with strong := .cnt 0, value := none, links := none }) true
    (by rw [cell_setObj_same' _ (cell_some_lt _ _ _ hc2)]; simp [freed_of_cell hc2]) hw2]
  exact e1

end State

/-- **no action reports a library error or uses a dangling handle** (it may abort); `fh`/`fw` are
the fields of the value whose destructor is running.  Every handle the program can select designates
a live object, so no action fails; what remains is that the objects reached from live ones are readable. -/
theorem ActOutcome.okErr {s t : State} {fh fw : List Nat} {a : Act} (h : s.Safe)
    (hf : ∀ o ∈ fh, (s.cell o).isSome = true) (hw : ∀ o ∈ fw, (s.cell o).isSome = true)
    (ho : ActOutcome s fh fw a t) : t.okErr := by
  have ok := okErr_of_none h.err
  induction ho with
  | stay | intoRaw | fromRaw | dropRoot | dropRaw | dropWeak | dropValue | new => exact ok
  | fails t e _ _ hc => exact (h.not_refused hw hc).elim
  | ret n _ ih => exact ih
  | gainRoot o ho =>
    rcases ho with ho | ho
    · exact okErr_of_none (h.incStrong_err ho)
    · exact okErr_of_err_eq (s := s.incStrong o) rfl (okErr_incStrong ok (hf o ho))
  | gainRaw o ho => exact okErr_of_none (h.incStrong_err ho)
  | gainWeak o ho =>
    rcases ho with ho | ho | ho
    · exact okErr_of_none (h.incWeak_err (h.cell_of_live ho))
    · exact okErr_of_none (h.incWeak_err (h.weak_cell_of_wroot ho))
    · -- the field may designate a peer that is already destroyed: `inc_weak` then aborts
      exact okErr_of_err_eq (s := s.incWeak o) rfl (okErr_incWeak ok (hf o ho))
  | edit o f ho | storeWeak _ _ o _ ho | store _ _ o _ _ ho => exact okErr_of_none (h.modVal_err ho _ _ _ _)
  | take o k t v ho hv => exact okErr_of_none ((modVal_err (s := s) _ hv).trans h.err)
  | link i t o hi ht ho =>
    -- the adoption leaves `o` live, so its value is still in place
    obtain ⟨v, hv⟩ := State.valOf_of_live (h.core.adopt ho ht false).1 (o := o) (by rw [isLive_adopt]; exact ho)
    exact okErr_of_none (modVal_err_of_valOf (Option.isSome_iff_exists.2 ⟨v, hv⟩) (h.adopt_err ho ht false) _ _ _ _)
  | unlink o k t v ho hv hk ht =>
    refine okErr_of_none ((unadopt_err_eq_none_iff _ _ _ _).mpr ⟨(modVal_err _ hv).trans h.err, ?_, Or.inr ?_⟩)
    · rw [tableOf_modVal]; exact h.tableOf_of_live ho
    · rw [tableOf_modVal]; exact h.tableOf_of_live ht
  | adopt a b same ha hb => exact okErr_of_none (h.adopt_err ha hb same)
  | unadopt a b same ha hb =>
    exact okErr_of_none ((unadopt_err_eq_none_iff _ _ _ _).mpr
      ⟨h.err, h.tableOf_of_live ha, Or.inr (h.tableOf_of_live hb)⟩)
  | unwrap i o ob v hi ho =>
    exact okErr_of_none (giveUp_err_of_live (s := { s with roots := _, vals := _ })
      h.err (InvO_of_heap_eq rfl h.invO) (InvB_of_heap_eq rfl h.invB) ho)
  | cloneOut i o ob v v' sc hi ho hc hv hs hsc =>
    -- a shallow `Clone` copies no handle
    have hval : s.valOf o = some v := (valOf_of_cell hc).trans hv
    refine okErr_of_err_eq (s := sc) rfl ?_
    rcases hsc with ⟨rfl, -⟩ | ⟨rfl, -⟩
    · exact ok
    · exact okErr_cloneHandles ok (fun x hx => isLive_cell_isSome (h.live_of_held hval hx))
        (fun x hx => by obtain ⟨_, hcx, -⟩ := h.weak_cell_of_held hval hx; rw [hcx]; rfl)
  | steal i o ob v hi ho =>
    -- the old allocation is given up to its Weaks
    obtain ⟨hO1, hB1, -⟩ := InvOBK_alloc (s := s)
      (s' := { s.alloc v with roots := (s.alloc v).roots.set i s.heap.length })
      (v := v) h.invO h.invB h.invK rfl (fun _ hm => hm) (fun _ hm => hm) (fun _ => rfl)
    exact okErr_of_none (giveUp_err_of_live h.err hO1 hB1 (isLive_alloc_of_isLive v ho))

theorem applyAct_okErr {s : State} (h : s.Safe) (fh fw : List Nat) (a : Act)
    (hf : ∀ o ∈ fh, (s.cell o).isSome = true) (hw : ∀ o ∈ fw, (s.cell o).isSome = true) :
    (applyAct s fh fw a).okErr :=
  (applyAct_outcome s fh fw a).okErr h hf hw

theorem applyOp_okErr (s : State) (op : Op) (hI : s.Inv) (hR : s.InvR) (hS : s.InvS)
    (he : s.err = none) : (applyOp s op).okErr := by
  have h : s.Safe := ⟨he, hI he, hR, hS he⟩
  cases op with
  | act a => exact applyAct_okErr h [] [] a (fun _ hm => by cases hm) (fun _ hm => by cases hm)
  | setScript q acts =>
    simp only [applyOp, h.useRoot_eq, h.badRoot_eq]
    cases hr : nthMod s.roots q with
    | none => exact okErr_of_none he
    | some o => exact okErr_of_none (h.modVal_err (h.live_of_root hr) _ _ _ _)
  | shuffle q i =>
    simp only [applyOp, h.useRoot_eq, h.badRoot_eq]
    cases hr : nthMod s.roots q with
    | none => exact okErr_of_none he
    | some o =>
      exact okErr_of_none ((setLinks_err_eq_none_iff _ _ _).mpr ⟨he, h.tableOf_of_live (h.live_of_root hr)⟩)

/-! ## `ScriptOK`: a running destructor body sits above the drop glue of its own fields -/

def Frame.isScript : Frame → Bool
  | .script _ _ _ => true
  | _ => false

theorem Frame.not_script_of_data {d : Frame} (h : d.isData = true) : d.isScript = false := by
  cases d <;> first | rfl | cases h

/-- for every `script h w acts` frame, the frames *below* it own a strong handle to every element
of `h` and a Weak handle to every element of `w` (they are the fields of the value being
destroyed; `dropVal v` pushes the body right above `dropFields v.held v.weaks`) -/
def scriptOK : List Frame → Prop
  | [] => True
  | .script h w _ :: rest =>
    (∀ o ∈ h, 0 < State.sumList (rest.map (Frame.strongTo o)))
    ∧ (∀ o ∈ w, 0 < State.sumList (rest.map (Frame.weakTo o)))
    ∧ scriptOK rest
  | _ :: rest => scriptOK rest

def State.ScriptOK (s : State) : Prop := scriptOK s.stack

theorem scriptOK_cons_of_not_script {f : Frame} (hf : f.isScript = false) (rest : List Frame) :
    scriptOK (f :: rest) ↔ scriptOK rest := by
  cases f <;> first | rfl | cases hf

theorem scriptOK_tail {f : Frame} {rest : List Frame} (h : scriptOK (f :: rest)) : scriptOK rest := by
  cases f <;> first | exact h | exact h.2.2

theorem scriptOK_append (fs rest : List Frame) (hfs : ∀ f ∈ fs, f.isScript = false) :
    scriptOK (fs ++ rest) ↔ scriptOK rest := by
  induction fs with
  | nil => rfl
  | cons f fs ih =>
    rw [List.cons_append, scriptOK_cons_of_not_script (hfs f List.mem_cons_self)]
    exact ih (fun g hg => hfs g (List.mem_cons_of_mem _ hg))

theorem scriptOK_of_no_script (l : List Frame) (h : ∀ f ∈ l, f.isScript = false) : scriptOK l := by
  have := (scriptOK_append l [] h).mpr trivial
  rwa [List.append_nil] at this

theorem scriptOK_body (h w : List Nat) (acts : List Act) {mid rest : List Frame}
    (hmid : ∀ f ∈ mid, f.isScript = false) (hr : scriptOK rest) :
    scriptOK ([.script h w acts] ++ mid ++ [.dropFields h w] ++ rest) := by
  have hm : Frame.dropFields h w ∈ mid ++ ([.dropFields h w] ++ rest) :=
    List.mem_append_right _ (List.mem_append_left _ List.mem_cons_self)
  rw [List.append_assoc, List.append_assoc, List.singleton_append]
  exact ⟨fun o ho => (sumList_map_pos_iff _ _).mpr ⟨_, hm, (count_pos_iff_mem _ o).mpr ho⟩,
    fun o ho => (sumList_map_pos_iff _ _).mpr ⟨_, hm, (count_pos_iff_mem _ o).mpr ho⟩,
    (scriptOK_append _ _ hmid).mpr hr⟩

namespace State

/-- `s'` has the stack of `s` with some non-`script` frames pushed on top -/
def Ext (s s' : State) : Prop :=
  ∃ fs : List Frame, s'.stack = fs ++ s.stack ∧ ∀ f ∈ fs, f.isScript = false

theorem Ext.refl (s : State) : s.Ext s := ⟨[], rfl, fun _ h => by cases h⟩

theorem Ext.of_eq {s s' : State} (h : s'.stack = s.stack) : s.Ext s' :=
  ⟨[], h, fun _ h => by cases h⟩

theorem Ext.trans {a b c : State} (h1 : a.Ext b) (h2 : b.Ext c) : a.Ext c := by
  obtain ⟨f1, e1, n1⟩ := h1
  obtain ⟨f2, e2, n2⟩ := h2
  refine ⟨f2 ++ f1, by rw [e2, e1, List.append_assoc], fun f hf => ?_⟩
  rcases List.mem_append.mp hf with hf | hf
  · exact n2 f hf
  · exact n1 f hf

theorem Ext.push {s s' : State} (h : s.Ext s') (fs : List Frame) (hfs : ∀ f ∈ fs, f.isScript = false) :
    s.Ext (s'.push fs) :=
  h.trans ⟨fs, rfl, hfs⟩

theorem Ext.scriptOK {s s' : State} (h : s.Ext s') (hs : s.ScriptOK) : s'.ScriptOK := by
  obtain ⟨fs, e, n⟩ := h
  unfold ScriptOK
  rw [e]
  exact (scriptOK_append fs _ n).mpr hs

/-! ### the library functions only push non-`script` frames -/

theorem not_script_pair {f g : Frame} (hf : f.isScript = false) (hg : g.isScript = false) :
    ∀ x ∈ [f, g], x.isScript = false := by
  intro x hx
  rcases List.mem_cons.mp hx with rfl | hx
  · exact hf
  · rw [List.mem_singleton.mp hx]; exact hg

@[simp] theorem cloneHandles_stack (s : State) (v : Val) : (s.cloneHandles v).stack = s.stack :=
  cloneHandles_invariant (fun s => s.stack) incStrong_stack incWeak_stack s v

theorem phase3One_stack (s : State) (k : Nat) : (phase3One s k).stack = s.stack := by
  rcases phase3One_cases s k with ⟨e, h⟩ | ⟨ob, -, -, h⟩ | h <;> rw [h] <;> simp

theorem foldl_phase3One_stack (l : List Nat) (s : State) : (l.foldl phase3One s).stack = s.stack := by
  induction l generalizing s with
  | nil => rfl
  | cons e l ih => rw [List.foldl_cons, ih, phase3One_stack]

theorem finishSingle_stack (s : State) (o : Nat) : (s.finishSingle o).stack = s.stack := by
  rcases finishSingle_cases s o with ⟨e, h⟩ | ⟨ob, -, h⟩ <;> rw [h] <;> simp

theorem beginSingle_ext (s : State) (o : Nat) : s.Ext (s.beginSingle o) := by
  rcases beginSingle_cases s o with ⟨e, h⟩ | h | ⟨ob, v, -, -, h⟩ <;> rw [h]
  · exact Ext.of_eq (fail_stack _ _)
  · exact Ext.of_eq (decWeakFree_stack_imp _ _ _)
  · exact (Ext.of_eq (s := s) rfl).push _ (not_script_pair rfl rfl)

theorem phase1One_stack (keys : List Nat) (s : State) (e : Nat × Nat) :
    (phase1One keys s e).stack = s.stack := by
  unfold phase1One
  split
  · split
    · rfl
    · exact fail_stack _ _
    · exact fail_stack _ _
  · exact fail_stack _ _

theorem foldl_phase1One_stack (keys : List Nat) (l : CMap) (s : State) :
    (l.foldl (phase1One keys) s).stack = s.stack := by
  induction l generalizing s with
  | nil => rfl
  | cons e l ih => rw [List.foldl_cons, ih, phase1One_stack]

theorem phase2One_stack (acc : State × List Val) (k : Nat) : (phase2One acc k).1.stack = acc.1.stack := by
  unfold phase2One
  split
  · split
    · split
      · rfl
      · exact fail_stack _ _
    · rfl
  · exact fail_stack _ _

theorem foldl_phase2One_stack (l : List Nat) (acc : State × List Val) :
    (l.foldl phase2One acc).1.stack = acc.1.stack := by
  induction l generalizing acc with
  | nil => rfl
  | cons e l ih => rw [List.foldl_cons, ih, phase2One_stack]

theorem dropCycle_ext (s : State) (c : CMap) : s.Ext (s.dropCycle c) := by
  rw [dropCycle_eq_push]
  refine (Ext.of_eq ?_).push _ ?_
  · show (c.keys.foldl phase2One (c.foldl (phase1One c.keys) s, [])).1.stack = s.stack
    rw [foldl_phase2One_stack, foldl_phase1One_stack]
  · intro f hf
    rcases List.mem_append.mp hf with hf | hf
    · obtain ⟨v, _, rfl⟩ := List.mem_map.mp hf
      rfl
    · rw [List.mem_singleton.mp hf]; rfl

theorem traceBranch_ext (s : State) (o : Nat) : s.Ext (s.traceBranch o) := by
  rcases traceBranch_cases s o with ⟨e, h⟩ | h | h <;> rw [h]
  · exact Ext.of_eq (fail_stack _ _)
  · exact Ext.refl s
  · exact dropCycle_ext (s.emit _) _

theorem rcDrop_ext (s : State) (o : Nat) : s.Ext (s.rcDrop o) := by
  rcases rcDrop_cases s o with ⟨e, h⟩ | h | ⟨ob, n, t, -, -, -, h⟩
  · rw [h]; exact Ext.of_eq (fail_stack _ _)
  · rw [h]; exact Ext.refl s
  · rcases h with ⟨-, -, h⟩ | ⟨-, -, h⟩ | ⟨-, -, h⟩ | ⟨-, -, h⟩ <;> rw [h]
    · exact Ext.refl s
    · exact beginSingle_ext (s.setObj o _) o
    · exact (Ext.of_eq (s := s) (purgePeers_stack (s.setObj o _) o)).trans (beginSingle_ext _ o)
    · exact traceBranch_ext (s.setObj o _) o

theorem panic_scriptOK (s : State) (h : s.ScriptOK) : s.panic.ScriptOK := by
  unfold panic
  split
  · exact (Ext.of_eq (fail_stack _ _)).scriptOK h
  · apply scriptOK_of_no_script
    intro g hg
    have hc := (List.mem_filter.mp hg).2
    cases g <;> first | rfl | cases hc

theorem dropVal_scriptOK (s : State) (v : Val) (h : s.ScriptOK) : (s.dropVal v).ScriptOK :=
  scriptOK_body _ _ _ (fun f hf => by
    split at hf
    · rw [List.mem_singleton.mp hf]; rfl
    · cases hf) h

theorem dropFields_ext (s : State) (hh ww : List Nat) : s.Ext (s.dropFields hh ww) := by
  cases hh with
  | cons x xs => exact (Ext.refl s).push _ (not_script_pair rfl rfl)
  | nil =>
    cases ww with
    | cons x xs => exact (Ext.refl s).push _ (not_script_pair rfl rfl)
    | nil => exact Ext.refl s

end State

theorem applyAct_ext (s : State) (fh fw : List Nat) (a : Act) : s.Ext (applyAct s fh fw a) :=
  (applyAct_shape s fh fw a).lift Ext.refl Ext.trans (fun p => Ext.of_eq p.stack_eq)
    (fun t d hd _ => (Ext.refl t).push [d] (fun f hf => by
      rw [List.mem_singleton.mp hf]; exact Frame.not_script_of_data hd))

theorem applyOp_ext (s : State) (op : Op) : s.Ext (applyOp s op) := by
  cases op with
  | act a => exact applyAct_ext s [] [] a
  | setScript q acts => exact Ext.of_eq (by simp only [applyOp]; split <;> simp)
  | shuffle q i => exact Ext.of_eq (by simp only [applyOp]; split <;> simp)

theorem step_scriptOK (s : State) (hF : s.ScriptOK) : (step s).ScriptOK := by
  cases he : s.err with
  | some e => rw [step_of_err he]; exact hF
  | none =>
    cases hst : s.stack with
    | nil => unfold step; simp only [he, hst]; exact hF
    | cons f rest =>
      have hF' : scriptOK (f :: rest) := by unfold State.ScriptOK at hF; rwa [hst] at hF
      have hrest : ({ s with stack := rest } : State).ScriptOK := scriptOK_tail hF'
      rw [step_eq_frame he hst]
      cases f with
      | rcDrop o => exact (rcDrop_ext _ o).scriptOK hrest
      | weakDrop o => exact (Ext.of_eq (decWeakFree_stack_imp _ o false)).scriptOK hrest
      | dropVal v => exact dropVal_scriptOK _ v hrest
      | script hh ww acts =>
        cases acts with
        | nil => exact hrest
        | cons a as =>
          -- the shortened body sits above the same frames
          exact (applyAct_ext _ hh ww a).scriptOK (show scriptOK (.script hh ww as :: rest) from hF')
      | panic => exact panic_scriptOK _ hrest
      | dropFields hh ww => exact (dropFields_ext _ hh ww).scriptOK hrest
      | finishSingle o => exact (Ext.of_eq (finishSingle_stack _ o)).scriptOK hrest
      | phase3 ks => exact (Ext.of_eq (foldl_phase3One_stack ks _)).scriptOK hrest

theorem reachableP_scriptOK {s : State} (h : ReachableP s) : s.ScriptOK := by
  induction h with
  | init => exact trivial
  | @op s o hint _ _ _ ih => exact (applyOp_ext _ o).scriptOK ih
  | step _ _ ih => exact step_scriptOK _ ih
  | @endOp s _ ih =>
    unfold State.ScriptOK; rw [endOp_stack]; exact ih
  | @outOfFuel s _ ih =>
    unfold State.ScriptOK; rw [fail_stack]; exact ih

namespace State

theorem rcDrop_noerr {s : State} (h : s.Safe) {o : Nat} {rest : List Frame}
    (hst : s.stack = .rcDrop o :: rest) : (({ s with stack := rest } : State).rcDrop o).err = none := by
  have hp : 0 < s.pend o := by rw [pend_pop_rcDrop hst o, if_pos rfl]; omega
  obtain ⟨ob, hc, -⟩ := h.cell_of_pend hp
  have hc0 : ({ s with stack := rest } : State).cell o = some ob := hc
  have hg : s.heap[o]? = some ob := get_of_cell hc
  have hlt : o < ({ s with stack := rest } : State).heap.length := get_lt hg
  have hfr := freed_of_cell hc
  cases hs : ob.strong with
  | uninit =>
    unfold rcDrop; simp only [hc0, hs]; exact h.err
  | cnt n =>
    cases n with
    | zero => unfold rcDrop; simp only [hc0, hs]; exact h.err
    | succ n =>
      obtain ⟨hvS, hlS, -, -⟩ := (h.invO o ob hg).1 n hs
      obtain ⟨v, hv⟩ := Option.isSome_iff_exists.1 hvS
      obtain ⟨t, hl⟩ := Option.isSome_iff_exists.1 hlS
      have hlive : s.isLive o = true := (isLive_iff_cell s o).mpr ⟨ob, n, hc, hs⟩
      cases n with
      | zero =>
        have hc1 : (({ s with stack := rest } : State).setObj o { ob with strong := .cnt 0 }).cell o
            = some { ob with strong := .cnt 0 } := by
          rw [cell_setObj_same' _ hlt]; simp [hfr]
        cases hemp : t.isEmpty with
        | true =>
          rw [rcDrop_eq_single_empty _ o ob t hc0 hs hl hemp, beginSingle_of_cnt hc1 rfl hv]
          exact h.err
        | false =>
          rw [rcDrop_eq_single_purge _ o ob t hc0 hs hl hemp]
          have hT : ∀ p, (({ s with stack := rest } : State).setObj o { ob with strong := .cnt 0 }).tableOf p
              = s.tableOf p := fun p =>
            tableOf_setObj_of_links_eq (s := ({ s with stack := rest } : State))
              (ob' := { ob with strong := .cnt 0 }) hg rfl rfl p
          obtain ⟨e1, ob2, hc2, q1, -, q3⟩ := purgePeers_cell h.invO h.invB hlive hT
            (show (({ s with stack := rest } : State).setObj o { ob with strong := .cnt 0 }).err = none from h.err)
            hc1
          rw [beginSingle_of_cnt hc2 q1 (q3.trans hv)]
          exact e1
      | succ n =>
        cases hemp : t.isEmpty with
        | true =>
          rw [rcDrop_eq_dec_empty _ o ob n t hc0 hs hl hemp]
          exact h.err
        | false =>
          rw [State.rcDrop_eq_traceBranch _ o ob n t hc0 hs hl hemp]
          obtain ⟨he1, hI1, hl1⟩ :=
            rcDrop_trace_state hst h.err (fun _ => h.core) hc hs (Nat.succ_ne_zero n)
          exact traceBranch_noerr _ o he1 hI1.1 hI1.2.1 hl1

theorem weakDrop_noerr {s : State} (h : s.Safe) {o : Nat} {rest : List Frame}
    (hst : s.stack = .weakDrop o :: rest) : (({ s with stack := rest } : State).weakDrop o).err = none := by
  have hp : 0 < s.pendW o := by
    rw [pendW_of_stack_cons hst o, Frame.weakTo_weakDrop, if_pos rfl]; omega
  obtain ⟨ob, hc, hw⟩ := h.weak_cell (o := o) (by omega)
  exact (decWeakFree_err (s := { s with stack := rest }) false hc hw).trans h.err

theorem finishSingle_noerr {s : State} (h : s.Safe) {o : Nat} {rest : List Frame}
    (hst : s.stack = .finishSingle o :: rest) :
    (({ s with stack := rest } : State).finishSingle o).err = none := by
  obtain ⟨ob, hg, -, hl, himp⟩ := h.invK.1 o (by rw [hst]; exact List.mem_cons_self)
  have hc : s.cell o = some ob := cell_of_implicit h.invO h.invW hg himp
  have hc0 : ({ s with stack := rest } : State).cell o = some ob := hc
  have hlt : o < ({ s with stack := rest } : State).heap.length := get_lt hg
  have hw := weak_ne_zero_of_cell h.invO hc
  unfold finishSingle
  simp only [hc0, hl]
  rw [decWeakFree_err (ob := { ob with links := none }) true
    (by rw [cell_setObj_same' _ hlt]; simp [freed_of_cell hc]) hw]
  exact h.err

theorem phase3_noerr {s : State} (h : s.Safe) {ks : List Nat} {rest : List Frame}
    (hst : s.stack = .phase3 ks :: rest) :
    (ks.foldl phase3One ({ s with stack := rest } : State)).err = none := by
  have h0 : ({ s with stack := rest } : State).InvCore := pop_InvCore hst (by simp) (by simp) h.core
  rw [(InvCore_phase3_fold ks _ h0 (fun k hk => ?_) (fun k => ?_)).2]
  · exact h.err
  · exact h.invK.2.1 ks (by rw [hst]; exact List.mem_cons_self) k hk
  · have h1 := h.invK.2.2 k
    rw [owed_of_stack_cons hst k, Frame.owes_phase3] at h1
    exact h1

/-- the state in which a destructor body runs its next action -/
theorem script_push_safe {s : State} (h : s.Safe) {hh ww : List Nat} {acts acts' : List Act}
    {rest : List Frame} (hst : s.stack = .script hh ww acts :: rest) :
    (({ s with stack := rest } : State).push [.script hh ww acts']).Safe where
  err := h.err
  core := script_push_invCore hst h.core
  rng := script_push_invR hst h.rng
  safe := by
    refine h.safe.of_live_eq (fun _ => rfl) (fun o _ h0 => h0) ?_ (fun o hw => hw) ?_
    · intro o _ _
      rw [pend_push, pend_of_stack_cons hst o]; simp
    · intro o
      have h3 := h.safe.2.2 o
      rw [hst] at h3
      simpa using h3

/-- the fields of the value being destroyed are readable while its destructor body runs: the drop
glue below the body still owns them -/
theorem Safe.script_fields {s : State} (h : s.Safe) {hh ww : List Nat} {acts : List Act} {rest : List Frame}
    (hst : s.stack = .script hh ww acts :: rest) (hF : s.ScriptOK) :
    (∀ o ∈ hh, (s.cell o).isSome = true) ∧ (∀ o ∈ ww, (s.cell o).isSome = true) := by
  have hF' : scriptOK (.script hh ww acts :: rest) := by unfold State.ScriptOK at hF; rwa [hst] at hF
  refine ⟨fun o ho => ?_, fun o ho => ?_⟩
  · have hp : 0 < s.pend o := by
      rw [pend_of_stack_cons hst o]
      exact Nat.lt_of_lt_of_le (hF'.1 o ho) (Nat.le_add_left _ _)
    obtain ⟨ob, hc, -⟩ := h.cell_of_pend hp
    rw [hc]; rfl
  · have hp : 0 < s.pendW o := by
      rw [pendW_of_stack_cons hst o]
      exact Nat.lt_of_lt_of_le (hF'.2.1 o ho) (Nat.le_add_left _ _)
    obtain ⟨ob, hc, -⟩ := h.weak_cell (o := o) (by omega)
    rw [hc]; rfl

end State

theorem step_okErr (s : State) (hI : s.Inv) (hR : s.InvR) (hS : s.InvS) (_hP : s.P)
    (hF : s.ScriptOK) (he : s.err = none) : (step s).okErr := by
  have h : s.Safe := ⟨he, hI he, hR, hS he⟩
  cases hst : s.stack with
  | nil => unfold step; simp only [he, hst]; exact okErr_of_none he
  | cons f rest =>
    rw [step_eq_frame he hst]
    cases f with
    | rcDrop o => exact okErr_of_none (rcDrop_noerr h hst)
    | weakDrop o => exact okErr_of_none (weakDrop_noerr h hst)
    | dropVal v => exact okErr_of_none he
    | script hh ww acts =>
      cases acts with
      | nil => exact okErr_of_none he
      | cons a as =>
        obtain ⟨hf, hw⟩ := h.script_fields hst hF
        exact applyAct_okErr (script_push_safe h hst) hh ww a hf hw
    | panic =>
      -- a second panic while unwinding aborts
      show ({ s with stack := rest } : State).panic.okErr
      unfold State.panic
      split
      · exact okErr_fail_abort (okErr_of_none he)
      · exact okErr_of_none he
    | dropFields hh ww => cases hh <;> cases ww <;> exact okErr_of_none he
    | finishSingle o => exact okErr_of_none (finishSingle_noerr h hst)
    | phase3 ks => exact okErr_of_none (phase3_noerr h hst)

/-- **in a contract-respecting execution the machine never reports a library error and the
program never uses a dangling handle**: the only possible errors are `fuel` and `abort` -/
theorem reachableP_okErr {s : State} (h : ReachableP s) : s.okErr := by
  induction h with
  | init => exact Or.inl rfl
  | @op s o hint hr hq _ ih =>
    cases he : s.err with
    | none =>
      have he0 : (s.begin hint).err = none := he
      have hI : (s.begin hint).Inv := begin_inv s hint (reachable_Inv hr.reachable)
      have hRr : (s.begin hint).InvR := begin_invR s hint (reachable_InvR hr.reachable he)
      have hS : (s.begin hint).InvS := begin_invS s hint (reachableP_invS hr)
      exact applyOp_okErr _ o hI hRr hS he0
    | some e =>
      have he0 : (s.begin hint).err = some e := he
      exact okErr_of_err_eq (s := s) ((applyOp_err_of_some _ o he0).trans he.symm) ih
  | @step s hr _ ih =>
    cases he : s.err with
    | none =>
      exact step_okErr s (reachable_Inv hr.reachable) (reachable_InvR hr.reachable he)
        (reachableP_invS hr) (reachableP_P hr) (reachableP_scriptOK hr) he
    | some e => rw [step_of_err he]; exact ih
  | @endOp s _ ih => exact okErr_of_err_eq (endOp_err s) ih
  | @outOfFuel s _ ih => exact okErr_fail_fuel ih

theorem reachableP_no_library_error {s : State} (h : ReachableP s) (o : Nat) :
    s.err ≠ some (.uaf o) ∧ s.err ≠ some (.movedLinks o) ∧ s.err ≠ some (.movedValue o)
    ∧ s.err ≠ some (.doubleFree o) ∧ s.err ≠ some (.underflow o) ∧ s.err ≠ some (.corrupt o)
    ∧ s.err ≠ some (.dangling o) := by
  rcases reachableP_okErr h with he | he | he <;> rw [he] <;> simp

end Cactus
