import Cactus.Lemmas.Inv.Transfer
/-!
# Specification of the purge loop `State.purgePeers`

`s.purgePeers x` folds `purgeOne x` over `x`'s own table and then clears that table.  The effect on
the table of a peer `p ≠ x` is the pure function `Table.purgeBy x p · t`; all fields of all objects
other than `links`, and all non-heap fields of the state, are untouched (`State.LinksOnly`).
`purge_kill` puts this together with the invariants: after the purge of a live object nothing
refers to it any more, so it may die.
-/
namespace Cactus

/-! ## the pure effect on one peer table -/

namespace Table

/-- effect of the purge loop of `x` over the entries `l` on the table `tp` of the peer `p` -/
def purgeBy (x p : Nat) (tp : Table) (l : List (Link × Nat)) : Table :=
  l.foldl (fun tp e => if e.1.ptr = p then (tp.remove ⟨x, .fwd⟩ e.2).remove ⟨x, .bwd⟩ e.2 else tp) tp

/-- total amount removed from `p`'s `⟨x,.fwd⟩` and `⟨x,.bwd⟩` counts -/
def purgeAmt (p : Nat) (l : List (Link × Nat)) : Nat :=
  State.sumList (l.map (fun e => if e.1.ptr = p then e.2 else 0))

@[simp] theorem purgeBy_nil (x p : Nat) (tp : Table) : purgeBy x p tp [] = tp := rfl

theorem purgeBy_cons (x p : Nat) (tp : Table) (e : Link × Nat) (l : List (Link × Nat)) :
    purgeBy x p tp (e :: l) =
      purgeBy x p (if e.1.ptr = p then (tp.remove ⟨x, .fwd⟩ e.2).remove ⟨x, .bwd⟩ e.2 else tp) l := rfl

@[simp] theorem purgeAmt_nil (p : Nat) : purgeAmt p [] = 0 := rfl

theorem purgeAmt_cons (p : Nat) (e : Link × Nat) (l : List (Link × Nat)) :
    purgeAmt p (e :: l) = (if e.1.ptr = p then e.2 else 0) + purgeAmt p l := rfl

theorem le_purgeAmt {p : Nat} {k : Kind} {c : Nat} {l : List (Link × Nat)} (h : (⟨p, k⟩, c) ∈ l) :
    c ≤ purgeAmt p l := by
  have := State.le_sumList_map_of_mem (fun e : Link × Nat => if e.1.ptr = p then e.2 else 0) h
  simpa [purgeAmt] using this

theorem WF_purgeBy (x p : Nat) (l : List (Link × Nat)) (tp : Table) (hw : tp.WF) :
    (purgeBy x p tp l).WF := by
  induction l generalizing tp with
  | nil => exact hw
  | cons e l ih =>
    rw [purgeBy_cons]
    apply ih
    split
    · exact WF_remove _ (WF_remove _ hw _ _) _ _
    · exact hw

theorem get_purgeBy_other (x p : Nat) (l : List (Link × Nat)) (tp : Table) (hw : tp.WF) (k : Link)
    (h1 : k ≠ ⟨x, .fwd⟩) (h2 : k ≠ ⟨x, .bwd⟩) : (purgeBy x p tp l).get k = tp.get k := by
  induction l generalizing tp with
  | nil => rfl
  | cons e l ih =>
    rw [purgeBy_cons]
    split
    · rw [ih _ (WF_remove _ (WF_remove _ hw _ _) _ _),
        get_remove _ (WF_remove _ hw _ _), if_neg h2, get_remove _ hw, if_neg h1]
    · exact ih _ hw

theorem get_purgeBy_self (x p : Nat) {k : Kind} (hk : k = .fwd ∨ k = .bwd) (l : List (Link × Nat))
    (tp : Table) (hw : tp.WF) :
    (purgeBy x p tp l).get ⟨x, k⟩ = tp.get ⟨x, k⟩ - purgeAmt p l := by
  induction l generalizing tp with
  | nil => simp
  | cons e l ih =>
    rw [purgeBy_cons, purgeAmt_cons]
    split
    · rw [ih _ (WF_remove _ (WF_remove _ hw _ _) _ _), get_remove _ (WF_remove _ hw _ _)]
      simp only [get_remove _ hw]
      rcases hk with rfl | rfl <;> simp <;> omega
    · rw [ih _ hw]; omega

theorem mem_purgeBy (x p : Nat) (l : List (Link × Nat)) (tp : Table) (k : Link) (c : Nat)
    (h : (k, c) ∈ purgeBy x p tp l) : ∃ c', (k, c') ∈ tp := by
  induction l generalizing tp c with
  | nil => exact ⟨c, h⟩
  | cons e l ih =>
    rw [purgeBy_cons] at h
    obtain ⟨c1, h1⟩ := ih _ _ h
    split at h1
    · obtain ⟨c2, h2⟩ := mem_remove _ _ _ _ _ h1
      exact mem_remove _ _ _ _ _ h2
    · exact ⟨c1, h1⟩

theorem purgeBy_of_not_named (x p : Nat) (l : List (Link × Nat)) (tp : Table)
    (h : ∀ e ∈ l, e.1.ptr ≠ p) : purgeBy x p tp l = tp := by
  induction l generalizing tp with
  | nil => rfl
  | cons e l ih =>
    rw [purgeBy_cons, if_neg (h e (by simp))]
    exact ih _ (fun e' he' => h e' (by simp [he']))

end Table

/-! ## states that differ in link tables only -/

/-- `ob'` is `ob` up to the content of a present, not released link table -/
def Obj.EqButLinks (ob ob' : Obj) : Prop :=
  ob'.strong = ob.strong ∧ ob'.weak = ob.weak ∧ ob'.value = ob.value ∧ ob'.freed = ob.freed
    ∧ ob'.implicit = ob.implicit ∧ ob'.links.isSome = ob.links.isSome
    ∧ (ob.freed = true → ob'.links = ob.links)

theorem Obj.EqButLinks.sim {ob ob' : Obj} (h : ob.EqButLinks ob')
    (hnil : ob.links = some [] → ob'.links = some []) : ob.Sim ob' :=
  ⟨.inl h.1, by rw [h.2.1], h.2.2.2.1, h.2.2.2.2.1, by rw [h.2.2.1], h.2.2.2.2.2.1, fun _ => hnil⟩

namespace State

/-- `s'` is `s` up to the contents of readable link tables (and the error field) -/
structure LinksOnly (s s' : State) : Prop where
  heap_length : s'.heap.length = s.heap.length
  obj : ∀ (o : Nat) (ob : Obj), s.heap[o]? = some ob → ∃ ob' : Obj, s'.heap[o]? = some ob' ∧ ob.EqButLinks ob'
  roots : s'.roots = s.roots
  wroots : s'.wroots = s.wroots
  vals : s'.vals = s.vals
  raws : s'.raws = s.raws
  stack : s'.stack = s.stack
  log : s'.log = s.log
  unwinding : s'.unwinding = s.unwinding
  hint : s'.hint = s.hint
  nextVid : s'.nextVid = s.nextVid

/-- the relation in terms of `HeapRel`, whose lemmas build it -/
theorem LinksOnly.of_heapRel {s s' : State} (h : HeapRel Obj.SameButLinks s s') (hl : s'.log = s.log) :
    s.LinksOnly s' := by
  refine ⟨h.heap_length, fun o ob ho => ?_, h.roots, h.wroots, h.vals, h.raws, h.stack, hl, h.unwinding,
    h.hint, h.nextVid⟩
  rcases h.obj o with e | ⟨a, b, ea, eb, r⟩
  · exact ⟨ob, e.trans ho, rfl, rfl, rfl, rfl, rfl, rfl, fun _ => rfl⟩
  · cases ea.symm.trans ho
    exact ⟨b, eb, r.strong, r.weak, r.value, r.freed, r.implicit, r.links_isSome, r.links_of_freed⟩

/-! ## the fold -/

@[simp] theorem foldl_purgeOne_nil (x : Nat) (u : State) : ([] : List (Link × Nat)).foldl (purgeOne x) u = u := rfl

theorem foldl_purgeOne_cons (x : Nat) (u : State) (e : Link × Nat) (l : List (Link × Nat)) :
    (e :: l).foldl (purgeOne x) u = l.foldl (purgeOne x) (purgeOne x u e) := rfl

theorem tableOf_purgeOne (x : Nat) (u : State) (e : Link × Nat) (p : Nat) (hp : p ≠ x) :
    (purgeOne x u e).tableOf p =
      (u.tableOf p).map (fun tp => if e.1.ptr = p then (tp.remove ⟨x, .fwd⟩ e.2).remove ⟨x, .bwd⟩ e.2 else tp) := by
  unfold purgeOne
  split
  · next h =>
    have : ¬ e.1.ptr = p := fun h' => hp (h'.symm.trans h)
    simp [this]
  · rw [tableOf_setLinks]
    by_cases h : p = e.1.ptr
    · subst h; simp
    · have h' : ¬ e.1.ptr = p := fun e => h e.symm
      simp [h, h']

theorem tableOf_purgeOne_self (x : Nat) (u : State) (e : Link × Nat) :
    (purgeOne x u e).tableOf x = u.tableOf x := by
  unfold purgeOne
  split
  · rfl
  · next h => rw [tableOf_setLinks, if_neg (fun h' => h h'.symm)]

theorem tableOf_foldl_purgeOne (x p : Nat) (hp : p ≠ x) (l : List (Link × Nat)) (u : State) :
    (l.foldl (purgeOne x) u).tableOf p = (u.tableOf p).map (fun tp => Table.purgeBy x p tp l) := by
  induction l generalizing u with
  | nil => simp
  | cons e l ih =>
    rw [foldl_purgeOne_cons, ih, tableOf_purgeOne x u e p hp]
    cases u.tableOf p <;> simp [Table.purgeBy_cons]

theorem tableOf_foldl_purgeOne_self (x : Nat) (l : List (Link × Nat)) (u : State) :
    (l.foldl (purgeOne x) u).tableOf x = u.tableOf x := by
  induction l generalizing u with
  | nil => rfl
  | cons e l ih => rw [foldl_purgeOne_cons, ih, tableOf_purgeOne_self]

theorem tableOf_purgeOne_isSome (x : Nat) (u : State) (e : Link × Nat) (p : Nat) :
    ((purgeOne x u e).tableOf p).isSome = (u.tableOf p).isSome := by
  unfold purgeOne; split <;> simp

theorem err_foldl_purgeOne (x : Nat) (l : List (Link × Nat)) (u : State) (he : u.err = none)
    (hr : ∀ e ∈ l, e.1.ptr ≠ x → (u.tableOf e.1.ptr).isSome = true) :
    (l.foldl (purgeOne x) u).err = none := by
  induction l generalizing u with
  | nil => exact he
  | cons e l ih =>
    rw [foldl_purgeOne_cons]
    apply ih
    · unfold purgeOne
      split
      · exact he
      · next h => rw [setLinks_err_eq_none_iff]; exact ⟨he, hr e (by simp) h⟩
    · intro e' he' hx
      rw [tableOf_purgeOne_isSome]
      exact hr e' (by simp [he']) hx

theorem purgePeers_rel {R : State → State → Prop} (hr : ∀ s, R s s)
    (ht : ∀ {s t u}, R s t → R t u → R s u) (hl : ∀ s o f, f [] = [] → R s (s.setLinks o f))
    (hf : ∀ s e, e ≠ .fuel → R s (s.fail e)) (s : State) (x : Nat) : R s (s.purgePeers x) := by
  unfold purgePeers
  split
  · refine ht (foldl_lift hr ht (fun u e => ?_) _ s) (hl _ _ _ rfl)
    unfold purgeOne; split
    · exact hr u
    · exact hl _ _ _ rfl
  · exact hf s _ (linksErr_ne_fuel s x)

theorem purgePeers_invariant {α : Sort _} (g : State → α) (hg : ∀ s o f, g (s.setLinks o f) = g s)
    (hf : ∀ s e, g (s.fail e) = g s) (s : State) (x : Nat) : g (s.purgePeers x) = g s :=
  purgePeers_rel (R := fun s s' => g s' = g s) (fun _ => rfl) (fun h1 h2 => h2.trans h1)
    (fun s o f _ => hg s o f) (fun s e _ => hf s e) s x

theorem HeapRel.purgePeers (s : State) (x : Nat) : HeapRel Obj.SameButLinks s (s.purgePeers x) :=
  purgePeers_rel (R := HeapRel Obj.SameButLinks) HeapRel.refl (fun h h' => h.trans h' Obj.SameButLinks.trans)
    (fun s o f _ => .setLinks s o f) (fun s e _ => .fail s e) s x

theorem LinksOnly.purgePeers (s : State) (x : Nat) : s.LinksOnly (s.purgePeers x) :=
  .of_heapRel (HeapRel.purgePeers s x) (purgePeers_invariant (fun s => s.log) setLinks_log fail_log s x)

/-! ### corollaries: the counting functions are unchanged, unconditionally -/

@[simp] theorem purgePeers_heap_length (s : State) (x : Nat) : (s.purgePeers x).heap.length = s.heap.length :=
  (LinksOnly.purgePeers s x).heap_length
@[simp] theorem purgePeers_roots (s : State) (x : Nat) : (s.purgePeers x).roots = s.roots :=
  (LinksOnly.purgePeers s x).roots
@[simp] theorem purgePeers_wroots (s : State) (x : Nat) : (s.purgePeers x).wroots = s.wroots :=
  (LinksOnly.purgePeers s x).wroots
@[simp] theorem purgePeers_vals (s : State) (x : Nat) : (s.purgePeers x).vals = s.vals :=
  (LinksOnly.purgePeers s x).vals
@[simp] theorem purgePeers_raws (s : State) (x : Nat) : (s.purgePeers x).raws = s.raws :=
  (LinksOnly.purgePeers s x).raws
@[simp] theorem purgePeers_stack (s : State) (x : Nat) : (s.purgePeers x).stack = s.stack :=
  (LinksOnly.purgePeers s x).stack
@[simp] theorem purgePeers_log (s : State) (x : Nat) : (s.purgePeers x).log = s.log :=
  (LinksOnly.purgePeers s x).log
@[simp] theorem purgePeers_unwinding (s : State) (x : Nat) : (s.purgePeers x).unwinding = s.unwinding :=
  (LinksOnly.purgePeers s x).unwinding
@[simp] theorem purgePeers_hint (s : State) (x : Nat) : (s.purgePeers x).hint = s.hint :=
  (LinksOnly.purgePeers s x).hint
@[simp] theorem purgePeers_nextVid (s : State) (x : Nat) : (s.purgePeers x).nextVid = s.nextVid :=
  (LinksOnly.purgePeers s x).nextVid

@[simp] theorem ext_purgePeers (s : State) (x o : Nat) : (s.purgePeers x).ext o = s.ext o :=
  (HeapRel.purgePeers s x).ext o
@[simp] theorem extW_purgePeers (s : State) (x o : Nat) : (s.purgePeers x).extW o = s.extW o :=
  (HeapRel.purgePeers s x).extW o
@[simp] theorem pend_purgePeers (s : State) (x o : Nat) : (s.purgePeers x).pend o = s.pend o :=
  (HeapRel.purgePeers s x).pend o
@[simp] theorem pendW_purgePeers (s : State) (x o : Nat) : (s.purgePeers x).pendW o = s.pendW o :=
  (HeapRel.purgePeers s x).pendW o
@[simp] theorem owed_purgePeers (s : State) (x o : Nat) : (s.purgePeers x).owed o = s.owed o :=
  (HeapRel.purgePeers s x).owed o
@[simp] theorem inHeap_purgePeers (s : State) (x o : Nat) : (s.purgePeers x).inHeap o = s.inHeap o :=
  (HeapRel.purgePeers s x).inHeap (·.value) o
@[simp] theorem inHeapW_purgePeers (s : State) (x o : Nat) : (s.purgePeers x).inHeapW o = s.inHeapW o :=
  (HeapRel.purgePeers s x).inHeapW (·.value) o
@[simp] theorem strongNat_purgePeers (s : State) (x o : Nat) : (s.purgePeers x).strongNat o = s.strongNat o :=
  (HeapRel.purgePeers s x).strongNat (·.strong) o
@[simp] theorem strongOf_purgePeers (s : State) (x o : Nat) : (s.purgePeers x).strongOf o = s.strongOf o :=
  (HeapRel.purgePeers s x).strongOf (·.strong) o
@[simp] theorem weakNat_purgePeers (s : State) (x o : Nat) : (s.purgePeers x).weakNat o = s.weakNat o :=
  (HeapRel.purgePeers s x).weakNat (·.weak) o
@[simp] theorem implicitNat_purgePeers (s : State) (x o : Nat) : (s.purgePeers x).implicitNat o = s.implicitNat o :=
  (HeapRel.purgePeers s x).implicitNat (·.implicit) o
@[simp] theorem isLive_purgePeers (s : State) (x o : Nat) : (s.purgePeers x).isLive o = s.isLive o :=
  (HeapRel.purgePeers s x).isLive (·.freed) (fun r => congrArg Strong.isDead r.strong) o
@[simp] theorem heldOf_purgePeers (s : State) (x o : Nat) : (s.purgePeers x).heldOf o = s.heldOf o :=
  (HeapRel.purgePeers s x).heldOf (·.value) o
@[simp] theorem weaksOf_purgePeers (s : State) (x o : Nat) : (s.purgePeers x).weaksOf o = s.weaksOf o :=
  (HeapRel.purgePeers s x).weaksOf (·.value) o
@[simp] theorem H_purgePeers (s : State) (x a b : Nat) : (s.purgePeers x).H a b = s.H a b :=
  (HeapRel.purgePeers s x).H (·.value) a b
@[simp] theorem cell_purgePeers_isSome (s : State) (x o : Nat) :
    ((s.purgePeers x).cell o).isSome = (s.cell o).isSome :=
  (HeapRel.purgePeers s x).cell_isSome (·.freed) o
@[simp] theorem tableOf_purgePeers_isSome (s : State) (x o : Nat) :
    ((s.purgePeers x).tableOf o).isSome = (s.tableOf o).isSome :=
  (HeapRel.purgePeers s x).tableOf_isSome (·.freed) (·.links_isSome) o

theorem purgePeers_err_of_some (s : State) (x : Nat) (e0 : Err) (h : s.err = some e0) :
    (s.purgePeers x).err = some e0 :=
  purgePeers_rel (R := fun s s' => s.err = some e0 → s'.err = some e0) (fun _ h => h)
    (fun h1 h2 h => h2 (h1 h)) (fun s _ _ _ h => setLinks_err_of_some' _ _ h)
    (fun s e _ h => fail_err_of_some s e e0 h) s x h

theorem purgePeers_err_none (s : State) (x : Nat) (h : (s.purgePeers x).err = none) : s.err = none := by
  cases he : s.err with
  | none => rfl
  | some e0 => rw [purgePeers_err_of_some s x e0 he] at h; cases h

theorem purgePeers_of_nil {s : State} {x : Nat} (h : s.tableOf x = some []) : s.purgePeers x = s := by
  obtain ⟨ob, hc, hl, he⟩ := setLinks_of_tableOf (fun _ => ([] : Table)) h
  unfold purgePeers
  simp only [h, List.foldl_nil]
  rw [he]
  have : ({ ob with links := some ([] : Table) } : Obj) = ob := by
    rw [← hl]
  rw [this]
  exact setObj_self (get_of_cell hc)

/-! ## the specification -/

theorem purgePeers_spec {s : State} {x : Nat} {t : Table}
    (herr : s.err = none)
    (ht : s.tableOf x = some t)
    (hwf : ∀ p tp, s.tableOf p = some tp → tp.WF)
    (hread : ∀ e ∈ t, e.1.ptr ≠ x → ∃ tp, s.tableOf e.1.ptr = some tp)
    (hsym : ∀ p tp, p ≠ x → s.tableOf p = some tp →
      tp.get ⟨x, .fwd⟩ = t.get ⟨p, .bwd⟩ ∧ tp.get ⟨x, .bwd⟩ = t.get ⟨p, .fwd⟩) :
    (s.purgePeers x).err = none
    ∧ (s.purgePeers x).tableOf x = some []
    ∧ (∀ p, p ≠ x →
        ((s.purgePeers x).tableOf p = none ↔ s.tableOf p = none)
        ∧ ∀ tp, s.tableOf p = some tp →
            ∃ tp', (s.purgePeers x).tableOf p = some tp' ∧ tp'.WF
              ∧ tp'.get ⟨x, .fwd⟩ = 0 ∧ tp'.get ⟨x, .bwd⟩ = 0
              ∧ (∀ l : Link, l ≠ ⟨x, .fwd⟩ → l ≠ ⟨x, .bwd⟩ → tp'.get l = tp.get l)
              ∧ (∀ e ∈ tp', ∃ c, (e.1, c) ∈ tp))
    ∧ s.LinksOnly (s.purgePeers x) := by
  have hdef : s.purgePeers x = (t.foldl (purgeOne x) s).setLinks x (fun _ => []) := by
    unfold purgePeers; simp only [ht]
  have hfx : (t.foldl (purgeOne x) s).tableOf x = some t := by
    rw [tableOf_foldl_purgeOne_self, ht]
  have hferr : (t.foldl (purgeOne x) s).err = none := by
    apply err_foldl_purgeOne x t s herr
    intro e he hx
    obtain ⟨tp, htp⟩ := hread e he hx
    simp [htp]
  have htwf : t.WF := hwf x t ht
  refine ⟨?_, ?_, ?_, LinksOnly.purgePeers s x⟩
  · rw [hdef, setLinks_err_of_tableOf _ hfx]; exact hferr
  · rw [hdef, tableOf_setLinks_same _ _ _ _ hfx]
  · intro p hp
    have htab : (s.purgePeers x).tableOf p = (s.tableOf p).map (fun tp => Table.purgeBy x p tp t) := by
      rw [hdef, tableOf_setLinks, if_neg hp, tableOf_foldl_purgeOne x p hp]
    refine ⟨by rw [htab]; simp, ?_⟩
    intro tp htp
    have hw := hwf p tp htp
    obtain ⟨hs1, hs2⟩ := hsym p tp hp htp
    have hz : ∀ {k k' : Kind}, k = .fwd ∨ k = .bwd → tp.get ⟨x, k⟩ = t.get ⟨p, k'⟩ →
        (Table.purgeBy x p tp t).get ⟨x, k⟩ = 0 := by
      intro k k' hk hs
      rw [Table.get_purgeBy_self x p hk t tp hw, hs]
      by_cases h0 : t.get ⟨p, k'⟩ = 0
      · omega
      · obtain ⟨c, hc⟩ := (Table.mem_keys_iff_get_pos t htwf ⟨p, k'⟩).2 (by omega)
        have := Table.mem_get t htwf _ _ hc
        have := Table.le_purgeAmt hc
        omega
    refine ⟨Table.purgeBy x p tp t, by rw [htab, htp]; rfl, Table.WF_purgeBy x p t tp hw,
      hz (.inl rfl) hs1, hz (.inr rfl) hs2,
      fun l h1 h2 => Table.get_purgeBy_other x p t tp hw l h1 h2, ?_⟩
    · intro e he
      exact Table.mem_purgeBy x p t tp e.1 e.2 he

/-! ## the hypotheses of `purgePeers_spec` from the invariants -/

/-- Let `x` be live in a state `s` with `InvO`, `InvB`, and let `s1` have the same readable tables
(e.g. `s` with the strong count of `x` changed, and any stack).  Then the hypotheses of
`purgePeers_spec` hold for `s1`. -/
theorem purgePeers_hyps_of_InvB {s s1 : State} {x : Nat} {t : Table} (hO : s.InvO) (hB : s.InvB)
    (hx : s.isLive x = true) (hT : ∀ p, s1.tableOf p = s.tableOf p) (ht : s.tableOf x = some t) :
    s1.tableOf x = some t
    ∧ (∀ p tp, s1.tableOf p = some tp → tp.WF)
    ∧ (∀ e ∈ t, e.1.ptr ≠ x → ∃ tp, s1.tableOf e.1.ptr = some tp)
    ∧ (∀ p tp, p ≠ x → s1.tableOf p = some tp →
        tp.get ⟨x, .fwd⟩ = t.get ⟨p, .bwd⟩ ∧ tp.get ⟨x, .bwd⟩ = t.get ⟨p, .fwd⟩) := by
  refine ⟨by rw [hT, ht], ?_, ?_, ?_⟩
  · intro p tp h; rw [hT] at h; exact (hB.1 p tp h).1
  · intro e he hne
    have hk : e.1.kind ≠ .loop := fun hk => hne (((hB.1 x t ht).2 e he).1 hk)
    have hl := ((hB.1 x t ht).2 e he).2 hk
    obtain ⟨tp, htp⟩ := live_tableOf hO hl
    exact ⟨tp, by rw [hT, htp]⟩
  · intro p tp hp htp
    rw [hT] at htp
    by_cases hl : s.isLive p = true
    · have h1 := hB.2 p x hl hx
      have h2 := hB.2 x p hx hl
      rw [F_of_tableOf htp, B_of_tableOf ht] at h1
      rw [F_of_tableOf ht, B_of_tableOf htp] at h2
      exact ⟨h1, h2.symm⟩
    · have hl' : s.isLive p = false := by simpa using hl
      have hnil := tableOf_eq_nil_of_not_live hO htp hl'
      subst hnil
      -- the table of `x` has no entry for the dead `p`
      have hz : ∀ k : Kind, k ≠ .loop → 0 = t.get ⟨p, k⟩ := fun k hk =>
        (Table.get_eq_zero_of_not_mem t _ fun c hc => by
          have := ((hB.1 x t ht).2 _ hc).2 hk
          rw [hl'] at this; cases this).symm
      exact ⟨hz .bwd (by simp), hz .fwd (by simp)⟩

theorem purgePeers_of_InvB {s s1 : State} {x : Nat} {t : Table} (hO : s.InvO) (hB : s.InvB)
    (hx : s.isLive x = true) (hT : ∀ p, s1.tableOf p = s.tableOf p) (ht : s.tableOf x = some t)
    (herr : s1.err = none) :
    (s1.purgePeers x).err = none
    ∧ (s1.purgePeers x).tableOf x = some []
    ∧ (∀ p, p ≠ x →
        ((s1.purgePeers x).tableOf p = none ↔ s.tableOf p = none)
        ∧ ∀ tp, s.tableOf p = some tp →
            ∃ tp', (s1.purgePeers x).tableOf p = some tp' ∧ tp'.WF
              ∧ tp'.get ⟨x, .fwd⟩ = 0 ∧ tp'.get ⟨x, .bwd⟩ = 0
              ∧ (∀ l : Link, l ≠ ⟨x, .fwd⟩ → l ≠ ⟨x, .bwd⟩ → tp'.get l = tp.get l)
              ∧ (∀ e ∈ tp', ∃ c, (e.1, c) ∈ tp))
    ∧ s1.LinksOnly (s1.purgePeers x) := by
  obtain ⟨h1, h2, h3, h4⟩ := purgePeers_hyps_of_InvB hO hB hx hT ht
  obtain ⟨c1, c2, c3, c5⟩ := purgePeers_spec herr h1 h2 h3 h4
  refine ⟨c1, c2, ?_, c5⟩
  intro p hp
  have := c3 p hp
  rw [hT p] at this
  exact this

/-! ## purge, then death -/

/-- The purge of the live object `o`, followed by its replacement by a dead object `ob3`.  The
state `s` satisfies `InvO` and `InvB`; the purge runs in a state `s1` with the heap of `s` up to the
strong count of `o`.  Afterwards `o` has an empty table, the other objects are as they were up to
their tables, and no table mentions `o` any more: `InvO` and `InvB` hold again once `o` is dead. -/
theorem purge_kill {s s1 : State} {o n : Nat} {ob : Obj} {st : Strong} (hO : s.InvO) (hB : s.InvB)
    (hc : s.cell o = some ob) (hs : ob.strong = .cnt (n + 1))
    (hh : s1.heap = (s.setObj o { ob with strong := st }).heap) (herr : s1.err = none) :
    (s1.purgePeers o).err = none
    ∧ (∃ ob2 : Obj, (s1.purgePeers o).cell o = some ob2 ∧ ob2.strong = st ∧ ob2.weak = ob.weak
        ∧ ob2.value = ob.value ∧ ob2.implicit = true ∧ ob2.links = some [])
    ∧ ∀ ob3 : Obj, ob3.OK → ob3.strong.isDead = true →
        ((s1.purgePeers o).setObj o ob3).InvO ∧ ((s1.purgePeers o).setObj o ob3).InvB
        ∧ (∀ a, ((s1.purgePeers o).setObj o ob3).isLive a = true ↔ a ≠ o ∧ s.isLive a = true)
        ∧ (∀ a, a ≠ o → ∀ oa : Obj, s.heap[a]? = some oa →
            ∃ oa' : Obj, ((s1.purgePeers o).setObj o ob3).heap[a]? = some oa' ∧ oa.Sim oa') := by
  have hg : s.heap[o]? = some ob := get_of_cell hc
  have hfr : ob.freed = false := freed_of_cell hc
  have hlive : s.isLive o = true := by rw [isLive_of_get hg]; simp [hfr, hs]
  obtain ⟨-, hlS, -, himp⟩ := (hO o ob hg).1 n hs
  obtain ⟨t, hl⟩ : ∃ t, ob.links = some t := Option.isSome_iff_exists.1 hlS
  have ht : s.tableOf o = some t := by rw [tableOf_of_get hg]; simp [hfr, hl]
  have hg1 : s1.heap[o]? = some { ob with strong := st } := by
    rw [hh]; exact getElem?_setObj_same _ (get_lt hg)
  have hg1' : ∀ a, a ≠ o → s1.heap[a]? = s.heap[a]? := fun a ha => by
    rw [hh, getElem?_setObj_other _ _ ha]
  have hT : ∀ p, s1.tableOf p = s.tableOf p := fun p =>
    (tableOf_congr hh p).trans (tableOf_setObj_of_links_eq (ob' := { ob with strong := st }) hg rfl rfl p)
  obtain ⟨e1, ftabo, ftab, hLO⟩ := purgePeers_of_InvB hO hB hlive hT ht herr
  have flive : ∀ a, a ≠ o → (s1.purgePeers o).isLive a = s.isLive a := fun a ha => by
    rw [isLive_purgePeers, isLive_congr hh, isLive_setObj_other _ _ ha]
  generalize s1.purgePeers o = sp at e1 ftabo ftab hLO flive ⊢
  obtain ⟨ob2, hg2, q1, q2, q3, q4, q5, -, -⟩ := hLO.obj o _ hg1
  have q4' : ob2.freed = false := q4.trans hfr
  have q6 : ob2.links = some [] := by
    have := tableOf_of_get hg2; rw [ftabo, q4'] at this; simpa using this.symm
  -- an empty table stays empty: the new entries are among the old ones
  have fsim : ∀ a, a ≠ o → ∀ oa : Obj, s.heap[a]? = some oa →
      ∃ oa' : Obj, sp.heap[a]? = some oa' ∧ oa.Sim oa' := by
    intro a ha oa hga
    obtain ⟨oa', hga', q⟩ := hLO.obj a oa (by rw [hg1' a ha]; exact hga)
    refine ⟨oa', hga', q.sim fun hnil => ?_⟩
    by_cases hf : oa.freed = true
    · rw [q.2.2.2.2.2.2 hf]; exact hnil
    · have hf' : oa.freed = false := by simpa using hf
      have h1 : s.tableOf a = some [] := by rw [tableOf_of_get hga]; simp [hf', hnil]
      obtain ⟨tp', htp', -, -, -, -, hent⟩ := (ftab a ha).2 [] h1
      have hnil' : tp' = [] := by
        cases tp' with
        | nil => rfl
        | cons e r => obtain ⟨c, hc⟩ := hent e (by simp); cases hc
      have h2 := tableOf_of_get hga'
      rw [htp', q.2.2.2.1, hf', hnil'] at h2
      simpa using h2.symm
  refine ⟨e1, ⟨ob2, cell_of_not_freed hg2 q4', q1, q2, q3, q5.trans himp, q6⟩, ?_⟩
  intro ob3 hok hdead
  have hlt2 : o < sp.heap.length := get_lt hg2
  have g3o : (sp.setObj o ob3).heap[o]? = some ob3 := getElem?_setObj_same _ hlt2
  have l3 : ∀ a, (sp.setObj o ob3).isLive a = true ↔ a ≠ o ∧ s.isLive a = true := by
    intro a
    by_cases ha : a = o
    · subst ha; rw [isLive_of_get g3o, hdead]; simp
    · rw [isLive_setObj_other _ _ ha, flive a ha]; simp [ha]
  have hsim : ∀ a, a ≠ o → ∀ oa : Obj, s.heap[a]? = some oa →
      ∃ oa' : Obj, (sp.setObj o ob3).heap[a]? = some oa' ∧ oa.Sim oa' := fun a ha oa hga => by
    rw [getElem?_setObj_other _ _ ha]; exact fsim a ha oa hga
  refine ⟨?_, ⟨fun a ta hta => ?_, fun a b ha hb => ?_⟩, l3, hsim⟩
  · refine hO.sim_or (by rw [setObj_heap_length]; exact hLO.heap_length.trans (by rw [hh, setObj_heap_length]))
      fun a oa hga => ?_
    by_cases ha : a = o
    · subst ha; exact ⟨ob3, g3o, .inr hok⟩
    · obtain ⟨oa', hga', sim⟩ := hsim a ha oa hga
      exact ⟨oa', hga', .inl sim⟩
  · -- a surviving entry names a live object other than `o`: the entries for `o` are gone
    by_cases hao : a = o
    · subst hao
      rw [tableOf_of_get g3o] at hta
      obtain ⟨-, h0, hu, -⟩ := hok
      rcases (Strong.isDead_eq_true_iff ob3.strong).1 hdead with hd | hd
      · rw [(h0 hd).2] at hta; cases hf : ob3.freed <;> simp [hf] at hta
      · rcases (hu hd).2 with hn | ⟨hn, -⟩
        · rw [hn] at hta; cases hf : ob3.freed <;> simp [hf] at hta
        · rw [hn] at hta
          cases hf : ob3.freed <;> simp [hf] at hta
          subst hta
          exact ⟨Table.WF_nil, fun e he => by cases he⟩
    · rw [tableOf_setObj_other _ _ hao] at hta
      cases hsa : s.tableOf a with
      | none => rw [((ftab a hao).1).2 hsa] at hta; cases hta
      | some tp =>
        obtain ⟨tp', htp', hwf', hz1, hz2, -, hent⟩ := (ftab a hao).2 tp hsa
        rw [htp'] at hta; cases hta
        refine ⟨hwf', fun e he => ?_⟩
        obtain ⟨c, hc⟩ := hent e he
        obtain ⟨b1, b2⟩ := (hB.1 a tp hsa).2 _ hc
        refine ⟨b1, fun hk => (l3 _).2 ⟨?_, b2 hk⟩⟩
        intro heq
        have hpos : 0 < ta.get e.1 := by
          rw [Table.mem_get ta hwf' e.1 e.2 he]; exact hwf'.2 e he
        obtain ⟨⟨ep, ek⟩, ec⟩ := e
        simp only at heq hk hpos
        subst heq
        cases ek with
        | fwd => omega
        | bwd => omega
        | loop => exact hk rfl
  · obtain ⟨hao, hla⟩ := (l3 a).1 ha
    obtain ⟨hbo, hlb⟩ := (l3 b).1 hb
    have key : ∀ x y, x ≠ o → y ≠ o → s.isLive x = true → ∀ k : Kind,
        ((sp.setObj o ob3).tbl x).get ⟨y, k⟩ = (s.tbl x).get ⟨y, k⟩ := by
      intro x y hx hy hlx k
      obtain ⟨tp, htp⟩ := live_tableOf hO hlx
      obtain ⟨tp', htp', -, -, -, hoth, -⟩ := (ftab x hx).2 tp htp
      rw [tbl_def, tbl_def, tableOf_setObj_other _ _ hx, htp', htp]
      exact hoth ⟨y, k⟩ (by simp [hy]) (by simp [hy])
    rw [F_def, B_def, key a b hao hbo hla, key b a hbo hao hlb]
    exact hB.2 a b hla hlb

end State
end Cactus
