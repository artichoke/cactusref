import Cactus.Lemmas.Inv.Purge
import Cactus.Lemmas.Inv.Frames
/-!
# Invariant preservation for the non-trace paths of `Rc::drop`

`s` is a state whose top frame is `.rcDrop o`; `step` pops the frame (`s0 := { s with stack := rest }`)
and runs `s0.rcDrop o`.  The popped frame owned one strong handle to `o`.
-/
namespace Cactus
namespace State

theorem pend_pop_rcDrop {s : State} {o : Nat} {rest : List Frame} (hst : s.stack = .rcDrop o :: rest)
    (t : Nat) : s.pend t = (if o = t then 1 else 0) + sumList (rest.map (Frame.strongTo t)) := by
  rw [pend_of_stack_cons hst t, Frame.strongTo_rcDrop]; rfl

/-! ## released allocation -/

theorem rcDrop_inv_uaf {s : State} {o : Nat} {rest : List Frame} (hc : s.cell o = none) :
    (({ s with stack := rest } : State).rcDrop o).Inv := by
  intro herr'
  have hc0 : ({ s with stack := rest } : State).cell o = none := by simpa using hc
  unfold rcDrop at herr'
  simp only [hc0] at herr'
  exact absurd herr' (fail_err_ne_none _ _)

/-! ## dead target -/

/-- the popped handle was not counted: its target is not live -/
theorem rcDrop_inv_dead {s : State} {o : Nat} {rest : List Frame} {ob : Obj}
    (herr : s.err = none) (hst : s.stack = .rcDrop o :: rest) (h : s.Inv)
    (hc : s.cell o = some ob) (hd : ob.strong.isDead = true) :
    (({ s with stack := rest } : State).rcDrop o).Inv := by
  obtain ⟨hO, hB, hC, hW, hK⟩ := h herr
  have hc0 : ({ s with stack := rest } : State).cell o = some ob := by simpa using hc
  have hres : ({ s with stack := rest } : State).rcDrop o = { s with stack := rest } := by
    unfold rcDrop
    simp only [hc0]
    rcases (Strong.isDead_eq_true_iff ob.strong).1 hd with h0 | h0 <;> simp [h0]
  rw [hres]
  intro _
  have hnl : s.isLive o = false := by rw [isLive_of_cell hc, hd]; rfl
  refine ⟨pop_InvO rest hO, pop_InvB rest hB, fun t ht => ?_, pop_InvW hst (fun _ => rfl) hW, pop_InvK hst hK⟩
  have hne : o ≠ t := fun e => by subst e; rw [isLive_withStack, hnl] at ht; cases ht
  have := hC t ht
  rw [pend_of_stack_cons hst t, Frame.strongTo_rcDrop, if_neg hne, Nat.zero_add] at this
  exact this

/-! ## decrement of a count `≥ 2` -/

/-- the state in which the trace runs -/
theorem rcDrop_inv_dec_state {s : State} {o : Nat} {rest : List Frame} {ob : Obj} {n : Nat}
    (herr : s.err = none) (hst : s.stack = .rcDrop o :: rest) (h : s.Inv)
    (hc : s.cell o = some ob) (hs : ob.strong = .cnt (n + 2)) :
    (({ s with stack := rest } : State).setObj o { ob with strong := .cnt (n + 1) }).InvCore := by
  have hg : s.heap[o]? = some ob := get_of_cell hc
  have hg0 : ({ s with stack := rest } : State).heap[o]? = some ob := hg
  refine InvCore_setObj (h herr) hg (ob' := { ob with strong := .cnt (n + 1) })
    ⟨rfl, rfl, rfl, rfl, Iff.rfl, .inr ⟨n + 1, n, hs, rfl⟩⟩ rfl rfl rfl (fun t _ => ?_) (fun t => ?_)
    (fun g hm _ => hst ▸ List.mem_cons_of_mem _ hm)
    (fun x => by rw [owed_of_stack_cons hst x]; exact Nat.le_add_left _ _)
  · -- the popped frame owned one handle to `o`
    rw [pend_of_stack_cons hst t, Frame.strongTo_rcDrop, ext_setObj, pend_setObj]
    by_cases hto : o = t
    · subst hto
      rw [strongNat_setObj_same _ (get_lt hg0), strongNat_of_get hg, hs, if_pos rfl]
      show n + 1 + (s.ext o + (1 + _)) = n + 2 + (s.ext o + _)
      omega
    · rw [strongNat_setObj_other _ _ (Ne.symm hto), if_neg hto, Nat.zero_add]; rfl
  · rw [pendW_of_stack_cons hst t, Frame.weakTo_rcDrop, Nat.zero_add,
      weakNat_setObj_of_weak_eq (ob' := { ob with strong := .cnt (n + 1) }) hg0 rfl]
    rfl

theorem rcDrop_inv_dec {s : State} {o : Nat} {rest : List Frame} {ob : Obj} {n : Nat} {t : Table}
    (herr : s.err = none) (hst : s.stack = .rcDrop o :: rest) (h : s.Inv)
    (hc : s.cell o = some ob) (hs : ob.strong = .cnt (n + 2)) (hl : ob.links = some t)
    (hemp : t.isEmpty = true) :
    (({ s with stack := rest } : State).rcDrop o).Inv := by
  have hc0 : ({ s with stack := rest } : State).cell o = some ob := by simpa using hc
  have hres : ({ s with stack := rest } : State).rcDrop o
      = ({ s with stack := rest } : State).setObj o { ob with strong := .cnt (n + 1) } := by
    unfold rcDrop
    simp only [hc0, hs, hl, hemp, if_true]
    simp
  rw [hres]
  intro _
  exact rcDrop_inv_dec_state herr hst h hc hs

/-! ## the last handle: purge, then `beginSingle` -/

/-- `beginSingle` on an object whose strong count has just reached zero -/
theorem beginSingle_of_cnt {sp : State} {o : Nat} {ob2 : Obj} {k : Nat} {v : Val}
    (hc : sp.cell o = some ob2) (hs : ob2.strong = .cnt k) (hv : ob2.value = some v) :
    sp.beginSingle o
      = (sp.setObj o { ob2 with strong := .uninit, value := none }).push [.dropVal v, .finishSingle o] := by
  unfold beginSingle
  simp only [hc, hs, hv]

/-- `drop(inner)` and the rest of `drop_unreachable*` are pushed for an object that is ready -/
theorem InvK_push_finishSingle {s : State} {o : Nat} {v : Val} (hK : s.InvK)
    (hp : s.Pending o (some [])) (ho : s.owed o = 0) : (s.push [.dropVal v, .finishSingle o]).InvK := by
  refine ⟨fun o' hm => ?_, fun ks hm k hk => ?_, fun x => ?_⟩
  · simp only [push_stack, List.cons_append, List.nil_append, List.mem_cons, reduceCtorEq, false_or,
      Frame.finishSingle.injEq] at hm
    rcases hm with rfl | hm
    · exact hp
    · exact hK.1 o' hm
  · simp only [push_stack, List.cons_append, List.nil_append, List.mem_cons, reduceCtorEq, false_or] at hm
    exact hK.2.1 ks hm k hk
  · have h1 := hK.2.2 x
    simp only [owed_push, List.map_cons, List.map_nil, sumList_cons, sumList_nil, Frame.owes_dropVal,
      Frame.owes_finishSingle]
    by_cases hxo : o = x
    · subst hxo; rw [if_pos rfl]; omega
    · rw [if_neg hxo]; omega

/-- the purge loop (trivial when the table is empty) followed by
`beginSingle` preserves the invariant -/
theorem rcDrop_inv_last_aux {s : State} {o : Nat} {rest : List Frame} {ob : Obj}
    (herr : s.err = none) (hst : s.stack = .rcDrop o :: rest) (h : s.Inv)
    (hc : s.cell o = some ob) (hs : ob.strong = .cnt 1) :
    (((({ s with stack := rest } : State).setObj o { ob with strong := .cnt 0 }).purgePeers o).beginSingle o).Inv := by
  obtain ⟨hO, hB, hC, hW, hK⟩ := h herr
  have hg : s.heap[o]? = some ob := get_of_cell hc
  have hg0 : ({ s with stack := rest } : State).heap[o]? = some ob := hg
  have hlive : s.isLive o = true := by rw [isLive_of_cell hc, hs]; rfl
  obtain ⟨v, hv⟩ : ∃ v, ob.value = some v := Option.isSome_iff_exists.1 ((hO o ob hg).1 0 hs).1
  obtain ⟨-, ⟨ob2, hc2, q1, q2, q3, q5, q6⟩, hkill⟩ :=
    purge_kill (s1 := ({ s with stack := rest } : State).setObj o { ob with strong := .cnt 0 })
      hO hB hc hs rfl herr
  have hg2 := get_of_cell hc2
  have hv2 : ob2.value = some v := q3.trans hv
  rw [beginSingle_of_cnt hc2 q1 hv2]
  intro _
  have hw4 : ob2.freed = true ↔ ob2.weak = 0 := by
    have := (hO o ob hg).2.2.2
    rwa [freed_of_cell hc2, q2, ← freed_of_cell hc]
  obtain ⟨hO3, hB3, l3, hsim⟩ := hkill { ob2 with strong := .uninit, value := none }
    ⟨fun _ hm => (nomatch hm), fun h0 => (nomatch h0), fun _ => ⟨rfl, .inr ⟨q6, q5⟩⟩, hw4⟩ rfl
  refine ⟨InvO_of_heap_eq (push_heap _ _) hO3, InvB_of_heap_eq (push_heap _ _) hB3, fun x hx => ?_,
    fun x hx => ?_, ?_⟩
  · -- the handles of `v` move from the heap to the `dropVal` frame
    obtain ⟨hxo, hlx⟩ := (l3 x).1 hx
    have h1 := hC x hlx
    have h2 := inHeap_setObj_move_out { ob2 with strong := .uninit, value := none } hg2 hv2 rfl x
    rw [pend_of_stack_cons hst x, Frame.strongTo_rcDrop, if_neg (Ne.symm hxo)] at h1
    rw [inHeap_purgePeers, inHeap_setObj_of_value_eq (ob' := { ob with strong := .cnt 0 }) hg0 rfl] at h2
    simp only [strongNat_push, strongNat_setObj_other _ _ hxo, strongNat_purgePeers, ext_push, ext_setObj,
      ext_purgePeers, inHeap_push, pend_push, pend_setObj, pend_purgePeers, List.map_cons, List.map_nil,
      sumList_cons, sumList_nil, Frame.strongTo_dropVal, Frame.strongTo_finishSingle, strongNat_withStack,
      ext_withStack]
    rw [show ({ s with stack := rest } : State).inHeap x = s.inHeap x from rfl] at h2
    omega
  · have h1 := hW x (by simpa using hx)
    have h2 := inHeapW_setObj_move_out { ob2 with strong := .uninit, value := none } hg2 hv2 rfl x
    rw [pendW_of_stack_cons hst x, Frame.weakTo_rcDrop, Nat.zero_add] at h1
    rw [inHeapW_purgePeers, inHeapW_setObj_of_value_eq (ob' := { ob with strong := .cnt 0 }) hg0 rfl] at h2
    simp only [weakNat_push, weakNat_setObj_of_weak_eq (ob' := { ob2 with strong := .uninit, value := none }) hg2 rfl,
      weakNat_purgePeers, weakNat_setObj_of_weak_eq (ob' := { ob with strong := .cnt 0 }) hg0 rfl,
      implicitNat_push, implicitNat_setObj_of_implicit_eq (ob' := { ob2 with strong := .uninit, value := none }) hg2 rfl,
      implicitNat_purgePeers, implicitNat_setObj_of_implicit_eq (ob' := { ob with strong := .cnt 0 }) hg0 rfl,
      extW_push, extW_setObj, extW_purgePeers, inHeapW_push, pendW_push, pendW_setObj, pendW_purgePeers,
      List.map_cons, List.map_nil, sumList_cons, sumList_nil, Frame.weakTo_dropVal, Frame.weakTo_finishSingle,
      weakNat_withStack, extW_withStack, implicitNat_withStack]
    rw [show ({ s with stack := rest } : State).inHeapW x = s.inHeapW x from rfl] at h2
    omega
  · have howed := owed_eq_zero_of_isLive hK hlive
    rw [owed_of_stack_cons hst] at howed
    refine InvK_push_finishSingle (hK.transfer (fun g hm _ => ?_) (fun x => ?_) fun x lk hlk hpos hp => ?_)
      ⟨_, getElem?_setObj_same _ (get_lt hg2), rfl, q6, q5⟩ ?_
    · rw [setObj_stack, purgePeers_stack] at hm
      exact hst ▸ List.mem_cons_of_mem _ hm
    · rw [owed_setObj, owed_purgePeers, owed_of_stack_cons hst x]; exact Nat.le_add_left _ _
    · refine hp.sim hlk (hsim x fun e => ?_)
      rw [owed_of_stack_cons hst, e, howed] at hpos; cases hpos
    · rw [owed_setObj, owed_purgePeers]; exact Nat.eq_zero_of_add_eq_zero_left howed

/-- last handle, non-empty table -/
theorem rcDrop_inv_last_links {s : State} {o : Nat} {rest : List Frame} {ob : Obj} {t : Table}
    (herr : s.err = none) (hst : s.stack = .rcDrop o :: rest) (h : s.Inv)
    (hc : s.cell o = some ob) (hs : ob.strong = .cnt 1) (hl : ob.links = some t)
    (hne : t.isEmpty = false) :
    (({ s with stack := rest } : State).rcDrop o).Inv := by
  have hc0 : ({ s with stack := rest } : State).cell o = some ob := by simpa using hc
  have hres : ({ s with stack := rest } : State).rcDrop o
      = ((({ s with stack := rest } : State).setObj o { ob with strong := .cnt 0 }).purgePeers o).beginSingle o := by
    unfold rcDrop
    simp only [hc0, hs, hl, hne]
    simp
  rw [hres]
  exact rcDrop_inv_last_aux herr hst h hc hs

/-- last handle, empty table -/
theorem rcDrop_inv_last_empty {s : State} {o : Nat} {rest : List Frame} {ob : Obj} {t : Table}
    (herr : s.err = none) (hst : s.stack = .rcDrop o :: rest) (h : s.Inv)
    (hc : s.cell o = some ob) (hs : ob.strong = .cnt 1) (hl : ob.links = some t)
    (hemp : t.isEmpty = true) :
    (({ s with stack := rest } : State).rcDrop o).Inv := by
  have htn : t = [] := by simpa using hemp
  subst htn
  have hc0 : ({ s with stack := rest } : State).cell o = some ob := by simpa using hc
  have hg : s.heap[o]? = some ob := get_of_cell hc
  have hlt : o < ({ s with stack := rest } : State).heap.length := get_lt hg
  have htab : (({ s with stack := rest } : State).setObj o { ob with strong := .cnt 0 }).tableOf o = some [] := by
    rw [tableOf_setObj_same _ hlt]; simp [freed_of_cell hc, hl]
  have hres : ({ s with stack := rest } : State).rcDrop o
      = ((({ s with stack := rest } : State).setObj o { ob with strong := .cnt 0 }).purgePeers o).beginSingle o := by
    rw [purgePeers_of_nil htab]
    unfold rcDrop
    simp only [hc0, hs, hl]
    simp
  rw [hres]
  exact rcDrop_inv_last_aux herr hst h hc hs

/-- the remaining (impossible under `InvO`) branch: a live object whose table has been moved out -/
theorem rcDrop_inv_nolinks {s : State} {o : Nat} {rest : List Frame} {ob : Obj} {n : Nat}
    (hc : s.cell o = some ob) (hs : ob.strong = .cnt (n + 1)) (hl : ob.links = none) :
    (({ s with stack := rest } : State).rcDrop o).Inv := by
  intro herr'
  have hc0 : ({ s with stack := rest } : State).cell o = some ob := by simpa using hc
  unfold rcDrop at herr'
  simp only [hc0, hs, hl] at herr'
  exact absurd herr' (fail_err_ne_none _ _)

end State
end Cactus
