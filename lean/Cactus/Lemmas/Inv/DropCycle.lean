import Cactus.Lemmas.Inv.Transfer
import Cactus.Lemmas.Inv.DropSingle
import Cactus.Lemmas.Shape
import Cactus.Lemmas.CycleStruct
/-!
# Invariant preservation: the trace path of `Rc::drop` and the group teardown `dropCycle`

* `Teardown s s' ks vs` is an abstract description of what `dropCycle` does to a state (the members
  `ks` become uninit with value and table moved out, the values `vs` go to `dropVal` frames, a
  `phase3 ks` frame is pushed, survivors have no recorded adoption from/to a member).
* `Teardown.invCore`: such a step preserves `InvCore`.
* `dropCycle_teardown`: `dropCycle` after a passed orphan test is such a step.
* `traceBranch_inv`: under the invariants the trace branch of `Rc::drop` logs the trace and
  then stops or is such a step; `dropCycle_inv`, `trace_branch_inv`: the results.
-/
namespace Cactus
open State

/-- a sum over `List.range n` of a function supported on a duplicate-free list of indices -/
theorem sumList_range_indicator (n : Nat) (ks : List Nat) (g : Nat → Nat) (hnd : ks.Nodup)
    (hlt : ∀ k ∈ ks, k < n) :
    sumList ((List.range n).map (fun a => if a ∈ ks then g a else 0)) = sumList (ks.map g) := by
  induction ks with
  | nil => simp
  | cons k ks ih =>
    have hnd' : k ∉ ks ∧ ks.Nodup := by simpa using hnd
    have ih' := ih hnd'.2 (fun k' hk' => hlt k' (List.mem_cons_of_mem _ hk'))
    have hu := sumList_range_update n k (fun a => if a ∈ ks then g a else 0)
      (fun a => if a ∈ k :: ks then g a else 0) (hlt k List.mem_cons_self)
      (fun i _ hik => by simp [hik])
    have h1 : (if k ∈ ks then g k else 0) = 0 := if_neg hnd'.1
    have h2 : (if k ∈ k :: ks then g k else 0) = g k := if_pos List.mem_cons_self
    rw [h1, h2] at hu
    simp only [List.map_cons, sumList_cons]
    omega

/-- summing over values that are given positionally as optional images of indices -/
theorem sumList_map_of_map_some {α : Type} (vs : List Val) (ks : List α) (φ : α → Option Val)
    (f : Val → Nat) (h : vs.map some = ks.map φ) :
    sumList (vs.map f) = sumList (ks.map (fun k => ((φ k).map f).getD 0)) := by
  have e : vs.map f = (vs.map some).map (fun o => (o.map f).getD 0) := by
    rw [List.map_map]; rfl
  rw [e, h, List.map_map]; rfl

/-- `s'` arises from `s` by tearing down the group `ks` whose values are `vs` -/
structure Teardown (s s' : State) (ks : List Nat) (vs : List Val) : Prop where
  nodup : ks.Nodup
  live : ∀ k ∈ ks, s.isLive k = true
  len : s'.heap.length = s.heap.length
  key : ∀ k ∈ ks, ∀ ob, s.heap[k]? = some ob → s'.heap[k]? = some (p2Obj ob)
  other : ∀ o, o ∉ ks → s'.heap[o]? = s.heap[o]?
  vals : vs.map some = ks.map (fun k => (s.heap[k]?).bind (fun ob => ob.value))
  stack : ∃ vs' : List Val, vs'.Perm vs ∧
    s'.stack = vs'.map Frame.dropVal ++ [Frame.phase3 ks] ++ s.stack
  roots : s'.roots = s.roots
  wroots : s'.wroots = s.wroots
  pvals : s'.vals = s.vals
  raws : s'.raws = s.raws
  clean : ∀ a, s.isLive a = true → a ∉ ks → ∀ m ∈ ks, s.F a m = 0 ∧ s.B a m = 0

namespace Teardown

variable {s s' : State} {ks : List Nat} {vs : List Val}

theorem key_obj (h : Teardown s s' ks vs) {k : Nat} (hk : k ∈ ks) :
    ∃ ob n, s.heap[k]? = some ob ∧ ob.freed = false ∧ ob.strong = .cnt (n + 1)
      ∧ s'.heap[k]? = some (p2Obj ob) := by
  obtain ⟨ob, n, hg, hf, hs⟩ := (State.isLive_iff s k).mp (h.live k hk)
  exact ⟨ob, n, hg, hf, hs, h.key k hk ob hg⟩

theorem key_not_live (h : Teardown s s' ks vs) {k : Nat} (hk : k ∈ ks) : s'.isLive k = false := by
  obtain ⟨ob, n, -, -, -, hg'⟩ := h.key_obj hk
  rw [State.isLive_of_get hg']
  simp [p2Obj]

theorem isLive_other (h : Teardown s s' ks vs) {a : Nat} (ha : a ∉ ks) :
    s'.isLive a = s.isLive a := by
  simp only [State.isLive, h.other a ha]

theorem isLive_iff (h : Teardown s s' ks vs) (a : Nat) :
    s'.isLive a = true ↔ s.isLive a = true ∧ a ∉ ks := by
  by_cases ha : a ∈ ks
  · simp [h.key_not_live ha, ha]
  · simp [h.isLive_other ha, ha]

theorem tableOf_other (h : Teardown s s' ks vs) {a : Nat} (ha : a ∉ ks) :
    s'.tableOf a = s.tableOf a := by
  simp only [State.tableOf, State.cell, h.other a ha]

theorem tableOf_key (h : Teardown s s' ks vs) {k : Nat} (hk : k ∈ ks) : s'.tableOf k = none := by
  obtain ⟨ob, n, -, -, -, hg'⟩ := h.key_obj hk
  rw [State.tableOf_of_get hg']
  show (if ob.freed then none else none) = none
  cases ob.freed <;> rfl

theorem tbl_other (h : Teardown s s' ks vs) {a : Nat} (ha : a ∉ ks) : s'.tbl a = s.tbl a := by
  simp only [State.tbl, h.tableOf_other ha]

theorem strongNat_other (h : Teardown s s' ks vs) {a : Nat} (ha : a ∉ ks) :
    s'.strongNat a = s.strongNat a := by
  simp only [State.strongNat, h.other a ha]

theorem weakNat_eq (h : Teardown s s' ks vs) (a : Nat) : s'.weakNat a = s.weakNat a := by
  by_cases ha : a ∈ ks
  · obtain ⟨ob, n, hg, -, -, hg'⟩ := h.key_obj ha
    rw [State.weakNat_of_get hg', State.weakNat_of_get hg]; rfl
  · simp only [State.weakNat, h.other a ha]

theorem implicitNat_eq (h : Teardown s s' ks vs) (a : Nat) :
    s'.implicitNat a = s.implicitNat a := by
  by_cases ha : a ∈ ks
  · obtain ⟨ob, n, hg, -, -, hg'⟩ := h.key_obj ha
    rw [State.implicitNat_of_get hg', State.implicitNat_of_get hg]; rfl
  · simp only [State.implicitNat, h.other a ha]

theorem key_lt (h : Teardown s s' ks vs) : ∀ k ∈ ks, k < s.heap.length :=
  fun k hk => State.isLive_lt (h.live k hk)

/-- generic form of "the members' values left the heap" -/
theorem sum_split (h : Teardown s s' ks vs) (f : Val → Nat) (g g' : Nat → Nat)
    (hkey : ∀ a ∈ ks, g' a = 0) (hother : ∀ a, a ∉ ks → g' a = g a)
    (hg : ∀ k, g k = (((s.heap[k]?).bind (fun ob => ob.value)).map f).getD 0) :
    sumList ((List.range s'.heap.length).map g') + sumList (vs.map f)
      = sumList ((List.range s.heap.length).map g) := by
  rw [h.len]
  have hpt : ∀ a, a < s.heap.length → g a = g' a + (if a ∈ ks then g a else 0) := by
    intro a _
    by_cases ha : a ∈ ks
    · simp [ha, hkey a ha]
    · simp [ha, hother a ha]
  have e1 := sumList_range_congr s.heap.length
    (fun a => g' a + (if a ∈ ks then g a else 0)) g hpt
  rw [sumList_map_add, sumList_range_indicator _ _ _ h.nodup h.key_lt] at e1
  have e2 := sumList_map_of_map_some vs ks _ f h.vals
  have e3 : (fun k => (((s.heap[k]?).bind (fun ob => ob.value)).map f).getD 0) = g := by
    funext k; exact (hg k).symm
  rw [e3] at e2
  omega

theorem inHeap_eq (h : Teardown s s' ks vs) (t : Nat) :
    s'.inHeap t + sumList (vs.map (fun v => v.held.count t)) = s.inHeap t := by
  unfold State.inHeap
  apply h.sum_split (fun v => v.held.count t)
  · intro a ha
    obtain ⟨ob, n, -, -, -, hg'⟩ := h.key_obj ha
    rw [State.heldOf_of_get hg']; rfl
  · intro a ha
    simp only [State.heldOf, h.other a ha]
  · intro k
    unfold State.heldOf
    cases s.heap[k]? with
    | none => rfl
    | some ob => cases hv : ob.value <;> simp [hv]

theorem inHeapW_eq (h : Teardown s s' ks vs) (t : Nat) :
    s'.inHeapW t + sumList (vs.map (fun v => v.weaks.count t)) = s.inHeapW t := by
  unfold State.inHeapW
  apply h.sum_split (fun v => v.weaks.count t)
  · intro a ha
    obtain ⟨ob, n, -, -, -, hg'⟩ := h.key_obj ha
    rw [State.weaksOf_of_get hg']; rfl
  · intro a ha
    simp only [State.weaksOf, h.other a ha]
  · intro k
    unfold State.weaksOf
    cases s.heap[k]? with
    | none => rfl
    | some ob => cases hv : ob.value <;> simp [hv]

theorem stack_sum (h : Teardown s s' ks vs) (w : Frame → Nat) :
    sumList (s'.stack.map w)
      = sumList (vs.map fun v => w (.dropVal v)) + w (.phase3 ks) + sumList (s.stack.map w) := by
  obtain ⟨vs', hp, hst⟩ := h.stack
  rw [hst, List.map_append, List.map_append, sumList_append, sumList_append, List.map_map,
    sumList_map_perm hp]
  simp [Function.comp_def]

theorem pend_eq (h : Teardown s s' ks vs) (t : Nat) :
    s'.pend t = sumList (vs.map (fun v => v.held.count t)) + s.pend t := by
  simp [State.pend, h.stack_sum]

theorem pendW_eq (h : Teardown s s' ks vs) (t : Nat) :
    s'.pendW t = sumList (vs.map (fun v => v.weaks.count t)) + s.pendW t := by
  simp [State.pendW, h.stack_sum]

theorem owed_eq (h : Teardown s s' ks vs) (t : Nat) :
    s'.owed t = ks.count t + s.owed t := by
  simp [State.owed, h.stack_sum]

theorem finishSingle_mem (h : Teardown s s' ks vs) {o : Nat}
    (hm : Frame.finishSingle o ∈ s'.stack) : Frame.finishSingle o ∈ s.stack := by
  obtain ⟨vs', -, hst⟩ := h.stack
  rw [hst] at hm
  simpa using hm

theorem phase3_mem (h : Teardown s s' ks vs) {ks' : List Nat}
    (hm : Frame.phase3 ks' ∈ s'.stack) : ks' = ks ∨ Frame.phase3 ks' ∈ s.stack := by
  obtain ⟨vs', -, hst⟩ := h.stack
  rw [hst] at hm
  simpa using hm

theorem invO (h : Teardown s s' ks vs) (hO : s.InvO) : s'.InvO := by
  intro o ob' hg'
  by_cases ho : o ∈ ks
  · obtain ⟨ob, n, hg, hf, hs, hk'⟩ := h.key_obj ho
    rw [hk'] at hg'
    cases hg'
    obtain ⟨-, -, -, h4⟩ := hO o ob hg
    refine ⟨?_, ?_, ?_, h4⟩
    · intro m hm; simp [p2Obj] at hm
    · intro hm; simp [p2Obj] at hm
    · intro _; exact ⟨rfl, Or.inl rfl⟩
  · rw [h.other o ho] at hg'
    exact hO o ob' hg'

theorem invB (h : Teardown s s' ks vs) (hO : s.InvO) (hB : s.InvB) : s'.InvB := by
  refine ⟨?_, ?_⟩
  · intro o t ht
    by_cases ho : o ∈ ks
    · rw [h.tableOf_key ho] at ht; cases ht
    · rw [h.tableOf_other ho] at ht
      obtain ⟨hwf, hent⟩ := hB.1 o t ht
      refine ⟨hwf, ?_⟩
      intro e he
      refine ⟨(hent e he).1, ?_⟩
      intro hk
      have hl := (hent e he).2 hk
      rw [h.isLive_iff]
      refine ⟨hl, ?_⟩
      intro hm
      -- `e` names the member `e.1.ptr` from the table of the non-member `o`
      have htbl : s.tbl o = t := State.tbl_eq_of_tableOf ht
      by_cases hlo : s.isLive o = true
      · obtain ⟨hF, hBk⟩ := h.clean o hlo ho e.1.ptr hm
        obtain ⟨⟨p, kd⟩, c⟩ := e
        cases kd with
        | loop => exact hk rfl
        | fwd =>
          have : 0 < s.F o p := (State.F_pos_iff hB o p).mpr ⟨c, by rw [htbl]; exact he⟩
          simp only at hF
          omega
        | bwd =>
          have : 0 < s.B o p := (State.B_pos_iff hB o p).mpr ⟨c, by rw [htbl]; exact he⟩
          simp only at hBk
          omega
      · have := State.tableOf_eq_nil_of_not_live hO ht (by simpa using hlo)
        subst this
        cases he
  · intro a b ha hb
    obtain ⟨hla, hka⟩ := (h.isLive_iff a).mp ha
    obtain ⟨hlb, hkb⟩ := (h.isLive_iff b).mp hb
    have := hB.2 a b hla hlb
    simp only [State.F, State.B, h.tbl_other hka, h.tbl_other hkb] at this ⊢
    exact this

theorem invC (h : Teardown s s' ks vs) (hC : s.InvC) : s'.InvC := by
  intro t ht
  obtain ⟨hl, hk⟩ := (h.isLive_iff t).mp ht
  have h0 := hC t hl
  have h1 := h.strongNat_other hk
  have h2 := State.ext_congr h.roots h.raws h.pvals t
  have h3 := h.inHeap_eq t
  have h4 := h.pend_eq t
  omega

theorem invW (h : Teardown s s' ks vs) (hW : s.InvW) : s'.InvW := by
  intro t ht
  rw [h.len] at ht
  have h0 := hW t ht
  have h1 := h.weakNat_eq t
  have h2 := State.extW_congr h.wroots h.pvals t
  have h3 := h.inHeapW_eq t
  have h4 := h.pendW_eq t
  have h5 := h.implicitNat_eq t
  omega

theorem invK (h : Teardown s s' ks vs) (hO : s.InvO) (hK : s.InvK) : s'.InvK := by
  -- an object that a frame of `s` waits for is not live, hence not a member
  have hkeep : ∀ o lk, s.Pending o lk → s'.Pending o lk := by
    intro o lk hp
    have ho : o ∉ ks := fun ho => by
      have := h.live o ho
      rw [hp.not_live] at this; cases this
    obtain ⟨ob, hg, r⟩ := hp
    exact ⟨ob, by rw [h.other o ho]; exact hg, r⟩
  refine ⟨fun o hm => hkeep o _ (hK.1 o (h.finishSingle_mem hm)), fun ks' hm k hk => ?_, fun o => ?_⟩
  · rcases h.phase3_mem hm with rfl | hm'
    · obtain ⟨ob, n, hg, -, hs, hg'⟩ := h.key_obj hk
      exact ⟨p2Obj ob, hg', rfl, rfl, ((hO k ob hg).1 n hs).2.2.2⟩
    · exact hkeep k _ (hK.2.1 ks' hm' k hk)
  · rw [h.owed_eq]
    by_cases ho : o ∈ ks
    · have h1 : ks.count o = 1 := by rw [h.nodup.count, if_pos ho]
      have h2 := State.owed_eq_zero_of_isLive hK (h.live o ho)
      omega
    · have h1 : ks.count o = 0 := List.count_eq_zero.mpr ho
      have h2 := hK.2.2 o
      omega

theorem invCore (h : Teardown s s' ks vs) (hI : s.InvCore) : s'.InvCore := by
  obtain ⟨hO, hB, hC, hW, hK⟩ := hI
  exact ⟨h.invO hO, h.invB hO hB, h.invC hC, h.invW hW, h.invK hO hK⟩

end Teardown

/-! ## `dropCycle` is a teardown step -/

/-- in a state satisfying the invariants, a passed orphan test makes the map ready for teardown -/
theorem cycleReady_of_inv (s : State) (o : Nat) (hO : s.InvO) (hB : s.InvB) (herr : s.err = none)
    (ho : s.isLive o = true) (hext : hasExternalOwners s (cycleRefs s o).cmap = false) :
    CycleReady s (cycleRefs s o).cmap where
  nodup := keys_nodup s o hO hB ho
  noerr := herr
  ready := by
    intro k hk
    obtain ⟨ob, n, hg, hf, hs⟩ := (State.isLive_iff s k).mp (keys_live s o hO hB ho k hk)
    obtain ⟨h1, -⟩ := hO k ob hg
    obtain ⟨hv, hl, -, -⟩ := h1 n hs
    have hle := strong_le_cmap s o hO hB ho hext k hk
    rw [State.strongNat_of_get hg, hs] at hle
    cases hvv : ob.value with
    | none => rw [hvv] at hv; cases hv
    | some v =>
      cases hll : ob.links with
      | none => rw [hll] at hl; cases hl
      | some t => exact ⟨ob, t, n + 1, v, hg, hf, hll, hs, hvv, hle⟩

theorem dropCycle_teardown (s : State) (o : Nat) (hO : s.InvO) (hB : s.InvB) (herr : s.err = none)
    (ho : s.isLive o = true) (hne : (cycleRefs s o).cmap.isEmpty = false)
    (hext : hasExternalOwners s (cycleRefs s o).cmap = false) :
    Teardown s (s.dropCycle (cycleRefs s o).cmap) (cycleRefs s o).cmap.keys
      (s.cyc2 (cycleRefs s o).cmap).2 := by
  have hR := cycleReady_of_inv s o hO hB herr ho hext
  obtain ⟨-, -, hst, hro, hwr, hva, hra, -⟩ := dropCycle_spec s _ hR
  exact {
    nodup := hR.nodup
    live := keys_live s o hO hB ho
    len := dropCycle_heap_length s _ hR
    key := fun k hk ob hg => dropCycle_heap_key s _ hR k hk ob hg
    other := fun a ha => dropCycle_heap_other s _ hR a ha
    vals := (phase2_spec s _ hR).2.2.2.2.2
    stack := ⟨_, reorder_perm s.hint _, hst⟩
    roots := hro
    wroots := hwr
    pvals := hva
    raws := hra
    clean := by
      intro a ha hak m hm
      have hkv := keys_eq_visited s o hO hB ho hne hext
      have := survivors_clean s o hO hB ho hne hext a ha (fun hv => hak ((hkv a).mpr hv)) m
        ((hkv m).mp hm)
      exact ⟨this.1, this.2.1⟩ }

theorem dropCycle_inv (s2 : State) (o : Nat) (hI : s2.InvCore) (herr : s2.err = none)
    (ho : s2.isLive o = true) (hne : (cycleRefs s2 o).cmap.isEmpty = false)
    (hext : hasExternalOwners s2 (cycleRefs s2 o).cmap = false) :
    (s2.dropCycle (cycleRefs s2 o).cmap).InvCore :=
  (dropCycle_teardown s2 o hI.1 hI.2.1 herr ho hne hext).invCore hI

theorem dropCycle_InvO (s2 : State) (o : Nat) (hI : s2.InvCore) (herr : s2.err = none)
    (ho : s2.isLive o = true) (hne : (cycleRefs s2 o).cmap.isEmpty = false)
    (hext : hasExternalOwners s2 (cycleRefs s2 o).cmap = false) :
    (s2.dropCycle (cycleRefs s2 o).cmap).InvO := (dropCycle_inv s2 o hI herr ho hne hext).1
theorem dropCycle_InvB (s2 : State) (o : Nat) (hI : s2.InvCore) (herr : s2.err = none)
    (ho : s2.isLive o = true) (hne : (cycleRefs s2 o).cmap.isEmpty = false)
    (hext : hasExternalOwners s2 (cycleRefs s2 o).cmap = false) :
    (s2.dropCycle (cycleRefs s2 o).cmap).InvB := (dropCycle_inv s2 o hI herr ho hne hext).2.1
theorem dropCycle_InvC (s2 : State) (o : Nat) (hI : s2.InvCore) (herr : s2.err = none)
    (ho : s2.isLive o = true) (hne : (cycleRefs s2 o).cmap.isEmpty = false)
    (hext : hasExternalOwners s2 (cycleRefs s2 o).cmap = false) :
    (s2.dropCycle (cycleRefs s2 o).cmap).InvC := (dropCycle_inv s2 o hI herr ho hne hext).2.2.1
theorem dropCycle_InvW (s2 : State) (o : Nat) (hI : s2.InvCore) (herr : s2.err = none)
    (ho : s2.isLive o = true) (hne : (cycleRefs s2 o).cmap.isEmpty = false)
    (hext : hasExternalOwners s2 (cycleRefs s2 o).cmap = false) :
    (s2.dropCycle (cycleRefs s2 o).cmap).InvW := (dropCycle_inv s2 o hI herr ho hne hext).2.2.2.1
theorem dropCycle_InvK (s2 : State) (o : Nat) (hI : s2.InvCore) (herr : s2.err = none)
    (ho : s2.isLive o = true) (hne : (cycleRefs s2 o).cmap.isEmpty = false)
    (hext : hasExternalOwners s2 (cycleRefs s2 o).cmap = false) :
    (s2.dropCycle (cycleRefs s2 o).cmap).InvK := (dropCycle_inv s2 o hI herr ho hne hext).2.2.2.2

/-! ## the trace only reads the heap -/

theorem traceLoop_congr {s s' : State} (h : ∀ n, s'.tableOf n = s.tableOf n) (f : Nat)
    (wl vis : List Nat) (m : CMap) (p : Nat) :
    traceLoop s' f wl vis m p = traceLoop s f wl vis m p := by
  induction f generalizing wl vis m p with
  | zero => rw [traceLoop_zero, traceLoop_zero]
  | succ f ih =>
    cases wl with
    | nil => rfl
    | cons n wl =>
      by_cases hn : n ∈ vis
      · rw [traceLoop_skip s' f n wl vis m p hn, traceLoop_skip s f n wl vis m p hn]
        exact ih _ _ _ _
      · cases ht : s.tableOf n with
        | none =>
          rw [traceLoop_bad s' f n wl vis m p hn ((h n).trans ht),
            traceLoop_bad s f n wl vis m p hn ht]
        | some t =>
          rw [traceLoop_scan s' f n wl vis m p t hn ((h n).trans ht),
            traceLoop_scan s f n wl vis m p t hn ht]
          exact ih _ _ _ _

theorem cycleRefs_congr {s s' : State} (h : s'.heap = s.heap) (x : Nat) :
    cycleRefs s' x = cycleRefs s x := by
  unfold cycleRefs
  have hf : traceFuel s' = traceFuel s := by unfold traceFuel; rw [h]
  rw [hf]
  exact traceLoop_congr (fun n => State.tableOf_congr h n) _ _ _ _ _

@[simp] theorem cycleRefs_emit (s : State) (e : Ev) (x : Nat) :
    cycleRefs (s.emit e) x = cycleRefs s x :=
  cycleRefs_congr (s := s) (s' := s.emit e) rfl x

/-! ## `emit` preserves the invariant -/

theorem State.InvCore_emit {s : State} (hI : s.InvCore) (e : Ev) : (s.emit e).InvCore :=
  State.InvCore_congr hI rfl rfl (fun _ => rfl) (fun _ => rfl)

/-! ## the trace branch of `Rc::drop` -/

theorem State.rcDrop_eq_traceBranch (s0 : State) (o : Nat) (ob : Obj) (n : Nat) (t : Table)
    (hc : s0.cell o = some ob) (hs : ob.strong = .cnt (n + 2)) (hl : ob.links = some t)
    (ht : t.isEmpty = false) :
    s0.rcDrop o = (s0.setObj o { ob with strong := .cnt (n + 1) }).traceBranch o := by
  unfold State.rcDrop State.traceBranch
  simp only [hc, hs, hl, ht]
  rw [if_neg Bool.false_ne_true, if_neg (Nat.succ_ne_zero n)]
  rfl

theorem rcDrop_eq_single_empty (s0 : State) (o : Nat) (ob : Obj) (t : Table)
    (hc : s0.cell o = some ob) (hs : ob.strong = .cnt 1) (hl : ob.links = some t)
    (ht : t.isEmpty = true) :
    s0.rcDrop o = (s0.setObj o { ob with strong := .cnt 0 }).beginSingle o := by
  unfold State.rcDrop
  simp only [hc, hs, hl, ht, if_true]

theorem rcDrop_eq_single_purge (s0 : State) (o : Nat) (ob : Obj) (t : Table)
    (hc : s0.cell o = some ob) (hs : ob.strong = .cnt 1) (hl : ob.links = some t)
    (ht : t.isEmpty = false) :
    s0.rcDrop o = ((s0.setObj o { ob with strong := .cnt 0 }).purgePeers o).beginSingle o := by
  unfold State.rcDrop
  simp only [hc, hs, hl, ht, Bool.false_eq_true, if_false, if_true]

theorem rcDrop_eq_dec_empty (s0 : State) (o : Nat) (ob : Obj) (n : Nat) (t : Table)
    (hc : s0.cell o = some ob) (hs : ob.strong = .cnt (n + 2)) (hl : ob.links = some t)
    (ht : t.isEmpty = true) :
    s0.rcDrop o = s0.setObj o { ob with strong := .cnt (n + 1) } := by
  unfold State.rcDrop
  simp only [hc, hs, hl, ht, if_true]
  rw [if_neg (Nat.succ_ne_zero n)]

/-- Under `InvO` and `InvB` the trace from a live object reads every table it meets within its
fuel, so the four error exits of the trace branch are dead code; what is left is the orphan test. -/
theorem State.traceBranch_eq_of_inv (s1 : State) (o : Nat) (hO : s1.InvO) (hB : s1.InvB)
    (ho : s1.isLive o = true) :
    s1.traceBranch o =
      if (cycleRefs s1 o).cmap.isEmpty = true ∨ hasExternalOwners s1 (cycleRefs s1 o).cmap = true
      then s1.emit (.traced o (cycleRefs s1 o).visited.length (cycleRefs s1 o).popped)
      else (s1.emit (.traced o (cycleRefs s1 o).visited.length (cycleRefs s1 o).popped)).dropCycle
        (cycleRefs s1 o).cmap := by
  obtain ⟨hbad, hfuel⟩ := cycleRefs_ok s1 o hO hB ho
  unfold State.traceBranch
  simp only [hbad, hfuel]
  generalize Ev.traced o (cycleRefs s1 o).visited.length (cycleRefs s1 o).popped = e
  have hfu := firstUnreadable_none (s1.emit e) o hO hB ho
  rw [cycleRefs_emit s1 e o] at hfu
  simp only [hfu]
  have hx : hasExternalOwners (s1.emit e) (cycleRefs s1 o).cmap
      = hasExternalOwners s1 (cycleRefs s1 o).cmap := rfl
  rw [hx]
  cases (cycleRefs s1 o).cmap.isEmpty <;> cases hasExternalOwners s1 (cycleRefs s1 o).cmap <;> simp

/-- the trace branch in an error-free state: it logs the trace and stops there (no group, or a group
with an outside owner), or tears the orphaned group down (the log plays no part in a teardown) -/
theorem traceBranch_inv (s1 : State) (o : Nat) (herr : s1.err = none) (hO : s1.InvO) (hB : s1.InvB)
    (ho : s1.isLive o = true) :
    ∃ e, e = Ev.traced o (cycleRefs s1 o).visited.length (cycleRefs s1 o).popped
      ∧ (s1.traceBranch o = s1.emit e
        ∨ ((cycleRefs s1 o).cmap.isEmpty = false
          ∧ hasExternalOwners s1 (cycleRefs s1 o).cmap = false
          ∧ s1.traceBranch o = (s1.emit e).dropCycle (cycleRefs s1 o).cmap
          ∧ CycleReady (s1.emit e) (cycleRefs s1 o).cmap
          ∧ Teardown s1 (s1.traceBranch o) (cycleRefs s1 o).cmap.keys
              ((s1.emit e).cyc2 (cycleRefs s1 o).cmap).2)) := by
  refine ⟨_, rfl, ?_⟩
  rw [State.traceBranch_eq_of_inv s1 o hO hB ho]
  generalize Ev.traced o (cycleRefs s1 o).visited.length (cycleRefs s1 o).popped = e
  have hcr : cycleRefs (s1.emit e) o = cycleRefs s1 o := cycleRefs_emit s1 e o
  split
  · exact .inl rfl
  · next h =>
    have hne : (cycleRefs s1 o).cmap.isEmpty = false := by simpa using fun hh => h (.inl hh)
    have hext : hasExternalOwners s1 (cycleRefs s1 o).cmap = false := by
      simpa using fun hh => h (.inr hh)
    have hT := dropCycle_teardown (s1.emit e) o hO hB herr ho (by rw [hcr]; exact hne)
      (by rw [hcr]; exact hext)
    have hR := cycleReady_of_inv (s1.emit e) o hO hB herr ho (by rw [hcr]; exact hext)
    rw [hcr] at hT hR
    exact .inr ⟨hne, hext, rfl, hR, hT.nodup, hT.live, hT.len, hT.key, hT.other, hT.vals, hT.stack,
      hT.roots, hT.wroots, hT.pvals, hT.raws, hT.clean⟩

theorem State.traceBranch_noerr (s1 : State) (o : Nat) (herr : s1.err = none) (hO : s1.InvO)
    (hB : s1.InvB) (ho : s1.isLive o = true) : (s1.traceBranch o).err = none := by
  obtain ⟨e, -, h | ⟨-, -, h, hR, -⟩⟩ := traceBranch_inv s1 o herr hO hB ho <;> rw [h]
  · exact herr
  · exact (dropCycle_spec _ _ hR).2.1

theorem trace_branch_inv (s1 : State) (o : Nat) (herr : s1.err = none) (hI : s1.InvCore)
    (ho : s1.isLive o = true) : (s1.traceBranch o).Inv := by
  obtain ⟨e, -, h | ⟨-, -, -, -, hT⟩⟩ := traceBranch_inv s1 o herr hI.1 hI.2.1 ho
  · rw [h]; exact fun _ => State.InvCore_emit hI e
  · exact fun _ => hT.invCore hI

/-- the state in which the trace of `Rc::drop` runs (frame popped, count decremented and still
positive) is error-free and satisfies the invariant, and `o` is live in it -/
theorem rcDrop_trace_state {s : State} {o : Nat} {rest : List Frame} {ob : Obj} {n : Nat}
    (hst : s.stack = .rcDrop o :: rest) (herr : s.err = none) (h : s.Inv)
    (hc : s.cell o = some ob) (hs : ob.strong = .cnt (n + 1)) (hn : n ≠ 0) :
    (({ s with stack := rest } : State).setObj o { ob with strong := .cnt n }).err = none
    ∧ (({ s with stack := rest } : State).setObj o { ob with strong := .cnt n }).InvCore
    ∧ (({ s with stack := rest } : State).setObj o { ob with strong := .cnt n }).isLive o = true := by
  cases n with
  | zero => exact absurd rfl hn
  | succ m =>
    refine ⟨herr, rcDrop_inv_dec_state herr hst h hc hs, ?_⟩
    rw [isLive_of_get (getElem?_setObj_same (s := { s with stack := rest }) _ (get_lt (get_of_cell hc)))]
    simp [freed_of_cell hc, Strong.isDead]

end Cactus
