import Cactus.Lemmas.Count
import Cactus.Lemmas.Orphan
/-!
# Carrying the clauses of `InvCore` from one state to another

`InvO` and `InvK` look at one object at a time and only at the class of its counters: they survive
when every object is replaced by a similar one (`Obj.Sim`).  `InvB` reads the readable tables and
liveness, `InvC` and `InvW` are equations between counting functions.  The files on the single
actions and frames reduce to these lemmas.
-/
namespace Cactus

/-- what `InvO` says of one object -/
def Obj.OK (ob : Obj) : Prop :=
  (∀ n, ob.strong = .cnt (n + 1) → ob.value.isSome = true ∧ ob.links.isSome = true ∧ ob.freed = false
      ∧ ob.implicit = true)
  ∧ (ob.strong = .cnt 0 → ob.value = none ∧ ob.links = none)
  ∧ (ob.strong = .uninit → ob.value = none ∧ (ob.links = none ∨ (ob.links = some [] ∧ ob.implicit = true)))
  ∧ (ob.freed = true ↔ ob.weak = 0)

/-- `ob'` is in the same state as `ob` as far as `InvO` and `InvK` can tell: the counters stay in
their class (positive, zero, sentinel), value and table stay present or absent, and an empty table
of a dead object stays empty -/
structure Obj.Sim (ob ob' : Obj) : Prop where
  strong : ob'.strong = ob.strong ∨ ∃ n m, ob.strong = .cnt (n + 1) ∧ ob'.strong = .cnt (m + 1)
  weak : ob'.weak = 0 ↔ ob.weak = 0
  freed : ob'.freed = ob.freed
  implicit : ob'.implicit = ob.implicit
  value : ob'.value.isSome = ob.value.isSome
  links : ob'.links.isSome = ob.links.isSome
  nil : ob.strong.isDead = true → ob.links = some [] → ob'.links = some []

theorem eq_none_of_isSome_eq {α β : Type} {a : Option α} {b : Option β} (h : a.isSome = b.isSome)
    (hb : b = none) : a = none := by
  subst hb
  cases a with
  | none => rfl
  | some _ => cases h

namespace Obj.Sim
variable {ob ob' : Obj}

theorem refl (ob : Obj) : ob.Sim ob := ⟨.inl rfl, Iff.rfl, rfl, rfl, rfl, rfl, fun _ h => h⟩

theorem isDead (sim : ob.Sim ob') : ob'.strong.isDead = ob.strong.isDead := by
  rcases sim.strong with e | ⟨n, m, h1, h2⟩
  · rw [e]
  · rw [h1, h2]; rfl

theorem strong_of_dead (sim : ob.Sim ob') (hd : ob.strong.isDead = true) : ob'.strong = ob.strong := by
  rcases sim.strong with e | ⟨n, m, h1, -⟩
  · exact e
  · rw [h1] at hd; cases hd

theorem strong_of_dead' (sim : ob.Sim ob') (hd : ob'.strong.isDead = true) : ob.strong = ob'.strong :=
  (sim.strong_of_dead (sim.isDead ▸ hd)).symm

theorem cnt_succ (sim : ob.Sim ob') {n : Nat} (hn : ob'.strong = .cnt (n + 1)) :
    ∃ k, ob.strong = .cnt (k + 1) := by
  rcases sim.strong with e | ⟨k, m, hk, -⟩
  · exact ⟨n, by rw [← e, hn]⟩
  · exact ⟨k, hk⟩

theorem ok (sim : ob.Sim ob') (h : ob.OK) : ob'.OK := by
  obtain ⟨h1, h2, h3, h4⟩ := h
  refine ⟨fun n hn => ?_, fun h0 => ?_, fun hu => ?_, ?_⟩
  · obtain ⟨k, hk⟩ := sim.cnt_succ hn
    obtain ⟨a, b, c, d⟩ := h1 k hk
    exact ⟨sim.value.trans a, sim.links.trans b, sim.freed.trans c, sim.implicit.trans d⟩
  · obtain ⟨a, b⟩ := h2 ((sim.strong_of_dead' (by rw [h0]; rfl)).trans h0)
    exact ⟨eq_none_of_isSome_eq sim.value a, eq_none_of_isSome_eq sim.links b⟩
  · have e : ob.strong = .uninit := (sim.strong_of_dead' (by rw [hu]; rfl)).trans hu
    obtain ⟨a, b⟩ := h3 e
    refine ⟨eq_none_of_isSome_eq sim.value a, ?_⟩
    rcases b with b | ⟨b, c⟩
    · exact .inl (eq_none_of_isSome_eq sim.links b)
    · exact .inr ⟨sim.nil (by rw [e]; rfl) b, sim.implicit.trans c⟩
  · rw [sim.freed]
    exact h4.trans sim.weak.symm

end Obj.Sim

namespace State

theorem Inv_fail (s : State) (e : Err) : (s.fail e).Inv :=
  fun h => absurd h (fail_err_ne_none s e)

theorem Inv_badRoot {s : State} (h : s.Inv) (r : Nat) : (s.badRoot r).Inv := by
  rcases badRoot_cases s r with e | ⟨e, he⟩
  · rw [e]; exact h
  · rw [he]; exact Inv_fail s e

theorem InvO_of_heap_eq {s s' : State} (hh : s'.heap = s.heap) (h : s.InvO) : s'.InvO := by
  intro o ob hget
  rw [hh] at hget
  exact h o ob hget

theorem InvO.sim_or {s s' : State} (hO : s.InvO) (hlen : s'.heap.length = s.heap.length)
    (hs : ∀ (o : Nat) (ob : Obj), s.heap[o]? = some ob →
      ∃ ob' : Obj, s'.heap[o]? = some ob' ∧ (ob.Sim ob' ∨ ob'.OK)) : s'.InvO := by
  intro o ob' hg'
  have hlt : o < s.heap.length := hlen ▸ get_lt hg'
  have hg : s.heap[o]? = some s.heap[o] := List.getElem?_eq_getElem hlt
  obtain ⟨ob'', hg'', sim | ok⟩ := hs o _ hg <;> (rw [hg'] at hg''; cases hg'')
  · exact sim.ok (hO o _ hg)
  · exact ok

theorem InvO.sim {s s' : State} (hO : s.InvO) (hlen : s'.heap.length = s.heap.length)
    (hs : ∀ (o : Nat) (ob : Obj), s.heap[o]? = some ob → ∃ ob' : Obj, s'.heap[o]? = some ob' ∧ ob.Sim ob') :
    s'.InvO :=
  hO.sim_or hlen fun o ob hg => let ⟨ob', hg', sim⟩ := hs o ob hg; ⟨ob', hg', .inl sim⟩

theorem tableOf_eq_nil_of_not_live {s : State} (hO : s.InvO) {p : Nat} {tp : Table}
    (htp : s.tableOf p = some tp) (hl : s.isLive p = false) : tp = [] := by
  obtain ⟨ob, hg, hf, hlk⟩ := (tableOf_eq_some_iff s p tp).1 htp
  obtain ⟨-, h0, hu, -⟩ := hO p ob hg
  rw [isLive_of_get hg, hf] at hl
  cases hs : ob.strong with
  | uninit =>
    rcases (hu hs).2 with h | h
    · rw [h] at hlk; cases hlk
    · rw [h.1] at hlk; cases hlk; rfl
  | cnt n =>
    cases n with
    | zero => rw [(h0 hs).2] at hlk; cases hlk
    | succ n => simp [hs] at hl

theorem InvO.setObj {s : State} (hO : s.InvO) (o : Nat) {ob' : Obj} (h : ob'.OK) :
    (s.setObj o ob').InvO := by
  intro x obx hx
  rw [getElem?_setObj] at hx
  split at hx
  · split at hx
    · cases hx; exact h
    · cases hx
  · exact hO x obx hx

/-- the object a continuation frame waits for: marked uninit, its table `lk` (empty before
`finishSingle`, moved out before `phase3`), the implicit weak reference still owned -/
def Pending (s : State) (o : Nat) (lk : Option Table) : Prop :=
  ∃ ob, s.heap[o]? = some ob ∧ ob.strong = .uninit ∧ ob.links = lk ∧ ob.implicit = true

theorem Pending.sim {s s' : State} {o : Nat} {lk : Option Table} (hlk : lk = none ∨ lk = some [])
    (h : s.Pending o lk)
    (hs : ∀ ob, s.heap[o]? = some ob → ∃ ob' : Obj, s'.heap[o]? = some ob' ∧ ob.Sim ob') :
    s'.Pending o lk := by
  obtain ⟨ob, hg, hu, hl, hi⟩ := h
  obtain ⟨ob', hg', sim⟩ := hs ob hg
  have hd : ob.strong.isDead = true := by rw [hu]; rfl
  refine ⟨ob', hg', (sim.strong_of_dead hd).trans hu, ?_, sim.implicit.trans hi⟩
  rcases hlk with rfl | rfl
  · exact eq_none_of_isSome_eq sim.links hl
  · exact sim.nil hd hl

theorem Pending.not_live {s : State} {o : Nat} {lk : Option Table} (h : s.Pending o lk) :
    s.isLive o = false := by
  obtain ⟨ob, hg, hu, -, -⟩ := h
  rw [isLive_of_get hg, hu]; simp

theorem owed_eq_zero_of_isLive {s : State} (hK : s.InvK) {o : Nat} (hl : s.isLive o = true) :
    s.owed o = 0 := by
  apply Nat.eq_zero_of_not_pos
  intro hpos
  have hnl : s.isLive o = false := by
    rcases (owed_pos_iff s o).1 hpos with h | ⟨ks, h, hk⟩
    · exact Pending.not_live (hK.1 o h)
    · exact Pending.not_live (hK.2.1 ks h o hk)
  rw [hl] at hnl; cases hnl

/-- continuation frames: the ones `InvK` talks about -/
def _root_.Cactus.Frame.isCont : Frame → Bool
  | .finishSingle _ => true
  | .phase3 _ => true
  | _ => false

theorem _root_.Cactus.Frame.isCont_of_cleanup {f : Frame} (h : f.isCleanup = true) : f.isCont = false := by
  cases f <;> first | rfl | cases h

theorem InvK.transfer {s s' : State} (hK : s.InvK)
    (hsub : ∀ f, f ∈ s'.stack → f.isCont = true → f ∈ s.stack)
    (ho : ∀ o, s'.owed o ≤ s.owed o)
    (hs : ∀ o lk, (lk = none ∨ lk = some []) → 0 < s.owed o → s.Pending o lk → s'.Pending o lk) :
    s'.InvK := by
  refine ⟨fun o hm => ?_, fun ks hm k hk => ?_, fun o => Nat.le_trans (ho o) (hK.2.2 o)⟩
  · have hm' := hsub _ hm rfl
    exact hs o _ (.inr rfl) ((owed_pos_iff s o).2 (.inl hm')) (hK.1 o hm')
  · have hm' := hsub _ hm rfl
    exact hs k _ (.inl rfl) ((owed_pos_iff s k).2 (.inr ⟨ks, hm', hk⟩)) (hK.2.1 ks hm' k hk)

theorem Pending.congr {s s' : State} (hh : s'.heap = s.heap) {o : Nat} {lk : Option Table}
    (h : s.Pending o lk) : s'.Pending o lk := by
  rw [Pending, hh]; exact h

theorem mem_of_isCont {s s' : State}
    (hf : ∀ o, Frame.finishSingle o ∈ s'.stack → Frame.finishSingle o ∈ s.stack)
    (hp : ∀ ks, Frame.phase3 ks ∈ s'.stack → Frame.phase3 ks ∈ s.stack) :
    ∀ f, f ∈ s'.stack → f.isCont = true → f ∈ s.stack := by
  intro f hm hc
  cases f with
  | finishSingle o => exact hf o hm
  | phase3 ks => exact hp ks hm
  | _ => cases hc

theorem InvK_of_sub {s s' : State} (hh : s'.heap = s.heap)
    (hf : ∀ o, Frame.finishSingle o ∈ s'.stack → Frame.finishSingle o ∈ s.stack)
    (hp : ∀ ks, Frame.phase3 ks ∈ s'.stack → Frame.phase3 ks ∈ s.stack)
    (ho : ∀ o, s'.owed o ≤ s.owed o) (h : s.InvK) : s'.InvK :=
  h.transfer (mem_of_isCont hf hp) ho (fun _ _ _ _ hp => hp.congr hh)

theorem InvK.sim {s s' : State} (hK : s.InvK) (hst : s'.stack = s.stack)
    (hs : ∀ (o : Nat) (ob : Obj), s.heap[o]? = some ob → ∃ ob' : Obj, s'.heap[o]? = some ob' ∧ ob.Sim ob') :
    s'.InvK :=
  hK.transfer (fun _ hm _ => hst ▸ hm) (fun o => Nat.le_of_eq (owed_congr hst o))
    (fun o _ hlk _ h => h.sim hlk (hs o))

theorem InvB.restrict {s s' : State} (hl : ∀ x, s'.isLive x = s.isLive x)
    (ht : ∀ x t, s'.tableOf x = some t → s.tableOf x = some t)
    (htl : ∀ x, s.isLive x = true → s'.tbl x = s.tbl x) (h : s.InvB) : s'.InvB := by
  refine ⟨fun o t hot => ?_, fun a b ha hb => ?_⟩
  · obtain ⟨wf, he⟩ := h.1 o t (ht o t hot)
    exact ⟨wf, fun e hm => ⟨(he e hm).1, fun hk => by rw [hl]; exact (he e hm).2 hk⟩⟩
  · rw [hl] at ha hb
    rw [F_def, B_def, htl a ha, htl b hb]
    exact h.2 a b ha hb

theorem InvB.congr {s s' : State} (ht : ∀ x, s'.tableOf x = s.tableOf x)
    (hl : ∀ x, s'.isLive x = s.isLive x) (h : s.InvB) : s'.InvB :=
  h.restrict hl (fun x t hx => by rw [← ht]; exact hx) (fun x _ => by rw [tbl_def, tbl_def, ht])

theorem InvB_of_heap_eq {s s' : State} (hh : s'.heap = s.heap) (h : s.InvB) : s'.InvB :=
  h.congr (tableOf_congr hh) (isLive_congr hh)

/-! ## `InvC`, `InvW` and the whole of `InvCore` over an unchanged heap -/

theorem InvC_of_eq {s s' : State} (hh : s'.heap = s.heap)
    (he : ∀ o, s'.ext o + s'.pend o = s.ext o + s.pend o) (h : s.InvC) : s'.InvC := by
  intro t ht
  rw [isLive_congr hh] at ht
  have h1 := h t ht
  have h2 := he t
  rw [strongNat_congr hh, inHeap_congr hh]
  omega

theorem InvW_of_eq {s s' : State} (hh : s'.heap = s.heap)
    (he : ∀ o, s'.extW o + s'.pendW o = s.extW o + s.pendW o) (h : s.InvW) : s'.InvW := by
  intro t ht
  rw [hh] at ht
  have h1 := h t ht
  have h2 := he t
  rw [weakNat_congr hh, inHeapW_congr hh, implicitNat_congr hh]
  omega

/-- the heap is untouched; handles may move between the program and frames, and continuation
frames are only removed -/
theorem InvCore_same_heap {s s' : State} (h : InvCore s) (hh : s'.heap = s.heap)
    (hC : ∀ t, s'.ext t + s'.pend t = s.ext t + s.pend t)
    (hW : ∀ t, s'.extW t + s'.pendW t = s.extW t + s.pendW t)
    (hF : ∀ o, Frame.finishSingle o ∈ s'.stack → Frame.finishSingle o ∈ s.stack)
    (hP : ∀ ks, Frame.phase3 ks ∈ s'.stack → Frame.phase3 ks ∈ s.stack)
    (hO : ∀ o, s'.owed o ≤ s.owed o) : InvCore s' :=
  ⟨InvO_of_heap_eq hh h.1, InvB_of_heap_eq hh h.2.1, InvC_of_eq hh hC h.2.2.1,
    InvW_of_eq hh hW h.2.2.2.1, InvK_of_sub hh hF hP hO h.2.2.2.2⟩

theorem InvCore_of_eq {s s' : State} (hh : s'.heap = s.heap)
    (he : ∀ o, s'.ext o = s.ext o) (heW : ∀ o, s'.extW o = s.extW o)
    (hp : ∀ o, s'.pend o = s.pend o) (hpW : ∀ o, s'.pendW o = s.pendW o)
    (hf : ∀ o, Frame.finishSingle o ∈ s'.stack → Frame.finishSingle o ∈ s.stack)
    (hp3 : ∀ ks, Frame.phase3 ks ∈ s'.stack → Frame.phase3 ks ∈ s.stack)
    (ho : ∀ o, s'.owed o ≤ s.owed o) (h : s.InvCore) : s'.InvCore :=
  InvCore_same_heap h hh (fun t => by rw [he, hp]) (fun t => by rw [heW, hpW]) hf hp3 ho

theorem InvCore_congr {s s' : State} (h : InvCore s) (hh : s'.heap = s.heap) (hs : s'.stack = s.stack)
    (he : ∀ o, s'.ext o = s.ext o) (hw : ∀ o, s'.extW o = s.extW o) : InvCore s' :=
  InvCore_of_eq hh he hw (pend_congr hs) (pendW_congr hs) (fun _ hm => hs ▸ hm) (fun _ hm => hs ▸ hm)
    (fun o => Nat.le_of_eq (owed_congr hs o)) h

/-! ## one object replaced by a similar one -/

/-- `ob'` is in the same "state" as `ob`: only the counters (within their class) and the contents
of the value changed -/
structure ObjSim (ob ob' : Obj) : Prop where
  links : ob'.links = ob.links
  freed : ob'.freed = ob.freed
  implicit : ob'.implicit = ob.implicit
  value : ob'.value.isSome = ob.value.isSome
  weak : ob'.weak = 0 ↔ ob.weak = 0
  strong : ob'.strong = ob.strong ∨ ∃ n m, ob.strong = .cnt (n + 1) ∧ ob'.strong = .cnt (m + 1)

theorem ObjSim.sim {ob ob' : Obj} (h : ObjSim ob ob') : ob.Sim ob' :=
  ⟨h.strong, h.weak, h.freed, h.implicit, h.value, by rw [h.links], fun _ hn => h.links.trans hn⟩

theorem sim_setObj {s : State} {o : Nat} {ob ob' : Obj} (hg : s.heap[o]? = some ob) (sim : ob.Sim ob')
    (x : Nat) (obx : Obj) (hx : s.heap[x]? = some obx) :
    ∃ obx' : Obj, (s.setObj o ob').heap[x]? = some obx' ∧ obx.Sim obx' := by
  by_cases hxo : x = o
  · subst hxo
    rw [hg] at hx; cases hx
    exact ⟨ob', getElem?_setObj_same _ (get_lt hg), sim⟩
  · exact ⟨obx, by rw [getElem?_setObj_other s _ hxo]; exact hx, .refl obx⟩

/-- One object is replaced by a similar one that stores the same handles and has the same table.
Its counts may change together with the handles owned by the program and by frames. -/
theorem InvCore_setObj {s s' : State} {o : Nat} {ob ob' : Obj} (h : InvCore s)
    (hg : s.heap[o]? = some ob) (sim : ObjSim ob ob')
    (hv : ob'.heldList = ob.heldList) (hvw : ob'.weakList = ob.weakList)
    (hh : s'.heap = (s.setObj o ob').heap)
    (hC : ∀ t, s.isLive t = true →
      s'.strongNat t + (s.ext t + s.pend t) = s.strongNat t + (s'.ext t + s'.pend t))
    (hW : ∀ t, s'.weakNat t + (s.extW t + s.pendW t) = s.weakNat t + (s'.extW t + s'.pendW t))
    (hsub : ∀ f, f ∈ s'.stack → f.isCont = true → f ∈ s.stack)
    (ho : ∀ x, s'.owed x ≤ s.owed x) : InvCore s' := by
  obtain ⟨hO, hB, hCc, hWw, hK⟩ := h
  have hs := sim_setObj hg sim.sim
  have hL : ∀ x, s'.isLive x = s.isLive x := fun x => by
    rw [isLive_congr hh, isLive_setObj_of_eq hg sim.freed sim.sim.isDead]
  refine ⟨InvO_of_heap_eq hh (hO.sim (setObj_heap_length _ _ _) hs), ?_, ?_, ?_, ?_⟩
  · refine hB.congr (fun x => ?_) hL
    rw [tableOf_congr hh, tableOf_setObj_of_links_eq hg sim.links sim.freed]
  · intro t ht
    rw [hL] at ht
    have h1 := hCc t ht
    have h2 := hC t ht
    have h3 := inHeap_setObj' ob' hg t
    rw [inHeap_congr hh]
    rw [hv] at h3
    omega
  · intro t ht
    rw [hh, setObj_heap_length] at ht
    have h1 := hWw t ht
    have h2 := hW t
    have h3 := inHeapW_setObj' ob' hg t
    rw [inHeapW_congr hh, implicitNat_congr hh, implicitNat_setObj_of_implicit_eq hg sim.implicit]
    rw [hvw] at h3
    omega
  · exact hK.transfer hsub ho (fun x _ hlk _ hp => (hp.sim hlk (hs x)).congr hh)

/-- One object is overwritten by one with the same strong count and value that satisfies `InvO` and
whose weak count is exact.  A live object stays allocated and keeps its table; a dead one may lose its
table and be released, unless a continuation frame still waits for it. -/
theorem InvCore_overwrite {s : State} {o : Nat} {ob ob' : Obj}
    (hO : s.InvO) (hB : s.InvB) (hC : s.InvC) (hK : s.InvK)
    (hW : ∀ t, t < s.heap.length → t ≠ o →
      s.weakNat t = s.extW t + s.inHeapW t + s.pendW t + s.implicitNat t)
    (hg : s.heap[o]? = some ob) (hs : ob'.strong = ob.strong) (hv : ob'.value = ob.value) (ok : ob'.OK)
    (hWo : ob'.weak = s.extW o + s.inHeapW o + s.pendW o + (if ob'.implicit then 1 else 0))
    (hf : ob.freed = true → ob'.freed = true)
    (hlk : ob'.links = ob.links ∨ ob'.links = none)
    (hlive : ob.strong.isDead = false → ob'.freed = false ∧ ob'.links = ob.links)
    (hown : 0 < s.owed o → ob'.implicit = ob.implicit ∧ ob'.links = ob.links) :
    (s.setObj o ob').InvCore := by
  have hg' : (s.setObj o ob').heap[o]? = some ob' := getElem?_setObj_same _ (get_lt hg)
  have hother : ∀ x, x ≠ o → (s.setObj o ob').heap[x]? = s.heap[x]? :=
    fun x hx => getElem?_setObj_other s ob' hx
  have hfr : ob'.freed = false → ob.freed = false := fun h' => by
    cases h : ob.freed with
    | false => rfl
    | true => exact (hf h).symm.trans h'
  have hL : ∀ x, (s.setObj o ob').isLive x = s.isLive x := by
    intro x
    by_cases hx : x = o
    · subst hx
      rw [isLive_of_get hg', isLive_of_get hg, hs]
      cases hd : ob.strong.isDead with
      | false => rw [(hlive hd).1, hfr (hlive hd).1]
      | true => simp
    · exact isLive_congr_get (hother x hx)
  refine ⟨hO.setObj o ok, hB.restrict hL (fun x t ht => ?_) (fun x hx => ?_), fun t ht => ?_,
    fun t ht => ?_, ?_⟩
  · by_cases hxo : x = o
    · subst hxo
      obtain ⟨_, hg'', hf', hl'⟩ := (tableOf_eq_some_iff _ _ _).1 ht
      rw [hg'] at hg''; cases hg''
      refine (tableOf_eq_some_iff _ _ _).2 ⟨ob, hg, hfr hf', ?_⟩
      rcases hlk with e | e
      · exact e ▸ hl'
      · rw [e] at hl'; cases hl'
    · rwa [tableOf_congr_get (hother x hxo)] at ht
  · by_cases hxo : x = o
    · subst hxo
      have hd : ob.strong.isDead = false := by
        rw [isLive_of_get hg] at hx
        cases h : ob.strong.isDead with
        | false => rfl
        | true => simp [h] at hx
      rw [tbl_of_get hg', tbl_of_get hg, (hlive hd).1, (hlive hd).2, hfr (hlive hd).1]
    · exact tbl_congr_get (hother x hxo)
  · rw [hL] at ht
    rw [strongNat_setObj_of_strong_eq hg hs, inHeap_setObj_of_value_eq ob' hg hv]
    exact hC t ht
  · rw [setObj_heap_length] at ht
    rw [inHeapW_setObj_of_value_eq ob' hg hv]
    by_cases hto : t = o
    · subst hto
      rw [weakNat_of_get hg', implicitNat_of_get hg']
      exact hWo
    · rw [weakNat_congr_get (hother t hto), implicitNat_congr_get (hother t hto)]
      exact hW t ht hto
  · refine hK.transfer (fun _ hm _ => hm) (fun x => Nat.le_refl _) ?_
    rintro x lk - hpos ⟨obx, hgx, hu, hl, hi⟩
    by_cases hxo : x = o
    · subst hxo
      rw [hg] at hgx; cases hgx
      obtain ⟨e1, e2⟩ := hown hpos
      exact ⟨ob', hg', hs.trans hu, e2.trans hl, e1.trans hi⟩
    · exact ⟨obx, (hother x hxo).trans hgx, hu, hl, hi⟩

theorem Inv_emit {s : State} (h : s.Inv) (e : Ev) : (s.emit e).Inv :=
  fun herr => InvCore_congr (h herr) rfl rfl (fun _ => rfl) (fun _ => rfl)

end State
end Cactus
