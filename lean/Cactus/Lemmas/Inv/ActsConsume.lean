import Cactus.Lemmas.Inv.DropSingle
import Cactus.Lemmas.Inv.ActsSimple
/-!
# Invariant preservation for the two consuming actions `try_unwrap` and `make_mut`

* `giveUp_invCore`: the common tail of both (`giveUp o`: purge peers, kill the object, release the
  implicit weak), from a state in which the counting clauses hold *up to the handles of the value
  `v` still stored in `o`* (they have already been handed to somebody else);
* `cloneHandles_ghost`: the effect of `cloneHandles` on the counters, expressed through a ghost
  state that owns the cloned handles as roots;
* `tryUnwrap_invCore`, `makeMut_clone_invCore`, `makeMut_steal_invCore`: the state changes of a successful
  `try_unwrap` and of the two branches of `make_mut` that move the value.
-/
namespace Cactus
namespace State

theorem giveUp_invCore {s : State} {o : Nat} {ob : Obj} {v : Val}
    (herr : s.err = none) (hO : s.InvO) (hB : s.InvB) (hK : s.InvK)
    (hc : s.cell o = some ob) (hs : ob.strong = .cnt 1) (hv : ob.value = some v)
    (hC : ∀ t, s.isLive t = true → t ≠ o →
      s.strongNat t + v.held.count t = s.ext t + s.inHeap t + s.pend t)
    (hW : ∀ t, t < s.heap.length →
      s.weakNat t + v.weaks.count t = s.extW t + s.inHeapW t + s.pendW t + s.implicitNat t) :
    (s.giveUp o).InvCore ∧ (s.giveUp o).err = none := by
  have hg : s.heap[o]? = some ob := get_of_cell hc
  have hlive : s.isLive o = true := by rw [isLive_of_cell hc, hs]; rfl
  obtain ⟨e1, ⟨ob2, hc2, -, q2, q3, q5, -⟩, hkill⟩ :=
    purge_kill (s1 := s) (st := ob.strong) hO hB hc hs (congrArg State.heap (setObj_self hg)).symm herr
  have hg2 := get_of_cell hc2
  have hv2 : ob2.value = some v := q3.trans hv
  have hgu : s.giveUp o = ((s.purgePeers o).setObj o
      { ob2 with strong := .cnt 0, value := none, links := none }).decWeakFree o true := by
    unfold giveUp; simp only [hc2]
  rw [hgu]
  have hw4 : ob2.freed = true ↔ ob2.weak = 0 := by
    have := (hO o ob hg).2.2.2
    rwa [freed_of_cell hc2, q2, ← freed_of_cell hc]
  obtain ⟨hO3, hB3, l3, hsim⟩ := hkill { ob2 with strong := .cnt 0, value := none, links := none }
    ⟨fun _ hm => (nomatch hm), fun _ => ⟨rfl, rfl⟩, fun h0 => (nomatch h0), hw4⟩ rfl
  have howed := owed_eq_zero_of_isLive hK hlive
  have hK3 := hK.transfer (s' := (s.purgePeers o).setObj o { ob2 with strong := .cnt 0, value := none, links := none })
    (fun g hm _ => by rwa [setObj_stack, purgePeers_stack] at hm)
    (fun x => by rw [owed_setObj, owed_purgePeers]; exact Nat.le_refl _)
    (fun x lk hlk hpos hp => hp.sim hlk (hsim x fun e => by rw [e, howed] at hpos; cases hpos))
  -- the handles of `v` have left the heap
  have hC3 : ((s.purgePeers o).setObj o { ob2 with strong := .cnt 0, value := none, links := none }).InvC := by
    intro x hx
    obtain ⟨hxo, hlx⟩ := (l3 x).1 hx
    have h1 := hC x hlx hxo
    have h2 := inHeap_setObj_move_out { ob2 with strong := .cnt 0, value := none, links := none } hg2 hv2 rfl x
    rw [inHeap_purgePeers] at h2
    rw [strongNat_setObj_other _ _ hxo, strongNat_purgePeers, ext_setObj, ext_purgePeers, pend_setObj,
      pend_purgePeers]
    omega
  have hW3 : ((s.purgePeers o).setObj o { ob2 with strong := .cnt 0, value := none, links := none }).InvW := by
    intro x hx
    have h1 := hW x (by simpa using hx)
    have h2 := inHeapW_setObj_move_out { ob2 with strong := .cnt 0, value := none, links := none } hg2 hv2 rfl x
    rw [inHeapW_purgePeers] at h2
    rw [weakNat_setObj_of_weak_eq (ob' := { ob2 with strong := .cnt 0, value := none, links := none }) hg2 rfl,
      weakNat_purgePeers, extW_setObj, extW_purgePeers, pendW_setObj, pendW_purgePeers,
      implicitNat_setObj_of_implicit_eq (ob' := { ob2 with strong := .cnt 0, value := none, links := none }) hg2 rfl,
      implicitNat_purgePeers]
    omega
  obtain ⟨hres, herr'⟩ := InvCore_decWeakFree true (getElem?_setObj_same _ (get_lt hg2)) hO3 hB3 hC3 hK3
    (fun x hx _ => hW3 x hx) (by simpa using hW3 o (by rw [setObj_heap_length]; exact get_lt hg2))
    (fun _ => ⟨q5, rfl, rfl, by rw [owed_setObj, owed_purgePeers]; exact howed⟩)
  exact ⟨hres, by rw [herr', setObj_err]; exact e1⟩

theorem giveUp_err_none {s : State} {o : Nat} (h : (s.giveUp o).err = none) : s.err = none := by
  unfold giveUp at h
  split at h
  · have := ((decWeakFree_err_eq_none_iff _ _ _).mp h).1
    exact purgePeers_err_none s o this
  · exact absurd h (fail_err_ne_none _ _)

/-- the state change of a successful `try_unwrap` -/
theorem tryUnwrap_invCore {s : State} {i o : Nat} {ob : Obj} {v : Val} (herr : s.err = none)
    (hI : s.InvCore) (hr : s.roots[i]? = some o) (hc : s.cell o = some ob) (hs : ob.strong = .cnt 1)
    (hv : ob.value = some v) :
    (({ s with roots := s.roots.eraseIdx i, vals := s.vals ++ [v] } : State).giveUp o).InvCore := by
  obtain ⟨hO, hB, hC, hW, hK⟩ := hI
  refine (giveUp_invCore (s := { s with roots := s.roots.eraseIdx i, vals := s.vals ++ [v] })
    (ob := ob) (v := v) herr (InvO_of_heap_eq rfl hO) (InvB_of_heap_eq rfl hB)
    (InvK_of_sub rfl (fun _ hm => hm) (fun _ hm => hm) (fun _ => Nat.le_refl _) hK) hc hs hv ?_ ?_).1
  · intro t ht hto
    have h1 := hC t ht
    have h2 := ext_withRootsVals_eraseIdx_append s i v t
    rw [hr] at h2
    have hne : ¬ (some o = some t) := fun e => hto (Option.some.inj e).symm
    rw [if_neg hne] at h2
    show s.strongNat t + v.held.count t = _ + s.inHeap t + s.pend t
    omega
  · intro t ht
    have h1 := hW t ht
    show s.weakNat t + v.weaks.count t = _ + s.inHeapW t + s.pendW t + s.implicitNat t
    rw [extW_withRootsVals, extW_withVals_append]
    omega

theorem incStrong_heap_congr {s g : State} (hh : g.heap = s.heap) (o : Nat) :
    (g.incStrong o).heap = (s.incStrong o).heap := by
  unfold incStrong
  rw [cell_congr hh]
  split
  · split
    · simp [setObj, hh]
    · simp [hh]
  · simp [hh]

theorem incWeak_heap_congr {s g : State} (hh : g.heap = s.heap) (o : Nat) :
    (g.incWeak o).heap = (s.incWeak o).heap := by
  unfold incWeak
  rw [cell_congr hh]
  split
  · split
    · simp [hh]
    · simp [setObj, hh]
  · simp [hh]

theorem foldl_incStrong_err_none (l : List Nat) (s : State) (h : (l.foldl incStrong s).err = none) :
    s.err = none :=
  foldl_lift (Q := fun s s' : State => s'.err = none → s.err = none) (fun _ h => h) (fun h1 h2 h => h1 (h2 h))
    (fun s a h => ((incStrong_err_eq_none_iff s a).mp h).1) l s h

theorem foldl_incWeak_err_none (l : List Nat) (s : State) (h : (l.foldl incWeak s).err = none) :
    s.err = none :=
  foldl_lift (Q := fun s s' : State => s'.err = none → s.err = none) (fun _ h => h) (fun h1 h2 h => h1 (h2 h))
    (fun s a h => ((incWeak_err_eq_none_iff s a).mp h).1) l s h

theorem cloneHandles_err_none {s : State} {v : Val} (h : (s.cloneHandles v).err = none) :
    s.err = none :=
  foldl_incStrong_err_none _ _ (foldl_incWeak_err_none _ _ h)

theorem ext_roots_append (s : State) (l : List Nat) (t : Nat) :
    ({ s with roots := s.roots ++ l } : State).ext t = s.ext t + l.count t := by
  have := ext_withRoots_gen s (s.roots ++ l) t
  rw [count_append] at this
  omega

theorem extW_wroots_append (s : State) (l : List Nat) (t : Nat) :
    ({ s with wroots := s.wroots ++ l } : State).extW t = s.extW t + l.count t := by
  have := extW_withWroots_gen s (s.wroots ++ l) t
  rw [count_append] at this
  omega

/-- the strong half of `cloneHandles`: a ghost state `g` (same heap and stack as `s`, satisfying the
invariant) stays in step when it is given every cloned handle as an additional program handle -/
theorem foldl_incStrong_ghost (l : List Nat) : ∀ (s g : State), g.InvCore → g.heap = s.heap →
    g.stack = s.stack → (l.foldl incStrong s).err = none →
    ∀ g' : State, g'.heap = (l.foldl incStrong s).heap → g'.stack = s.stack →
      (∀ t, g'.ext t = g.ext t + l.count t) → (∀ t, g'.extW t = g.extW t) → g'.InvCore := by
  induction l with
  | nil =>
    intro s g hI hh hst _ g' hh' hst' he hw
    exact InvCore_congr hI (hh'.trans hh.symm) (hst'.trans hst.symm) (fun t => by simpa using he t) hw
  | cons a l ih =>
    intro s g hI hh hst herr g' hh' hst' he hw
    rw [List.foldl_cons] at herr hh'
    have herr1 := foldl_incStrong_err_none l _ herr
    obtain ⟨-, hl⟩ := (incStrong_err_eq_none_iff s a).mp herr1
    have hlg : g.isLive a = true := by rw [isLive_congr hh]; exact hl
    have hI1 : ({ g with heap := (s.incStrong a).heap, roots := g.roots ++ [a] } : State).InvCore :=
      InvCore_incStrong hI hlg (incStrong_heap_congr hh a).symm rfl
        (fun t => by
          have := ext_withRoots_append g a t
          exact this) (fun t => rfl)
    refine ih (s.incStrong a) _ hI1 rfl (by rw [incStrong_stack]; exact hst) herr g' hh'
      (by rw [incStrong_stack]; exact hst') (fun t => ?_) (fun t => by rw [hw]; rfl)
    have h1 : ({ g with heap := (s.incStrong a).heap, roots := g.roots ++ [a] } : State).ext t
        = g.ext t + (if a = t then 1 else 0) := ext_withRoots_append g a t
    rw [he, h1, List.count_cons]
    simp only [beq_iff_eq]
    omega

theorem foldl_incWeak_ghost (l : List Nat) : ∀ (s g : State), g.InvCore → g.heap = s.heap →
    g.stack = s.stack → (l.foldl incWeak s).err = none →
    ∀ g' : State, g'.heap = (l.foldl incWeak s).heap → g'.stack = s.stack →
      (∀ t, g'.ext t = g.ext t) → (∀ t, g'.extW t = g.extW t + l.count t) → g'.InvCore := by
  induction l with
  | nil =>
    intro s g hI hh hst _ g' hh' hst' he hw
    exact InvCore_congr hI (hh'.trans hh.symm) (hst'.trans hst.symm) he (fun t => by simpa using hw t)
  | cons a l ih =>
    intro s g hI hh hst herr g' hh' hst' he hw
    rw [List.foldl_cons] at herr hh'
    have herr1 := foldl_incWeak_err_none l _ herr
    obtain ⟨-, ob, hc, hw0⟩ := (incWeak_err_eq_none_iff s a).mp herr1
    have hcg : g.cell a = some ob := by rw [cell_congr hh]; exact hc
    have hI1 : ({ g with heap := (s.incWeak a).heap, wroots := g.wroots ++ [a] } : State).InvCore :=
      InvCore_incWeak hI hcg hw0 (incWeak_heap_congr hh a).symm rfl (fun t => rfl)
        (fun t => by
          have := extW_withWroots_append g a t
          exact this)
    refine ih (s.incWeak a) _ hI1 rfl (by rw [incWeak_stack]; exact hst) herr g' hh'
      (by rw [incWeak_stack]; exact hst') (fun t => by rw [he]; rfl) (fun t => ?_)
    have h1 : ({ g with heap := (s.incWeak a).heap, wroots := g.wroots ++ [a] } : State).extW t
        = g.extW t + (if a = t then 1 else 0) := extW_withWroots_append g a t
    rw [hw, h1, List.count_cons]
    simp only [beq_iff_eq]
    omega

/-- `cloneHandles`: if it succeeds, the state with the cloned handles booked as program handles
satisfies the invariant -/
theorem cloneHandles_ghost {s : State} {v : Val} (hI : s.InvCore)
    (herr : (s.cloneHandles v).err = none) (g' : State)
    (hh : g'.heap = (s.cloneHandles v).heap) (hst : g'.stack = s.stack)
    (he : ∀ t, g'.ext t = s.ext t + v.held.count t)
    (hw : ∀ t, g'.extW t = s.extW t + v.weaks.count t) : g'.InvCore := by
  unfold cloneHandles at herr hh
  have hfs := foldl_incStrong_invariant (fun s => s.stack) incStrong_stack v.held s
  have herr1 := foldl_incWeak_err_none _ _ herr
  have hI1 : ({ s with heap := (v.held.foldl incStrong s).heap, roots := s.roots ++ v.held } : State).InvCore :=
    foldl_incStrong_ghost v.held s s hI rfl rfl herr1 _ rfl rfl
      (ext_roots_append s v.held) (fun t => rfl)
  refine foldl_incWeak_ghost v.weaks (v.held.foldl incStrong s) _ hI1 rfl ?_ herr g' hh ?_ ?_ ?_
  · exact hfs.symm
  · rw [hst]; exact hfs.symm
  · intro t
    rw [he]
    exact (ext_roots_append s v.held t).symm
  · intro t
    rw [hw]; rfl

/-! ## the state changes of `make_mut` -/

theorem ext_of_roots_set {s s' : State} {i o new : Nat} (hr : s.roots[i]? = some o)
    (hroots : s'.roots = s.roots.set i new) (hraws : s'.raws = s.raws) (hvals : s'.vals = s.vals)
    (t : Nat) :
    s'.ext t + (if o = t then 1 else 0) = s.ext t + (if new = t then 1 else 0) := by
  have hlt : i < s.roots.length := (List.getElem?_eq_some_iff.mp hr).1
  have := count_set_add s.roots i new t hlt
  rw [hr] at this
  simp only [Option.some.injEq] at this
  simp only [ext, hroots, hraws, hvals]
  omega

theorem extW_of_eq {s s' : State} (hw : s'.wroots = s.wroots) (hvals : s'.vals = s.vals) (t : Nat) :
    s'.extW t = s.extW t := by
  simp only [extW, hw, hvals]

/-- clone branch: the value is cloned into a fresh allocation, the handle is redirected and the old
handle is dropped; `s2` is the resulting state, described field by field.  `v` lists the handles
that `Clone` copies (none, when it is shallow); they are stored in the heap already. -/
theorem makeMut_clone_invCore {s s2 : State} {i o : Nat} {v v' : Val} (hI : s.InvCore) (hR : s.InvR)
    (herr : (s.cloneHandles v).err = none) (hr : s.roots[i]? = some o)
    (hvL : ∀ t, v.held.count t ≤ s.inHeap t) (hvLW : ∀ t, v.weaks.count t ≤ s.inHeapW t)
    (hvh : v'.held = v.held) (hvw : v'.weaks = v.weaks)
    (hheap : s2.heap = ((s.cloneHandles v).alloc v').heap)
    (hroots : s2.roots = (s.cloneHandles v).roots.set i s.heap.length)
    (hraws : s2.raws = (s.cloneHandles v).raws) (hvals : s2.vals = (s.cloneHandles v).vals)
    (hwroots : s2.wroots = (s.cloneHandles v).wroots)
    (hstack : s2.stack = .rcDrop o :: (s.cloneHandles v).stack) : s2.InvCore := by
  have hc := HeapRel.cloneHandles s v
  rw [hc.roots] at hroots
  rw [hc.raws] at hraws
  rw [hc.vals] at hvals
  rw [hc.wroots] at hwroots
  rw [hc.stack] at hstack
  -- the ghost state: the cloned handles are program handles
  obtain ⟨G, hGdef⟩ : ∃ G : State,
      G = { s with heap := (s.cloneHandles v).heap, roots := s.roots ++ v.held, wroots := s.wroots ++ v.weaks } :=
    ⟨_, rfl⟩
  have hGheap : G.heap = (s.cloneHandles v).heap := by rw [hGdef]
  have hGstack : G.stack = s.stack := by rw [hGdef]
  have hGext : ∀ t, G.ext t = s.ext t + v.held.count t := fun t => by
    rw [hGdef]; exact ext_roots_append s v.held t
  have hGextW : ∀ t, G.extW t = s.extW t + v.weaks.count t := fun t => by
    rw [hGdef]; exact extW_wroots_append s v.weaks t
  have hG : G.InvCore := cloneHandles_ghost (s := s) (v := v) hI herr G hGheap hGstack hGext hGextW
  have hGlen : G.heap.length = s.heap.length := by rw [hGheap]; exact hc.heap_length
  have hGinH : ∀ t, G.inHeap t = s.inHeap t := fun t => (inHeap_congr hGheap t).trans (hc.inHeap id t)
  have hGinHW : ∀ t, G.inHeapW t = s.inHeapW t := fun t => (inHeapW_congr hGheap t).trans (hc.inHeapW id t)
  have hGpend : ∀ t, G.pend t = s.pend t := pend_congr hGstack
  have hGpendW : ∀ t, G.pendW t = s.pendW t := pendW_congr hGstack
  have hGowed : ∀ t, G.owed t = s.owed t := owed_congr hGstack
  obtain ⟨hR1, hR2⟩ := hR s.heap.length (Nat.le_refl _)
  have hvL := hvL s.heap.length
  have hvLW := hvLW s.heap.length
  have hp : ∀ t, s2.pend t = (if o = t then 1 else 0) + s.pend t := by
    intro t; simp only [pend_def, hstack, List.map_cons, sumList_cons, Frame.strongTo_rcDrop]
  have hpW : ∀ t, s2.pendW t = s.pendW t := by
    intro t; simp only [pendW_def, hstack, List.map_cons, sumList_cons, Frame.weakTo_rcDrop]; omega
  have hpO : ∀ t, s2.owed t = s.owed t := by
    intro t; simp only [owed_def, hstack, List.map_cons, sumList_cons, Frame.owes_rcDrop]; omega
  refine InvCore_alloc (s := G) (v := v') hG ?_ ?_ ?_ ?_ ?_ ?_ ?_ ?_
  · rw [hGlen, hGext, hGinH, hGpend]
    omega
  · rw [hGlen, hGextW, hGinHW, hGpendW]
    omega
  · rw [hheap]; simp only [alloc_heap, hGheap]
  · intro t
    rw [hGlen, hGext, hvh, hGpend, hp]
    have h1 := ext_of_roots_set (s := s) (s' := s2) (new := s.heap.length) hr hroots hraws hvals t
    omega
  · intro t
    rw [hGextW, hvw, hGpendW, hpW]
    have h1 := extW_of_eq (s := s) (s' := s2) hwroots hvals t
    omega
  · intro x hm
    rw [hstack] at hm
    rw [hGstack]
    simpa using hm
  · intro ks hm
    rw [hstack] at hm
    rw [hGstack]
    simpa using hm
  · intro x
    rw [hpO, hGowed]

/-- steal branch: the value moves to a fresh allocation, the old one is given up to its Weaks -/
theorem makeMut_steal_invCore {s : State} {i o : Nat} {ob : Obj} {v : Val} (herr : s.err = none)
    (hI : s.InvCore) (hR : s.InvR) (hr : s.roots[i]? = some o) (hc : s.cell o = some ob)
    (hs : ob.strong = .cnt 1) (hv : ob.value = some v) :
    (({ s.alloc v with roots := (s.alloc v).roots.set i s.heap.length } : State).giveUp o).InvCore := by
  obtain ⟨hO, hB, hC, hW, hK⟩ := hI
  obtain ⟨hR1, hR2⟩ := hR s.heap.length (Nat.le_refl _)
  have hgn : s.heap[s.heap.length]? = none := get_none_iff.mpr (Nat.le_refl _)
  have hlt : o < s.heap.length := get_lt (get_of_cell hc)
  obtain ⟨hO1, hB1, hK1⟩ := InvOBK_alloc (s := s)
    (s' := { s.alloc v with roots := (s.alloc v).roots.set i s.heap.length }) (v := v) hO hB hK rfl
    (fun _ hm => hm) (fun _ hm => hm) (fun _ => rfl)
  have hc1 : ({ s.alloc v with roots := (s.alloc v).roots.set i s.heap.length } : State).cell o = some ob := by
    show (s.alloc v).cell o = some ob
    rw [cell_alloc_old s v (Nat.ne_of_lt hlt)]; exact hc
  refine (giveUp_invCore (s := { s.alloc v with roots := (s.alloc v).roots.set i s.heap.length })
    (ob := ob) (v := v) herr hO1 hB1 hK1 hc1 hs hv ?_ ?_).1
  · intro t ht hto
    have hl : (s.alloc v).isLive t = true := ht
    have h1 := ext_of_roots_set (s := s)
      (s' := { s.alloc v with roots := (s.alloc v).roots.set i s.heap.length }) (new := s.heap.length)
      hr rfl rfl rfl t
    rw [if_neg (Ne.symm hto)] at h1
    show (s.alloc v).strongNat t + _ = _ + (s.alloc v).inHeap t + s.pend t
    rw [strongNat_alloc, inHeap_alloc]
    rcases (isLive_alloc_iff s v t).mp hl with hl | hl
    · have h2 := hC t hl
      omega
    · subst hl
      rw [strongNat_of_get_none hgn]
      simp only [if_true] at h1 ⊢
      omega
  · intro t ht
    have ht' : t < s.heap.length + 1 := by
      have : ({ s.alloc v with roots := (s.alloc v).roots.set i s.heap.length } : State).heap.length
          = s.heap.length + 1 := alloc_heap_length s v
      omega
    show (s.alloc v).weakNat t + _ = s.extW t + (s.alloc v).inHeapW t + s.pendW t + (s.alloc v).implicitNat t
    rw [weakNat_alloc, inHeapW_alloc, implicitNat_alloc]
    by_cases htl : s.heap.length = t
    · subst htl
      rw [weakNat_of_get_none hgn, implicitNat_of_get_none hgn]
      simp only [if_true]
      omega
    · have h1 := hW t (by omega)
      simp only [if_neg htl]
      omega

end State
end Cactus
