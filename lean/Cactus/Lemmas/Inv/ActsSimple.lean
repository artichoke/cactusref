import Cactus.Lemmas.Inv.Transfer
import Cactus.Lemmas.Shape
/-!
# Preservation of the invariant by what the simple user-level actions do

An action changes one counter together with the handle list that accounts for it
(`InvCore_incStrong`, `InvCore_incWeak`), edits a value without touching its handles (`Inv_modVal`),
hands a handle to a new frame (`InvCore_push_move`) or allocates (`InvCore_alloc`).

An allocation needs the fresh index to be unused (`InvR`): `Inv` alone is not inductive for `Act.new`,
see `applyAct_inv_new_counterexample`.
-/
namespace Cactus
namespace State

/-- one more strong handle to the live object `o` appears in the program and its count is
incremented -/
theorem InvCore_incStrong {s s' : State} {o : Nat} (h : InvCore s) (hl : s.isLive o = true)
    (hh : s'.heap = (s.incStrong o).heap) (hst : s'.stack = s.stack)
    (he : ∀ t, s'.ext t = s.ext t + (if o = t then 1 else 0))
    (hw : ∀ t, s'.extW t = s.extW t) : InvCore s' := by
  obtain ⟨ob, n, hc, hs, e⟩ := incStrong_of_isLive hl
  refine InvCore_setObj h (get_of_cell hc) (ob' := { ob with strong := .cnt (n + 2) })
    ⟨rfl, rfl, rfl, rfl, Iff.rfl, .inr ⟨n, n + 1, hs, rfl⟩⟩ rfl rfl (by rw [hh, e])
    (fun t _ => ?_) (fun t => ?_) (fun _ hm _ => hst ▸ hm) (fun x => Nat.le_of_eq (owed_congr hst x))
  · rw [strongNat_congr hh, strongNat_incStrong hl, he, pend_congr hst]; omega
  · rw [weakNat_congr hh, weakNat_incStrong, hw, pendW_congr hst]

/-- one more Weak handle to `o` appears in the program and its weak count is incremented -/
theorem InvCore_incWeak {s s' : State} {o : Nat} {ob : Obj} (h : InvCore s)
    (hc : s.cell o = some ob) (hw0 : ob.weak ≠ 0)
    (hh : s'.heap = (s.incWeak o).heap) (hst : s'.stack = s.stack)
    (he : ∀ t, s'.ext t = s.ext t)
    (hw : ∀ t, s'.extW t = s.extW t + (if o = t then 1 else 0)) : InvCore s' := by
  refine InvCore_setObj h (get_of_cell hc) (ob' := { ob with weak := ob.weak + 1 })
    ⟨rfl, rfl, rfl, rfl, by simp [hw0], .inl rfl⟩ rfl rfl (by rw [hh, incWeak_eq hc hw0])
    (fun t _ => ?_) (fun t => ?_) (fun _ hm _ => hst ▸ hm) (fun x => Nat.le_of_eq (owed_congr hst x))
  · rw [strongNat_congr hh, strongNat_incWeak, he, pend_congr hst]
  · rw [weakNat_congr hh, weakNat_incWeak hc hw0, hw, pendW_congr hst]; omega

/-- changing a stored value without touching the handles it owns -/
theorem Inv_modVal {s : State} (h : s.Inv) (o : Nat) (f : Val → Val)
    (hf : ∀ v, (f v).held = v.held) (hfw : ∀ v, (f v).weaks = v.weaks) : (s.modVal o f).Inv := by
  intro herr
  rcases modVal_cases s o f with ⟨e, he⟩ | ⟨ob, v, hc, hv, e⟩
  · rw [he] at herr; exact absurd herr (fail_err_ne_none s e)
  · have herr0 : s.err = none := ((modVal_err_eq_none_iff s o f).mp herr).1
    refine InvCore_setObj (h herr0) (get_of_cell hc) (ob' := { ob with value := some (f v) })
      ⟨rfl, rfl, rfl, by simp [hv], Iff.rfl, .inl rfl⟩ ?_ ?_ (by rw [e]) (fun t _ => ?_) (fun t => ?_)
      (fun _ hm _ => by rwa [modVal_stack] at hm) (fun x => Nat.le_of_eq (owed_modVal s o f x))
    · rw [Obj.heldList_of_some hv, Obj.heldList_mk_some, hf]
    · rw [Obj.weakList_of_some hv, Obj.weakList_mk_some, hfw]
    · rw [strongNat_modVal, ext_modVal, pend_modVal]
    · rw [weakNat_modVal, extW_modVal, pendW_modVal]

/-- a program-owned bundle of handles moves into one new cleanup frame `f` -/
theorem InvCore_push_move {s s0 : State} {f : Frame} (h : InvCore s) (hh : s0.heap = s.heap)
    (hst : s0.stack = s.stack)
    (hC : ∀ t, s0.ext t + Frame.strongTo t f = s.ext t)
    (hW : ∀ t, s0.extW t + Frame.weakTo t f = s.extW t)
    (hf : f.isCleanup = true) : InvCore (s0.push [f]) := by
  have hsub : ∀ g, g ∈ (s0.push [f]).stack → g.isCont = true → g ∈ s.stack := by
    intro g hm hc
    rcases List.mem_cons.1 hm with rfl | hm
    · rw [Frame.isCont_of_cleanup hf] at hc; cases hc
    · exact hst ▸ hm
  refine InvCore_same_heap h hh (fun t => ?_) (fun t => ?_) (fun o hm => hsub _ hm rfl)
    (fun ks hm => hsub _ hm rfl) (fun o => ?_)
  · have := hC t
    rw [ext_push, pend_push, pend_congr hst, List.map_singleton, sumList_singleton]
    omega
  · have := hW t
    rw [extW_push, pendW_push, pendW_congr hst, List.map_singleton, sumList_singleton]
    omega
  · rw [owed_push, owed_congr hst, List.map_singleton, sumList_singleton, Frame.owes_of_cleanup o f hf]
    omega

/-- generic form of "gain one strong handle" (the failing case included): `s'` is `s.incStrong o`
with one more handle to `o` in the program's lists -/
theorem Inv_incStrong_gen {s s' : State} {o : Nat} (h : s.Inv)
    (herr : s'.err = (s.incStrong o).err)
    (hh : s'.heap = (s.incStrong o).heap) (hst : s'.stack = (s.incStrong o).stack)
    (he : ∀ t, s'.ext t = (s.incStrong o).ext t + (if o = t then 1 else 0))
    (hw : ∀ t, s'.extW t = (s.incStrong o).extW t) : s'.Inv := by
  intro herr'
  rw [herr] at herr'
  obtain ⟨herr0, hl⟩ := (incStrong_err_eq_none_iff s o).mp herr'
  exact InvCore_incStrong (h herr0) hl hh (hst.trans (incStrong_stack s o))
    (fun t => by rw [he, ext_incStrong]) (fun t => by rw [hw, extW_incStrong])

theorem Inv_incWeak_gen {s s' : State} {o : Nat} (h : s.Inv)
    (herr : s'.err = (s.incWeak o).err)
    (hh : s'.heap = (s.incWeak o).heap) (hst : s'.stack = (s.incWeak o).stack)
    (he : ∀ t, s'.ext t = (s.incWeak o).ext t)
    (hw : ∀ t, s'.extW t = (s.incWeak o).extW t + (if o = t then 1 else 0)) : s'.Inv := by
  intro herr'
  rw [herr] at herr'
  obtain ⟨herr0, ob, hc, hw0⟩ := (incWeak_err_eq_none_iff s o).mp herr'
  exact InvCore_incWeak (h herr0) hc hw0 hh (hst.trans (incWeak_stack s o))
    (fun t => by rw [he, ext_incWeak]) (fun t => by rw [hw, extW_incWeak])

theorem F_eq_zero_of_not_live {s : State} (hB : s.InvB) (a : Nat) {b : Nat} (h : s.isLive b = false) :
    s.F a b = 0 := by
  apply Nat.eq_zero_of_not_pos
  intro hp
  obtain ⟨c, hc⟩ := (s.F_pos_iff hB a b).mp hp
  have := s.entry_live hB hc (by simp)
  simp [h] at this

theorem B_eq_zero_of_not_live {s : State} (hB : s.InvB) (b : Nat) {a : Nat} (h : s.isLive a = false) :
    s.B b a = 0 := by
  apply Nat.eq_zero_of_not_pos
  intro hp
  obtain ⟨c, hc⟩ := (s.B_pos_iff hB b a).mp hp
  have := s.entry_live hB hc (by simp)
  simp [h] at this

/-! ## a fresh allocation -/

/-- the clauses that do not count, for a fresh allocation (any value) -/
theorem InvOBK_alloc {s s' : State} {v : Val} (hO : s.InvO) (hB : s.InvB) (hK : s.InvK)
    (hh : s'.heap = (s.alloc v).heap)
    (hF : ∀ o, Frame.finishSingle o ∈ s'.stack → Frame.finishSingle o ∈ s.stack)
    (hP : ∀ ks, Frame.phase3 ks ∈ s'.stack → Frame.phase3 ks ∈ s.stack)
    (hOw : ∀ o, s'.owed o = s.owed o) : s'.InvO ∧ s'.InvB ∧ s'.InvK := by
  have hnl : s.isLive s.heap.length = false := isLive_of_ge (Nat.le_refl _)
  have hgn : s.heap[s.heap.length]? = none := get_none_iff.mpr (Nat.le_refl _)
  have hL : ∀ x, s'.isLive x = true ↔ s.isLive x = true ∨ x = s.heap.length := fun x => by
    rw [isLive_congr hh]; exact isLive_alloc_iff s v x
  refine ⟨?_, ⟨?_, ?_⟩, ?_⟩
  · intro x obx hx
    rw [hh, getElem?_alloc] at hx
    by_cases hxl : x = s.heap.length
    · simp only [if_pos hxl, Option.some.injEq] at hx
      subst hx
      simp
    · simp only [if_neg hxl] at hx
      exact hO x obx hx
  · intro x t ht
    rw [tableOf_congr hh] at ht
    by_cases hxl : x = s.heap.length
    · subst hxl
      rw [tableOf_alloc_new] at ht
      cases ht
      exact ⟨Table.WF_nil, fun e hm => by cases hm⟩
    · rw [tableOf_alloc_old s v hxl] at ht
      obtain ⟨wf, hent⟩ := hB.1 x t ht
      refine ⟨wf, fun e hm => ⟨(hent e hm).1, fun hk => ?_⟩⟩
      exact (hL _).mpr (Or.inl ((hent e hm).2 hk))
  · intro a b ha hb
    rw [F_congr hh, B_congr hh, F_alloc, B_alloc]
    rcases (hL a).mp ha with ha | ha
    · rcases (hL b).mp hb with hb | hb
      · exact hB.2 a b ha hb
      · subst hb
        rw [F_eq_zero_of_not_live hB a hnl, B_of_get_none hgn]
    · subst ha
      rw [F_of_get_none hgn]
      rcases (hL b).mp hb with hb | hb
      · rw [B_eq_zero_of_not_live hB b hnl]
      · subst hb; rw [B_of_get_none hgn]
  · exact hK.transfer (mem_of_isCont hF hP) (fun x => Nat.le_of_eq (hOw x))
      fun x _ _ _ ⟨obx, hx, r⟩ => ⟨obx, by rw [hh]; exact get_alloc_of_get v hx, r⟩

/-- a fresh allocation whose value takes over handles from the program: one handle to the new
object appears, the handles of `v` leave the program (or a frame) and enter the heap -/
theorem InvCore_alloc {s s' : State} {v : Val} (h : InvCore s)
    (hRC : s.ext s.heap.length + s.inHeap s.heap.length + s.pend s.heap.length = 0)
    (hRW : s.extW s.heap.length + s.inHeapW s.heap.length + s.pendW s.heap.length = 0)
    (hh : s'.heap = (s.alloc v).heap)
    (hC : ∀ t, s'.ext t + s'.pend t + v.held.count t
      = s.ext t + s.pend t + (if s.heap.length = t then 1 else 0))
    (hW : ∀ t, s'.extW t + s'.pendW t + v.weaks.count t = s.extW t + s.pendW t)
    (hF : ∀ o, Frame.finishSingle o ∈ s'.stack → Frame.finishSingle o ∈ s.stack)
    (hP : ∀ ks, Frame.phase3 ks ∈ s'.stack → Frame.phase3 ks ∈ s.stack)
    (hOw : ∀ o, s'.owed o = s.owed o) : InvCore s' := by
  obtain ⟨hO, hB, hCc, hWw, hK⟩ := h
  obtain ⟨hO', hB', hK'⟩ := InvOBK_alloc (v := v) hO hB hK hh hF hP hOw
  have hnl : s.isLive s.heap.length = false := isLive_of_ge (Nat.le_refl _)
  have hgn : s.heap[s.heap.length]? = none := get_none_iff.mpr (Nat.le_refl _)
  have hL : ∀ x, s'.isLive x = true ↔ s.isLive x = true ∨ x = s.heap.length := fun x => by
    rw [isLive_congr hh]; exact isLive_alloc_iff s v x
  refine ⟨hO', hB', ?_, ?_, hK'⟩
  · intro t ht
    rw [strongNat_congr hh, strongNat_alloc, inHeap_congr hh, inHeap_alloc]
    have h2 := hC t
    rcases (hL t).mp ht with ht | ht
    · have h1 := hCc t ht
      omega
    · subst ht
      rw [strongNat_of_get_none hgn]
      simp only [if_true] at h2 ⊢
      omega
  · intro t ht
    have hlen : s'.heap.length = s.heap.length + 1 := by rw [hh, alloc_heap_length]
    rw [hlen] at ht
    rw [weakNat_congr hh, weakNat_alloc, inHeapW_congr hh, inHeapW_alloc,
      implicitNat_congr hh, implicitNat_alloc]
    have h2 := hW t
    by_cases htl : s.heap.length = t
    · subst htl
      rw [weakNat_of_get_none hgn, implicitNat_of_get_none hgn]
      simp only [if_true]
      omega
    · have h1 := hWw t (by omega)
      simp only [if_neg htl]
      omega

end State

open State

/-- without `InvR` the statement is false: a root handle designating the not-yet-allocated index
`heap.length` is not excluded by `InvCore` -/
theorem applyAct_inv_new_counterexample :
    ∃ s : State, s.Inv ∧ ¬ (applyAct s [] [] .new).Inv := by
  refine ⟨{ roots := [0] }, ?_, ?_⟩
  · intro _
    refine ⟨?_, ⟨?_, ?_⟩, ?_, ?_, ?_, ?_, ?_⟩
    · intro o ob h; simp at h
    · intro o t h; simp [tableOf, cell] at h
    · intro a b h; simp [isLive] at h
    · intro t h; simp [isLive] at h
    · intro t h; simp at h
    · intro o h; simp at h
    · intro ks h; simp at h
    · intro o; simp [owed]
  · intro h
    have hc := (h rfl).2.2.1 0 (by decide)
    revert hc
    decide

end Cactus
