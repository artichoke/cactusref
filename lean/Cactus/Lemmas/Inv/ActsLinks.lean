import Cactus.Lemmas.Inv.Transfer
import Cactus.Lemmas.Shape
/-!
# Preservation of the invariant by what touches link tables or stored handles

The state changes of `adopt`, `unadopt`, `store`, `take`, `unlink`, `storeWeak` and of the layout
perturbation `shuffle`.

Structure: `Skel s s'` says that `s'` has the same stack and the same object skeleton as `s`
(only tables of live objects and stored values were rewritten); it transfers `InvO` and `InvK`.
`InvCore.transfer` then reduces `InvCore s'` to `InvB s'` and the two balance equations
"`ext + inHeap` unchanged", "`extW + inHeapW` unchanged".
-/
namespace Cactus
namespace State

/-- same stack, same heap size, and every object keeps its counters, flags, whether it has a value
and a table; the table of a dead object is untouched -/
def Skel (s s' : State) : Prop :=
  s'.stack = s.stack ∧ s'.heap.length = s.heap.length ∧
  ∀ (o : Nat) (ob : Obj), s.heap[o]? = some ob → ∃ ob' : Obj, s'.heap[o]? = some ob' ∧ ob'.strong = ob.strong ∧
    ob'.weak = ob.weak ∧ ob'.freed = ob.freed ∧ ob'.implicit = ob.implicit ∧
    ob'.value.isSome = ob.value.isSome ∧ ob'.links.isSome = ob.links.isSome ∧
    (ob.strong.isDead = true → ob'.links = ob.links)

theorem Skel.refl (s : State) : Skel s s :=
  ⟨rfl, rfl, fun _ ob h => ⟨ob, h, rfl, rfl, rfl, rfl, rfl, rfl, fun _ => rfl⟩⟩

theorem Skel.of_eq {s s' : State} (hh : s'.heap = s.heap) (hs : s'.stack = s.stack) : Skel s s' :=
  ⟨hs, by rw [hh], fun _ ob h => ⟨ob, by rw [hh]; exact h, rfl, rfl, rfl, rfl, rfl, rfl, fun _ => rfl⟩⟩

theorem Skel.trans {s s' s'' : State} (h1 : Skel s s') (h2 : Skel s' s'') : Skel s s'' := by
  refine ⟨h2.1.trans h1.1, h2.2.1.trans h1.2.1, ?_⟩
  intro o ob hg
  obtain ⟨ob', hg', a1, a2, a3, a4, a5, a6, a7⟩ := h1.2.2 o ob hg
  obtain ⟨ob'', hg'', b1, b2, b3, b4, b5, b6, b7⟩ := h2.2.2 o ob' hg'
  refine ⟨ob'', hg'', b1.trans a1, b2.trans a2, b3.trans a3, b4.trans a4, b5.trans a5, b6.trans a6, ?_⟩
  intro hd
  rw [b7 (by rw [a1]; exact hd), a7 hd]

theorem Skel.setObj {s : State} {o : Nat} {ob ob' : Obj} (hg : s.heap[o]? = some ob)
    (h1 : ob'.strong = ob.strong) (h2 : ob'.weak = ob.weak) (h3 : ob'.freed = ob.freed)
    (h4 : ob'.implicit = ob.implicit) (h5 : ob'.value.isSome = ob.value.isSome)
    (h6 : ob'.links.isSome = ob.links.isSome) (h7 : ob.strong.isDead = true → ob'.links = ob.links) :
    Skel s (s.setObj o ob') := by
  refine ⟨rfl, by simp, ?_⟩
  intro x obx hx
  by_cases hxo : o = x
  · subst hxo
    rw [hg] at hx; cases hx
    exact ⟨ob', setObj_get_same s o ob' (get_lt hg), h1, h2, h3, h4, h5, h6, h7⟩
  · exact ⟨obx, by rw [setObj_get_other s o x ob' hxo]; exact hx, rfl, rfl, rfl, rfl, rfl, rfl, fun _ => rfl⟩

theorem Skel.get_none {s s' : State} (h : Skel s s') {o : Nat} (hg : s.heap[o]? = none) :
    s'.heap[o]? = none := by
  rw [get_none_iff] at hg ⊢; rw [h.2.1]; exact hg

theorem Skel.isLive {s s' : State} (h : Skel s s') (x : Nat) : s'.isLive x = s.isLive x := by
  cases hg : s.heap[x]? with
  | none => rw [isLive_of_get_none hg, isLive_of_get_none (h.get_none hg)]
  | some ob =>
    obtain ⟨ob', hg', a1, _, a3, _⟩ := h.2.2 x ob hg
    rw [isLive_of_get hg, isLive_of_get hg', a1, a3]

theorem Skel.strongNat {s s' : State} (h : Skel s s') (x : Nat) : s'.strongNat x = s.strongNat x := by
  cases hg : s.heap[x]? with
  | none => rw [strongNat_of_get_none hg, strongNat_of_get_none (h.get_none hg)]
  | some ob =>
    obtain ⟨ob', hg', a1, _⟩ := h.2.2 x ob hg
    rw [strongNat_of_get hg, strongNat_of_get hg', a1]

theorem Skel.weakNat {s s' : State} (h : Skel s s') (x : Nat) : s'.weakNat x = s.weakNat x := by
  cases hg : s.heap[x]? with
  | none => rw [weakNat_of_get_none hg, weakNat_of_get_none (h.get_none hg)]
  | some ob =>
    obtain ⟨ob', hg', _, a2, _⟩ := h.2.2 x ob hg
    rw [weakNat_of_get hg, weakNat_of_get hg', a2]

theorem Skel.implicitNat {s s' : State} (h : Skel s s') (x : Nat) : s'.implicitNat x = s.implicitNat x := by
  cases hg : s.heap[x]? with
  | none => rw [implicitNat_of_get_none hg, implicitNat_of_get_none (h.get_none hg)]
  | some ob =>
    obtain ⟨ob', hg', _, _, _, a4, _⟩ := h.2.2 x ob hg
    rw [implicitNat_of_get hg, implicitNat_of_get hg', a4]

theorem Skel.sim {s s' : State} (h : Skel s s') (o : Nat) (ob : Obj) (hg : s.heap[o]? = some ob) :
    ∃ ob' : Obj, s'.heap[o]? = some ob' ∧ ob.Sim ob' := by
  obtain ⟨ob', hg', a1, a2, a3, a4, a5, a6, a7⟩ := h.2.2 o ob hg
  exact ⟨ob', hg', ⟨.inl a1, by rw [a2], a3, a4, a5, a6, fun hd hn => (a7 hd).trans hn⟩⟩

theorem Skel.invO {s s' : State} (h : Skel s s') (hO : s.InvO) : s'.InvO := hO.sim h.2.1 h.sim

theorem Skel.invK {s s' : State} (h : Skel s s') (hK : s.InvK) : s'.InvK := hK.sim h.1 h.sim

/-- the transfer lemma: same skeleton, tables still consistent, handles only moved between the
program and stored values -/
theorem InvCore.transfer {s s' : State} (h : s.InvCore) (hsk : Skel s s') (hB : s'.InvB)
    (hC : ∀ x, s'.ext x + s'.inHeap x = s.ext x + s.inHeap x)
    (hW : ∀ x, s'.extW x + s'.inHeapW x = s.extW x + s.inHeapW x) : s'.InvCore := by
  obtain ⟨hO, -, hCs, hWs, hK⟩ := h
  refine ⟨hsk.invO hO, hB, ?_, ?_, hsk.invK hK⟩
  · intro t ht
    rw [hsk.isLive] at ht
    have h1 := hCs t ht
    have h2 := hC t
    rw [hsk.strongNat, pend_congr hsk.1]; omega
  · intro t ht
    rw [hsk.2.1] at ht
    have h1 := hWs t ht
    have h2 := hW t
    rw [hsk.weakNat, hsk.implicitNat, pendW_congr hsk.1]; omega

/-- the same two balance equations also transfer "no handle designates an unallocated index"
(`InvR`, stated unfolded) -/
theorem Skel.transferR {s s' : State} (hsk : Skel s s')
    (hC : ∀ x, s'.ext x + s'.inHeap x = s.ext x + s.inHeap x)
    (hW : ∀ x, s'.extW x + s'.inHeapW x = s.extW x + s.inHeapW x)
    (hR : ∀ t, s.heap.length ≤ t →
      s.ext t + s.inHeap t + s.pend t = 0 ∧ s.extW t + s.inHeapW t + s.pendW t = 0) :
    ∀ t, s'.heap.length ≤ t →
      s'.ext t + s'.inHeap t + s'.pend t = 0 ∧ s'.extW t + s'.inHeapW t + s'.pendW t = 0 := by
  intro t ht
  rw [hsk.2.1] at ht
  have h1 := hR t ht
  have h2 := hC t
  have h3 := hW t
  rw [pend_congr hsk.1, pendW_congr hsk.1]
  omega

/-! ## skeleton of the primitive updates -/

theorem Skel.fail (s : State) (e : Err) : Skel s (s.fail e) := Skel.of_eq (by simp) (by simp)

theorem Skel.setLinks {s : State} {o : Nat} (hl : s.isLive o = true) (f : Table → Table) :
    Skel s (s.setLinks o f) := by
  rcases setLinks_cases s o f with ⟨e, he⟩ | ⟨ob, t, hc, hlk, he⟩ <;> rw [he]
  · exact Skel.fail s e
  · obtain ⟨ob2, n, hc2, hst⟩ := (isLive_iff_cell s o).mp hl
    rw [hc] at hc2; cases hc2
    refine Skel.setObj (get_of_cell hc) rfl rfl rfl rfl rfl (by simp [hlk]) ?_
    intro hd; rw [hst] at hd; cases hd

theorem Skel.modVal (s : State) (o : Nat) (f : Val → Val) : Skel s (s.modVal o f) := by
  rcases modVal_cases s o f with ⟨e, he⟩ | ⟨ob, v, hc, hv, he⟩ <;> rw [he]
  · exact Skel.fail s e
  · exact Skel.setObj (get_of_cell hc) rfl rfl rfl rfl (by simp [hv]) rfl (fun _ => rfl)

theorem Skel.adopt {s : State} {a b : Nat} (ha : s.isLive a = true) (hb : s.isLive b = true)
    (same : Bool) : Skel s (s.adopt a b same) := by
  cases same
  · rw [adopt_diff]
    exact (Skel.setLinks ha _).trans (Skel.setLinks (by simpa using hb) _)
  · rw [adopt_same]; exact Skel.setLinks ha _

theorem Skel.unadopt {s : State} {a b : Nat} (ha : s.isLive a = true) (hb : s.isLive b = true)
    (same : Bool) : Skel s (s.unadopt a b same) := by
  cases same
  · rw [unadopt_diff]
    exact (Skel.setLinks ha _).trans (Skel.setLinks (by simpa using hb) _)
  · rw [unadopt_same]; exact Skel.setLinks ha _

/-! ## `InvB` under table updates -/

/-- the per-table part of `InvB` -/
def TblOK (s : State) (o : Nat) (t : Table) : Prop :=
  t.WF ∧ ∀ e, e ∈ t → (e.1.kind = .loop → e.1.ptr = o) ∧ (e.1.kind ≠ .loop → s.isLive e.1.ptr = true)

def B1 (s : State) : Prop := ∀ (o : Nat) (t : Table), s.tableOf o = some t → TblOK s o t

theorem InvB.b1 {s : State} (h : s.InvB) : B1 s := h.1

theorem TblOK.congr {s s' : State} (hl : ∀ x, s'.isLive x = s.isLive x) {o : Nat} {t : Table}
    (h : TblOK s o t) : TblOK s' o t :=
  ⟨h.1, fun e he => ⟨(h.2 e he).1, fun hk => by rw [hl]; exact (h.2 e he).2 hk⟩⟩

theorem TblOK.insert {s : State} {o : Nat} {t : Table} (h : TblOK s o t) (k : Link)
    (hk1 : k.kind = .loop → k.ptr = o) (hk2 : k.kind ≠ .loop → s.isLive k.ptr = true) :
    TblOK s o (t.insert k) := by
  refine ⟨Table.WF_insert t h.1 k, ?_⟩
  rintro ⟨l, c⟩ he
  rcases Table.mem_insert t k l c he with rfl | hm
  · exact ⟨hk1, hk2⟩
  · exact h.2 _ hm

theorem TblOK.remove {s : State} {o : Nat} {t : Table} (h : TblOK s o t) (k : Link) (n : Nat) :
    TblOK s o (t.remove k n) := by
  refine ⟨Table.WF_remove t h.1 k n, ?_⟩
  rintro ⟨l, c⟩ he
  obtain ⟨c', hm⟩ := Table.mem_remove t k l n c he
  exact h.2 (l, c') hm

theorem TblOK.swapAt {s : State} {o : Nat} {t : Table} (h : TblOK s o t) (i : Nat) :
    TblOK s o (t.swapAt i) :=
  ⟨Table.WF_swapAt t h.1 i, fun e he => h.2 e ((Table.swapAt_perm t i).mem_iff.1 he)⟩

theorem B1.setLinks {s : State} (h : B1 s) (o : Nat) (f : Table → Table)
    (hf : ∀ t, s.tableOf o = some t → TblOK s o t → TblOK s o (f t)) : B1 (s.setLinks o f) := by
  intro x t' ht'
  rw [tableOf_setLinks] at ht'
  have hok : TblOK s x t' := by
    split at ht'
    · next hx =>
      subst hx
      cases ht : s.tableOf x with
      | none => rw [ht] at ht'; cases ht'
      | some t =>
        rw [ht] at ht'; cases ht'
        exact hf t ht (h x t ht)
    · exact h x t' ht'
  exact hok.congr (fun y => isLive_setLinks s o f y)

theorem InvB.adopt {s : State} (hB : s.InvB) {a b : Nat} (ha : s.isLive a = true) (hb : s.isLive b = true)
    (hta : (s.tableOf a).isSome = true) (htb : (s.tableOf b).isSome = true) (same : Bool) :
    (s.adopt a b same).InvB := by
  cases same
  · refine ⟨?_, ?_⟩
    · rw [adopt_diff]
      refine B1.setLinks (B1.setLinks hB.b1 a _ ?_) b _ ?_
      · intro t _ hok
        exact hok.insert _ (by simp) (fun _ => hb)
      · intro t _ hok
        exact hok.insert _ (by simp) (fun _ => by simpa using ha)
    · intro x y hx hy
      rw [isLive_adopt] at hx hy
      have := hB.2 x y hx hy
      rw [F_adopt_diff hta htb, B_adopt_diff hta htb, this]
      simp only [and_comm]
  · refine ⟨?_, ?_⟩
    · rw [adopt_same]
      refine B1.setLinks hB.b1 a _ ?_
      intro t _ hok
      exact hok.insert _ (fun _ => rfl) (by simp)
    · intro x y hx hy
      rw [isLive_adopt] at hx hy
      simpa using hB.2 x y hx hy

theorem InvB.unadopt {s : State} (hB : s.InvB) {a b : Nat} {ta tb : Table}
    (hta : s.tableOf a = some ta) (htb : s.tableOf b = some tb) (same : Bool) :
    (s.unadopt a b same).InvB := by
  have hwa := (hB.1 a ta hta).1
  have hwb := (hB.1 b tb htb).1
  cases same
  · refine ⟨?_, ?_⟩
    · rw [unadopt_diff]
      refine B1.setLinks (B1.setLinks hB.b1 a _ ?_) b _ ?_
      · intro t _ hok
        exact hok.remove _ _
      · intro t _ hok
        exact hok.remove _ _
    · intro x y hx hy
      rw [isLive_unadopt] at hx hy
      have := hB.2 x y hx hy
      rw [F_unadopt_diff hta htb hwa hwb, B_unadopt_diff hta htb hwa hwb]
      by_cases hc : x = a ∧ y = b
      · obtain ⟨rfl, rfl⟩ := hc
        simp [this]
      · have hc' : ¬ (y = b ∧ x = a) := fun h => hc ⟨h.2, h.1⟩
        simp only [hc, hc', if_false]
        exact this
  · refine ⟨?_, ?_⟩
    · rw [unadopt_same]
      refine B1.setLinks hB.b1 a _ ?_
      intro t _ hok
      exact hok.remove _ _
    · intro x y hx hy
      rw [isLive_unadopt] at hx hy
      rw [F_unadopt_same hta hwa, B_unadopt_same hta hwa]
      exact hB.2 x y hx hy

theorem InvB.swap {s : State} (hB : s.InvB) (o i : Nat) : (s.setLinks o (·.swapAt i)).InvB := by
  refine ⟨?_, ?_⟩
  · refine B1.setLinks hB.b1 o _ ?_
    intro t _ hok
    exact hok.swapAt i
  · intro x y hx hy
    rw [isLive_setLinks] at hx hy
    have hF : ∀ x y, (s.setLinks o (·.swapAt i)).F x y = s.F x y := by
      intro x y
      by_cases hxo : x = o
      · subst hxo
        cases ht : s.tableOf x with
        | none => simp only [F, tbl_setLinks_of_none _ ht]
        | some t =>
          rw [F_setLinks_same _ ht, F_of_tableOf ht]
          exact Table.get_swapAt t (hB.1 x t ht).1 i _
      · exact F_setLinks_other s _ hxo y
    have hBk : ∀ x y, (s.setLinks o (·.swapAt i)).B x y = s.B x y := by
      intro x y
      by_cases hxo : x = o
      · subst hxo
        cases ht : s.tableOf x with
        | none => simp only [B, tbl_setLinks_of_none _ ht]
        | some t =>
          rw [B_setLinks_same _ ht, B_of_tableOf ht]
          exact Table.get_swapAt t (hB.1 x t ht).1 i _
      · exact B_setLinks_other s _ hxo y
    rw [hF, hBk]; exact hB.2 x y hx hy

theorem valOf_of_live {s : State} (hO : s.InvO) {o : Nat} (hl : s.isLive o = true) :
    ∃ v, s.valOf o = some v := by
  obtain ⟨ob, n, hc, hst⟩ := (isLive_iff_cell s o).mp hl
  obtain ⟨c1, -⟩ := hO o ob (get_of_cell hc)
  obtain ⟨hv, -⟩ := c1 n hst
  cases hval : ob.value with
  | none => rw [hval] at hv; cases hv
  | some v => exact ⟨v, by rw [valOf_of_cell hc, hval]⟩

theorem InvCore.adopt {s : State} (h : s.InvCore) {a b : Nat} (ha : s.isLive a = true)
    (hb : s.isLive b = true) (same : Bool) : (s.adopt a b same).InvCore := by
  obtain ⟨ta, hta⟩ := live_tableOf h.1 ha
  obtain ⟨tb, htb⟩ := live_tableOf h.1 hb
  exact h.transfer (Skel.adopt ha hb same)
    (h.2.1.adopt ha hb (by simp [hta]) (by simp [htb]) same) (by simp) (by simp)

theorem InvCore.unadopt {s : State} (h : s.InvCore) {a b : Nat} (ha : s.isLive a = true)
    (hb : s.isLive b = true) (same : Bool) : (s.unadopt a b same).InvCore := by
  obtain ⟨ta, hta⟩ := live_tableOf h.1 ha
  obtain ⟨tb, htb⟩ := live_tableOf h.1 hb
  exact h.transfer (Skel.unadopt ha hb same) (h.2.1.unadopt hta htb same) (by simp) (by simp)

theorem InvCore.swap {s : State} (h : s.InvCore) {o : Nat} (ho : s.isLive o = true) (i : Nat) :
    (s.setLinks o (·.swapAt i)).InvCore :=
  h.transfer (Skel.setLinks ho _) (h.2.1.swap o i) (by simp) (by simp)

theorem InvCore.store {s : State} (h : s.InvCore) {i t o : Nat} (hr : s.roots[i]? = some t)
    (ho : s.isLive o = true) :
    (({ s with roots := s.roots.eraseIdx i } : State).modVal o
      (fun v => { v with held := v.held ++ [t] })).InvCore := by
  obtain ⟨v, hv⟩ := valOf_of_live h.1 ho
  have hv0 : ({ s with roots := s.roots.eraseIdx i } : State).valOf o = some v := hv
  refine h.transfer ((Skel.of_eq rfl rfl).trans (Skel.modVal _ _ _))
    (InvB.congr (by simp) (by simp) h.2.1) ?_ ?_
  · intro x
    have h1 := ext_withRoots_eraseIdx s i x
    have h2 := inHeap_modVal (fun v => { v with held := v.held ++ [t] }) hv0 x
    rw [ext_modVal]
    simp only [inHeap_withRoots, count_concat, hr, Option.some.injEq] at h1 h2
    omega
  · intro x
    rw [extW_modVal, inHeapW_modVal_of_weaks_eq _ o (fun v => { v with held := v.held ++ [t] }) (fun _ => rfl)]
    rfl

theorem InvCore.storeWeak {s : State} (h : s.InvCore) {i t o : Nat} (hr : s.wroots[i]? = some t)
    (ho : s.isLive o = true) :
    (({ s with wroots := s.wroots.eraseIdx i } : State).modVal o
      (fun v => { v with weaks := v.weaks ++ [t] })).InvCore := by
  obtain ⟨v, hv⟩ := valOf_of_live h.1 ho
  have hv0 : ({ s with wroots := s.wroots.eraseIdx i } : State).valOf o = some v := hv
  refine h.transfer ((Skel.of_eq rfl rfl).trans (Skel.modVal _ _ _))
    (InvB.congr (by simp) (by simp) h.2.1) ?_ ?_
  · intro x
    rw [ext_modVal, inHeap_modVal_of_held_eq _ o (fun v => { v with weaks := v.weaks ++ [t] }) (fun _ => rfl)]
    rfl
  · intro x
    have h1 := extW_withWroots_eraseIdx s i x
    have h2 := inHeapW_modVal (fun v => { v with weaks := v.weaks ++ [t] }) hv0 x
    rw [extW_modVal]
    simp only [inHeapW_withWroots, count_concat, hr, Option.some.injEq] at h1 h2
    omega

theorem take_inHeap {s : State} {o : Nat} {v : Val} (hv : s.valOf o = some v) {i t : Nat}
    (hk : v.held[i]? = some t) (f : Val → Val) (hf : (f v).held = v.held.eraseIdx i) (x : Nat) :
    (s.modVal o f).inHeap x + (if t = x then 1 else 0) = s.inHeap x := by
  have h1 := inHeap_modVal f hv x
  have h2 := count_eraseIdx_add v.held i x
  rw [hf] at h1
  simp only [hk, Option.some.injEq] at h2
  omega

theorem take_inHeapW {s : State} {o : Nat} {v : Val} (hv : s.valOf o = some v)
    (f : Val → Val) (hfw : (f v).weaks = v.weaks) (x : Nat) :
    (s.modVal o f).inHeapW x = s.inHeapW x := by
  have h1 := inHeapW_modVal f hv x
  rw [hfw] at h1
  omega

theorem InvCore.take {s : State} (h : s.InvCore) {o : Nat} {v : Val} (hv : s.valOf o = some v)
    {i t : Nat} (hk : v.held[i]? = some t) (f : Val → Val) (hf : (f v).held = v.held.eraseIdx i)
    (hfw : (f v).weaks = v.weaks) :
    ({ s.modVal o f with roots := (s.modVal o f).roots ++ [t] } : State).InvCore := by
  refine h.transfer ((Skel.modVal _ _ _).trans (Skel.of_eq rfl rfl))
    (InvB.congr (by simp) (by simp) h.2.1) ?_ ?_
  · intro x
    have h1 := take_inHeap hv hk f hf x
    simp only [ext_withRoots_append, inHeap_withRoots, ext_modVal]
    omega
  · intro x
    have h1 := take_inHeapW hv f hfw x
    simp only [extW_withRoots, inHeapW_withRoots, extW_modVal]
    omega

theorem InvCore.unlink {s : State} (h : s.InvCore) {o : Nat} {v : Val} (hv : s.valOf o = some v)
    {i t : Nat} (hk : v.held[i]? = some t) (f : Val → Val) (hf : (f v).held = v.held.eraseIdx i)
    (hfw : (f v).weaks = v.weaks) (ho : s.isLive o = true) (ht : s.isLive t = true) :
    ({ (s.modVal o f).unadopt o t false with
        roots := ((s.modVal o f).unadopt o t false).roots ++ [t] } : State).InvCore := by
  obtain ⟨ta, hta⟩ := live_tableOf h.1 ho
  obtain ⟨tb, htb⟩ := live_tableOf h.1 ht
  have hB1 : (s.modVal o f).InvB := InvB.congr (by simp) (by simp) h.2.1
  have hB2 := hB1.unadopt (a := o) (b := t) (by simpa using hta) (by simpa using htb) false
  refine h.transfer
    ((Skel.modVal _ _ _).trans ((Skel.unadopt (by simpa using ho) (by simpa using ht) false).trans
      (Skel.of_eq rfl rfl)))
    (InvB_of_heap_eq (s := (s.modVal o f).unadopt o t false) rfl hB2) ?_ ?_
  · intro x
    have h1 := take_inHeap hv hk f hf x
    simp only [ext_withRoots_append, inHeap_withRoots, ext_modVal, ext_unadopt, inHeap_unadopt]
    omega
  · intro x
    have h1 := take_inHeapW hv f hfw x
    simp only [extW_withRoots, inHeapW_withRoots, extW_modVal, extW_unadopt, inHeapW_unadopt]
    omega

theorem Inv.adopt {s : State} (h : s.Inv) {a b : Nat} (ha : s.isLive a = true)
    (hb : s.isLive b = true) (same : Bool) : (s.adopt a b same).Inv :=
  fun herr => (h ((adopt_err_eq_none_iff s a b same).mp herr).1).adopt ha hb same

theorem Inv.unadopt {s : State} (h : s.Inv) {a b : Nat} (ha : s.isLive a = true)
    (hb : s.isLive b = true) (same : Bool) : (s.unadopt a b same).Inv :=
  fun herr => (h ((unadopt_err_eq_none_iff s a b same).mp herr).1).unadopt ha hb same

end State
end Cactus
