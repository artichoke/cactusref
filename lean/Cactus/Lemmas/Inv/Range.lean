import Cactus.Lemmas.Outcome
import Cactus.Lemmas.CycleStruct
import Cactus.Spec.Reach
/-!
# `InvR` (no handle designates an unallocated index) is preserved by every transition

`InvR` is stated by counting.  `InvR_iff` restates it place by place: the three handle lists of the
program, the values it holds, the values stored in the heap and the frames of the control stack name
indices below the heap length only.  Every transition rewrites one or two of these places with
handles taken from another of them, or with the index of a fresh allocation.
-/
namespace Cactus

/-- every handle in the list designates an index below `n` -/
def Below (n : Nat) (l : List Nat) : Prop := ∀ o ∈ l, o < n

/-- the handles owned by a value are below `n` -/
def Val.Below (n : Nat) (v : Val) : Prop := Cactus.Below n v.held ∧ Cactus.Below n v.weaks

@[simp] theorem Below_nil (n : Nat) : Below n [] := fun _ ho => nomatch ho
@[simp] theorem Below_append (n : Nat) (l₁ l₂ : List Nat) : Below n (l₁ ++ l₂) ↔ Below n l₁ ∧ Below n l₂ :=
  ⟨fun h => ⟨fun o ho => h o (List.mem_append_left _ ho), fun o ho => h o (List.mem_append_right _ ho)⟩,
    fun h o ho => (List.mem_append.mp ho).elim (h.1 o) (h.2 o)⟩
@[simp] theorem Below_cons (n a : Nat) (l : List Nat) : Below n (a :: l) ↔ a < n ∧ Below n l :=
  List.forall_mem_cons
theorem Below.mono {n m : Nat} {l : List Nat} (h : Below n l) (hnm : n ≤ m) : Below m l :=
  fun o ho => Nat.lt_of_lt_of_le (h o ho) hnm
theorem Below.eraseIdx {n : Nat} {l : List Nat} (h : Below n l) (i : Nat) : Below n (l.eraseIdx i) :=
  fun o ho => h o (List.mem_of_mem_eraseIdx ho)
theorem Below.set {n : Nat} {l : List Nat} (h : Below n l) (i : Nat) {a : Nat} (ha : a < n) :
    Below n (l.set i a) :=
  fun o ho => (List.mem_or_eq_of_mem_set ho).elim (h o) (fun e => e ▸ ha)
theorem Below.concat {n : Nat} {l : List Nat} (h : Below n l) {a : Nat} (ha : a < n) : Below n (l ++ [a]) :=
  (Below_append n l [a]).mpr ⟨h, (Below_cons n a []).mpr ⟨ha, Below_nil n⟩⟩
theorem Below.count_eq_zero {n : Nat} {l : List Nat} (h : Below n l) {t : Nat} (ht : n ≤ t) : l.count t = 0 :=
  List.count_eq_zero.mpr fun hm => Nat.lt_irrefl t (Nat.lt_of_lt_of_le (h t hm) ht)
theorem Below.of_count {n : Nat} {l : List Nat} (h : ∀ t, n ≤ t → l.count t = 0) : Below n l :=
  fun o ho => Nat.lt_of_not_le fun hle => List.count_eq_zero.mp (h o hle) ho

theorem Val.Below.mono {n m : Nat} {v : Val} (h : v.Below n) (hnm : n ≤ m) : v.Below m :=
  ⟨h.1.mono hnm, h.2.mono hnm⟩
theorem Val.Below.count {n : Nat} {v : Val} (h : v.Below n) {t : Nat} (ht : n ≤ t) :
    v.held.count t = 0 ∧ v.weaks.count t = 0 := ⟨h.1.count_eq_zero ht, h.2.count_eq_zero ht⟩
theorem Val.Below.of_count {n : Nat} {v : Val} (h : ∀ t, n ≤ t → v.held.count t = 0 ∧ v.weaks.count t = 0) :
    v.Below n := ⟨Cactus.Below.of_count (fun t ht => (h t ht).1), Cactus.Below.of_count (fun t ht => (h t ht).2)⟩

/-- the handles owned by a frame are below `n` -/
def Frame.Below (n : Nat) (f : Frame) : Prop :=
  ∀ t, n ≤ t → Frame.strongTo t f = 0 ∧ Frame.weakTo t f = 0

theorem Frame.Below.mono {n m : Nat} {f : Frame} (h : f.Below n) (hnm : n ≤ m) : f.Below m :=
  fun t ht => h t (Nat.le_trans hnm ht)
theorem Frame.below_rcDrop {n o : Nat} (h : o < n) : (Frame.rcDrop o).Below n :=
  fun _ ht => ⟨if_neg (Nat.ne_of_lt (Nat.lt_of_lt_of_le h ht)), rfl⟩
theorem Frame.below_weakDrop {n o : Nat} (h : o < n) : (Frame.weakDrop o).Below n :=
  fun _ ht => ⟨rfl, if_neg (Nat.ne_of_lt (Nat.lt_of_lt_of_le h ht))⟩
theorem Frame.below_dropVal {n : Nat} {v : Val} (h : v.Below n) : (Frame.dropVal v).Below n :=
  fun _ ht => h.count ht
theorem Frame.below_dropFields {n : Nat} {hs ws : List Nat} (h1 : Cactus.Below n hs) (h2 : Cactus.Below n ws) :
    (Frame.dropFields hs ws).Below n :=
  fun _ ht => ⟨h1.count_eq_zero ht, h2.count_eq_zero ht⟩
/-- the frames that are skipped when a panic unwinds own no handle -/
theorem Frame.below_of_not_cleanup {f : Frame} (hf : f.isCleanup = false) (n : Nat) : f.Below n :=
  fun t _ => ⟨Frame.strongTo_of_not_cleanup t f hf, Frame.weakTo_of_not_cleanup t f hf⟩

theorem Frame.Below.rcDrop_lt {n o : Nat} (h : (Frame.rcDrop o).Below n) : o < n :=
  Nat.lt_of_not_le fun hle => Nat.one_ne_zero ((if_pos rfl).symm.trans (h o hle).1)
theorem Frame.Below.weakDrop_lt {n o : Nat} (h : (Frame.weakDrop o).Below n) : o < n :=
  Nat.lt_of_not_le fun hle => Nat.one_ne_zero ((if_pos rfl).symm.trans (h o hle).2)
theorem Frame.Below.dropVal_below {n : Nat} {v : Val} (h : (Frame.dropVal v).Below n) : v.Below n :=
  Val.Below.of_count h
theorem Frame.Below.dropFields_below {n : Nat} {hs ws : List Nat} (h : (Frame.dropFields hs ws).Below n) :
    Cactus.Below n hs ∧ Cactus.Below n ws :=
  ⟨Cactus.Below.of_count (fun t ht => (h t ht).1), Cactus.Below.of_count (fun t ht => (h t ht).2)⟩

namespace State

/-! ## `InvR` place by place -/

theorem inHeap_zero_iff (s : State) (t : Nat) :
    s.inHeap t = 0 ↔ ∀ ob ∈ s.heap, ∀ v, ob.value = some v → v.held.count t = 0 := by
  rw [inHeap_eq_zero_iff]
  constructor
  · intro h ob hob v hv
    obtain ⟨a, hg⟩ := List.getElem?_of_mem hob
    rw [← Obj.heldList_of_some hv, ← H_of_get hg]
    exact h a
  · intro h a
    cases hg : s.heap[a]? with
    | none => exact H_of_get_none hg t
    | some ob =>
      rw [H_of_get hg]
      cases hv : ob.value with
      | none => rw [Obj.heldList_of_none hv]; rfl
      | some v => rw [Obj.heldList_of_some hv]; exact h ob (List.mem_of_getElem? hg) v hv

theorem inHeapW_zero_iff (s : State) (t : Nat) :
    s.inHeapW t = 0 ↔ ∀ ob ∈ s.heap, ∀ v, ob.value = some v → v.weaks.count t = 0 := by
  unfold inHeapW
  rw [sumList_range_eq_zero_iff]
  constructor
  · intro h ob hob v hv
    obtain ⟨a, hg⟩ := List.getElem?_of_mem hob
    rw [← Obj.weakList_of_some hv, ← weaksOf_of_get hg]
    exact h a (get_lt hg)
  · intro h a _
    cases hg : s.heap[a]? with
    | none => rw [weaksOf_of_get_none hg]; rfl
    | some ob =>
      rw [weaksOf_of_get hg]
      cases hv : ob.value with
      | none => rw [Obj.weakList_of_none hv]; rfl
      | some v => rw [Obj.weakList_of_some hv]; exact h ob (List.mem_of_getElem? hg) v hv

/-- no handle designates `t`, place by place -/
theorem refs_zero_iff (s : State) (t : Nat) :
    (s.ext t + s.inHeap t + s.pend t = 0 ∧ s.extW t + s.inHeapW t + s.pendW t = 0) ↔
      s.roots.count t = 0 ∧ s.wroots.count t = 0 ∧ s.raws.count t = 0
      ∧ (∀ v ∈ s.vals, v.held.count t = 0 ∧ v.weaks.count t = 0)
      ∧ (∀ ob ∈ s.heap, ∀ v, ob.value = some v → v.held.count t = 0 ∧ v.weaks.count t = 0)
      ∧ ∀ f ∈ s.stack, Frame.strongTo t f = 0 ∧ Frame.weakTo t f = 0 := by
  simp only [ext, extW, pend, pendW, Nat.add_eq_zero_iff, sumList_map_eq_zero_iff, inHeap_zero_iff,
    inHeapW_zero_iff]
  constructor
  · intro ⟨⟨⟨⟨⟨hr, hra⟩, hv⟩, hh⟩, hs⟩, ⟨⟨hw, hv'⟩, hh'⟩, hs'⟩
    exact ⟨hr, hw, hra, fun v hm => ⟨hv v hm, hv' v hm⟩, fun ob hob v hm => ⟨hh ob hob v hm, hh' ob hob v hm⟩,
      fun f hf => ⟨hs f hf, hs' f hf⟩⟩
  · intro ⟨hr, hw, hra, hv, hh, hs⟩
    exact ⟨⟨⟨⟨⟨hr, hra⟩, fun v hm => (hv v hm).1⟩, fun ob hob v hm => (hh ob hob v hm).1⟩, fun f hf => (hs f hf).1⟩,
      ⟨⟨hw, fun v hm => (hv v hm).2⟩, fun ob hob v hm => (hh ob hob v hm).2⟩, fun f hf => (hs f hf).2⟩

theorem InvR_iff (s : State) :
    s.InvR ↔ Below s.heap.length s.roots ∧ Below s.heap.length s.wroots ∧ Below s.heap.length s.raws
      ∧ (∀ v ∈ s.vals, v.Below s.heap.length)
      ∧ (∀ ob ∈ s.heap, ∀ v, ob.value = some v → v.Below s.heap.length)
      ∧ ∀ f ∈ s.stack, f.Below s.heap.length := by
  constructor
  · intro h
    have z := fun t ht => (refs_zero_iff s t).mp (h t ht)
    exact ⟨.of_count fun t ht => (z t ht).1, .of_count fun t ht => (z t ht).2.1,
      .of_count fun t ht => (z t ht).2.2.1, fun v hv => .of_count fun t ht => (z t ht).2.2.2.1 v hv,
      fun ob hob v hv => .of_count fun t ht => (z t ht).2.2.2.2.1 ob hob v hv,
      fun f hf t ht => (z t ht).2.2.2.2.2 f hf⟩
  · intro ⟨hr, hw, hra, hv, hh, hs⟩ t ht
    exact (refs_zero_iff s t).mpr ⟨hr.count_eq_zero ht, hw.count_eq_zero ht, hra.count_eq_zero ht,
      fun v hm => (hv v hm).count ht, fun ob hob v hm => (hh ob hob v hm).count ht, fun f hf => hs f hf t ht⟩

variable {s : State}

theorem InvR.roots_below (h : s.InvR) : Below s.heap.length s.roots := ((InvR_iff s).mp h).1
theorem InvR.wroots_below (h : s.InvR) : Below s.heap.length s.wroots := ((InvR_iff s).mp h).2.1
theorem InvR.raws_below (h : s.InvR) : Below s.heap.length s.raws := ((InvR_iff s).mp h).2.2.1
theorem InvR.vals_below (h : s.InvR) : ∀ v ∈ s.vals, v.Below s.heap.length := ((InvR_iff s).mp h).2.2.2.1
theorem InvR.heap_below (h : s.InvR) : ∀ ob ∈ s.heap, ∀ v, ob.value = some v → v.Below s.heap.length :=
  ((InvR_iff s).mp h).2.2.2.2.1
theorem InvR.stack_below (h : s.InvR) : ∀ f ∈ s.stack, f.Below s.heap.length := ((InvR_iff s).mp h).2.2.2.2.2

theorem InvR.val_below_of_cell (h : s.InvR) {a : Nat} {ob : Obj} {v : Val}
    (hc : s.cell a = some ob) (hv : ob.value = some v) : v.Below s.heap.length :=
  h.heap_below ob (List.mem_of_getElem? (get_of_cell hc)) v hv

theorem InvR.held_of_cell {s : State} (h : s.InvR) {a : Nat} {ob : Obj} {v : Val}
    (hc : s.cell a = some ob) (hv : ob.value = some v) {t : Nat} (ht : s.heap.length ≤ t) :
    v.held.count t = 0 ∧ v.weaks.count t = 0 := (h.val_below_of_cell hc hv).count ht

theorem InvR.val_below_of_valOf (h : s.InvR) {a : Nat} {v : Val} (hv : s.valOf a = some v) :
    v.Below s.heap.length := by
  obtain ⟨ob, hc, hv'⟩ := (valOf_eq_some_iff s a v).mp hv
  exact h.val_below_of_cell hc hv'

theorem InvR.top_below (h : s.InvR) {f : Frame} {rest : List Frame} (hs : s.stack = f :: rest) :
    f.Below s.heap.length := h.stack_below f (hs ▸ List.mem_cons_self)

theorem InvR.of_le {s s' : State} (h : s.InvR) (hl : s.heap.length ≤ s'.heap.length)
    (hle : ∀ t, s'.heap.length ≤ t →
      s'.ext t + s'.inHeap t + s'.pend t ≤ s.ext t + s.inHeap t + s.pend t ∧
      s'.extW t + s'.inHeapW t + s'.pendW t ≤ s.extW t + s.inHeapW t + s.pendW t) : s'.InvR := by
  intro t ht
  obtain ⟨h1, h2⟩ := h t (Nat.le_trans hl ht)
  obtain ⟨l1, l2⟩ := hle t ht
  rw [h1] at l1
  rw [h2] at l2
  exact ⟨Nat.eq_zero_of_le_zero l1, Nat.eq_zero_of_le_zero l2⟩

/-- same heap length, same six quantities -/
theorem InvR.of_eq {s s' : State} (h : s.InvR) (hl : s'.heap.length = s.heap.length)
    (h1 : ∀ t, s'.ext t = s.ext t) (h2 : ∀ t, s'.inHeap t = s.inHeap t) (h3 : ∀ t, s'.pend t = s.pend t)
    (h4 : ∀ t, s'.extW t = s.extW t) (h5 : ∀ t, s'.inHeapW t = s.inHeapW t)
    (h6 : ∀ t, s'.pendW t = s.pendW t) : s'.InvR := by
  intro t ht
  rw [h1, h2, h3, h4, h5, h6]
  exact h t (hl ▸ ht)

/-! ## primitives that move no handle -/

theorem InvR.fail (h : s.InvR) (e : Err) : (s.fail e).InvR := by
  unfold State.fail
  split <;> exact h
theorem InvR.emit (h : s.InvR) (e : Ev) : (s.emit e).InvR := h

/-- overwriting an object by one whose value (if any) owns handles in range -/
theorem InvR.setObj (h : s.InvR) (a : Nat) (ob' : Obj) (hv : ∀ v, ob'.value = some v → v.Below s.heap.length) :
    (s.setObj a ob').InvR := by
  rw [InvR_iff, setObj_heap_length]
  exact ⟨h.roots_below, h.wroots_below, h.raws_below, h.vals_below,
    fun ob hob => (List.mem_or_eq_of_mem_set hob).elim (h.heap_below ob) (fun e => e ▸ hv), h.stack_below⟩

theorem InvR.setObj_of_cell (h : s.InvR) {a : Nat} {ob : Obj} (ob' : Obj)
    (hc : s.cell a = some ob) (hv : ob'.value = none ∨ ob'.value = ob.value) : (s.setObj a ob').InvR :=
  h.setObj a ob' fun _ hv' => hv.elim (fun e => nomatch e.symm.trans hv') (fun e => h.val_below_of_cell hc (e ▸ hv'))

theorem InvR.setLinks (h : s.InvR) (o : Nat) (f : Table → Table) : (s.setLinks o f).InvR := by
  rcases setLinks_cases s o f with ⟨e, he⟩ | ⟨ob, t, hc, -, he⟩ <;> rw [he]
  · exact h.fail e
  · exact h.setObj_of_cell _ hc (.inr rfl)
theorem InvR.setStrong {s : State} (h : s.InvR) (o : Nat) (st : Strong) : (s.setStrong o st).InvR := by
  rcases setStrong_cases s o st with ⟨e, he⟩ | ⟨ob, hc, he⟩ <;> rw [he]
  · exact h.fail e
  · exact h.setObj_of_cell _ hc (.inr rfl)
theorem InvR.incStrong {s : State} (h : s.InvR) (o : Nat) : (s.incStrong o).InvR := by
  rcases incStrong_cases s o with ⟨e, he⟩ | ⟨ob, n, hc, -, he⟩ <;> rw [he]
  · exact h.fail e
  · exact h.setObj_of_cell _ hc (.inr rfl)
theorem InvR.incWeak (h : s.InvR) (o : Nat) : (s.incWeak o).InvR := by
  rcases incWeak_cases s o with ⟨e, he⟩ | ⟨ob, hc, -, he⟩ <;> rw [he]
  · exact h.fail e
  · exact h.setObj_of_cell _ hc (.inr rfl)
theorem InvR.decWeakFree (h : s.InvR) (o : Nat) (imp : Bool) : (s.decWeakFree o imp).InvR := by
  rcases decWeakFree_cases s o imp with ⟨e, he⟩ | ⟨ob, hc, -, he⟩ | ⟨ob, w, hc, -, he⟩ <;> rw [he]
  · exact h.fail e
  · refine InvR.emit ?_ _
    exact h.setObj_of_cell _ hc (.inr rfl)
  · exact h.setObj_of_cell _ hc (.inr rfl)

theorem InvR.badRoot (h : s.InvR) (r : Nat) : (s.badRoot r).InvR := by
  rcases badRoot_cases s r with he | ⟨e, he⟩ <;> rw [he]
  · exact h
  · exact h.fail e
theorem InvR.adopt (h : s.InvR) (a b : Nat) (same : Bool) : (s.adopt a b same).InvR := by
  unfold State.adopt
  split
  · exact h.setLinks _ _
  · exact (h.setLinks _ _).setLinks _ _
theorem InvR.unadopt {s : State} (h : s.InvR) (a b : Nat) (same : Bool) : (s.unadopt a b same).InvR := by
  unfold State.unadopt
  split
  · exact h.setLinks _ _
  · exact (h.setLinks _ _).setLinks _ _

theorem InvR.modVal (h : s.InvR) (o : Nat) (f : Val → Val)
    (hf : ∀ v, v.Below s.heap.length → (f v).Below s.heap.length) : (s.modVal o f).InvR := by
  rcases modVal_cases s o f with ⟨e, he⟩ | ⟨ob, v, hc, hv, he⟩ <;> rw [he]
  · exact h.fail e
  · exact h.setObj o _ fun _ hv' => Option.some.inj hv' ▸ hf v (h.val_below_of_cell hc hv)

/-- a fresh allocation for a value whose handles are in range -/
theorem InvR.alloc (h : s.InvR) (v : Val) (hv : v.Below s.heap.length) : (s.alloc v).InvR := by
  rw [InvR_iff, alloc_heap_length]
  have hle := Nat.le_succ s.heap.length
  refine ⟨h.roots_below.mono hle, h.wroots_below.mono hle, h.raws_below.mono hle,
    fun v' hv' => (h.vals_below v' hv').mono hle, fun ob hob v' hv' => ?_,
    fun f hf => (h.stack_below f hf).mono hle⟩
  rcases List.mem_append.mp hob with hob | hob
  · exact (h.heap_below ob hob v' hv').mono hle
  · cases List.eq_of_mem_singleton hob
    cases hv'
    exact hv.mono hle

/-- replacing the stack by frames whose handles are in range -/
theorem InvR.withStack (h : s.InvR) (st : List Frame) (hst : ∀ f ∈ st, f.Below s.heap.length) :
    ({ s with stack := st } : State).InvR :=
  (InvR_iff _).mpr ⟨h.roots_below, h.wroots_below, h.raws_below, h.vals_below, h.heap_below, hst⟩

theorem InvR.push (h : s.InvR) (fs : List Frame) (hfs : ∀ f ∈ fs, f.Below s.heap.length) : (s.push fs).InvR :=
  h.withStack _ fun f hf => (List.mem_append.mp hf).elim (hfs f) (h.stack_below f)

theorem InvR.push_one (h : s.InvR) {f : Frame} (hf : f.Below s.heap.length) : (s.push [f]).InvR :=
  h.push _ fun _ hg => List.eq_of_mem_singleton hg ▸ hf

theorem InvR.pop (h : s.InvR) {f : Frame} {rest : List Frame} (hs : s.stack = f :: rest) :
    ({ s with stack := rest } : State).InvR :=
  h.withStack rest fun g hg => h.stack_below g (hs ▸ List.mem_cons_of_mem f hg)

/-- replacing what the program holds: its handle lists and its values -/
theorem InvR.withProg (h : s.InvR) {r w ra : List Nat} {vs : List Val} (hr : Below s.heap.length r)
    (hw : Below s.heap.length w) (hra : Below s.heap.length ra) (hvs : ∀ v ∈ vs, v.Below s.heap.length) :
    ({ s with roots := r, wroots := w, raws := ra, vals := vs } : State).InvR :=
  (InvR_iff _).mpr ⟨hr, hw, hra, hvs, h.heap_below, h.stack_below⟩

theorem InvR.withRoots (h : s.InvR) {r : List Nat} (hr : Below s.heap.length r) :
    ({ s with roots := r } : State).InvR := h.withProg hr h.wroots_below h.raws_below h.vals_below
theorem InvR.withWroots (h : s.InvR) {w : List Nat} (hw : Below s.heap.length w) :
    ({ s with wroots := w } : State).InvR := h.withProg h.roots_below hw h.raws_below h.vals_below
theorem InvR.withRaws (h : s.InvR) {ra : List Nat} (hra : Below s.heap.length ra) :
    ({ s with raws := ra } : State).InvR := h.withProg h.roots_below h.wroots_below hra h.vals_below

theorem InvR.withNextVid (h : s.InvR) (n : Nat) : ({ s with nextVid := n } : State).InvR := h

theorem InvR.addRoot (h : s.InvR) {o : Nat} (ho : o < s.heap.length) :
    ({ s with roots := s.roots ++ [o] } : State).InvR := h.withRoots (h.roots_below.concat ho)
theorem InvR.addWroot (h : s.InvR) {o : Nat} (ho : o < s.heap.length) :
    ({ s with wroots := s.wroots ++ [o] } : State).InvR := h.withWroots (h.wroots_below.concat ho)
theorem InvR.addRaw (h : s.InvR) {o : Nat} (ho : o < s.heap.length) :
    ({ s with raws := s.raws ++ [o] } : State).InvR := h.withRaws (h.raws_below.concat ho)

theorem InvR.purgeOne (h : s.InvR) (x : Nat) (e : Link × Nat) : (purgeOne x s e).InvR := by
  unfold State.purgeOne
  split
  · exact h
  · exact h.setLinks _ _

theorem InvR.purgePeers {s : State} (h : s.InvR) (x : Nat) : (s.purgePeers x).InvR := by
  unfold State.purgePeers
  split
  · exact (foldl_pres (State.purgeOne x) (fun _ e hs => hs.purgeOne x e) _ h).setLinks _ _
  · exact h.fail _

theorem InvR.giveUp {s : State} (h : s.InvR) (o : Nat) : (s.giveUp o).InvR := by
  unfold State.giveUp
  split
  · next ob hc => exact ((h.purgePeers o).setObj_of_cell _ hc (.inl rfl)).decWeakFree o true
  · exact (h.purgePeers o).fail _

theorem InvR.beginSingle {s : State} (h : s.InvR) (o : Nat) : (s.beginSingle o).InvR := by
  unfold State.beginSingle
  split
  · next ob hc =>
    split
    · exact h.decWeakFree o true
    · split
      · next v hv =>
        refine (h.setObj_of_cell _ hc (.inl rfl)).push _ (List.forall_mem_cons.mpr
          ⟨?_, fun _ hf => List.eq_of_mem_singleton hf ▸ Frame.below_of_not_cleanup rfl _⟩)
        rw [setObj_heap_length]
        exact Frame.below_dropVal (h.val_below_of_cell hc hv)
      · exact h.fail _
  · exact h.fail _

theorem InvR.finishSingle {s : State} (h : s.InvR) (o : Nat) : (s.finishSingle o).InvR := by
  unfold State.finishSingle
  split
  · next ob hc =>
    split
    · exact (h.setObj_of_cell { ob with links := none } hc (.inr rfl)).decWeakFree o true
    · exact h.fail _
  · exact h.fail _

theorem InvR.phase3One {s : State} (h : s.InvR) (k : Nat) : (s.phase3One k).InvR := by
  unfold State.phase3One
  split
  · split
    · exact h.decWeakFree k true
    · exact h
  · exact h.fail _

theorem InvR.cloneHandles (h : s.InvR) (v : Val) : (s.cloneHandles v).InvR :=
  foldl_pres State.incWeak (fun _ a hs => hs.incWeak a) _
    (foldl_pres State.incStrong (fun _ a hs => hs.incStrong a) _ h)

theorem cloneHandles_heap_length (s : State) (v : Val) : (s.cloneHandles v).heap.length = s.heap.length :=
  (HeapRel.cloneHandles s v).heap_length

theorem InvR.weakDrop {s : State} (h : s.InvR) (o : Nat) : (s.weakDrop o).InvR := h.decWeakFree o false

theorem InvR.dropVal {s : State} (h : s.InvR) (v : Val) (hv : v.Below s.heap.length) : (s.dropVal v).InvR := by
  refine (h.emit _).push _ fun f hf => ?_
  rcases List.mem_append.mp hf with hf | hf
  · rcases List.mem_append.mp hf with hf | hf
    · exact List.eq_of_mem_singleton hf ▸ Frame.below_of_not_cleanup rfl _
    · split at hf
      · exact List.eq_of_mem_singleton hf ▸ Frame.below_of_not_cleanup rfl _
      · cases hf
  · exact List.eq_of_mem_singleton hf ▸ Frame.below_dropFields hv.1 hv.2

theorem InvR.dropFields {s : State} (h : s.InvR) (hs ws : List Nat)
    (h1 : Below s.heap.length hs) (h2 : Below s.heap.length ws) : (s.dropFields hs ws).InvR := by
  cases hs with
  | cons a hs =>
    rw [Below_cons] at h1
    exact h.push _ <| List.forall_mem_cons.mpr
      ⟨Frame.below_rcDrop h1.1, fun _ hf => List.eq_of_mem_singleton hf ▸ Frame.below_dropFields h1.2 h2⟩
  | nil =>
    cases ws with
    | cons a ws =>
      rw [Below_cons] at h2
      exact h.push _ <| List.forall_mem_cons.mpr
        ⟨Frame.below_weakDrop h2.1, fun _ hf => List.eq_of_mem_singleton hf ▸ Frame.below_dropFields h1 h2.2⟩
    | nil => exact h

theorem InvR.panic (h : s.InvR) : s.panic.InvR := by
  unfold State.panic
  split
  · exact h.fail _
  · exact h.withStack _ fun f hf => h.stack_below f (List.mem_filter.mp hf).1

theorem InvR.phase1One {s : State} (h : s.InvR) (keys : List Nat) (e : Nat × Nat) :
    (State.phase1One keys s e).InvR := by
  unfold State.phase1One
  split
  · next ob hc =>
    split
    · exact h.setObj_of_cell _ hc (.inr rfl)
    · exact h.fail _
    · exact h.fail _
  · exact h.fail _

/-- phase 2 moves values out of the heap into the list of collected values -/
theorem phase2One_invR (acc : State × List Val) (k : Nat)
    (h : acc.1.InvR ∧ ∀ v ∈ acc.2, v.Below acc.1.heap.length) :
    (phase2One acc k).1.InvR ∧ ∀ v ∈ (phase2One acc k).2, v.Below (phase2One acc k).1.heap.length := by
  unfold State.phase2One
  split
  · next ob hc =>
    split
    · split
      · next v0 hv0 =>
        refine ⟨h.1.setObj_of_cell _ hc (.inl rfl), fun v hm => ?_⟩
        rw [setObj_heap_length]
        rcases List.mem_append.mp hm with hm | hm
        · exact h.2 v hm
        · exact List.eq_of_mem_singleton hm ▸ h.1.val_below_of_cell hc hv0
      · exact ⟨h.1.fail _, fail_heap acc.1 _ ▸ h.2⟩
    · exact h
  · exact ⟨h.1.fail _, fail_heap acc.1 _ ▸ h.2⟩

theorem InvR.dropCycle {s : State} (h : s.InvR) (c : CMap) : (s.dropCycle c).InvR := by
  rw [dropCycle_eq_push]
  have h1 : (s.cyc1 c).InvR := foldl_pres _ (fun _ e hs => hs.phase1One c.keys e) _ h
  obtain ⟨h2, h3⟩ := foldl_pres phase2One phase2One_invR c.keys (b := (s.cyc1 c, [])) ⟨h1, nofun⟩
  refine h2.push _ fun f hf => ?_
  rcases List.mem_append.mp hf with hf | hf
  · obtain ⟨v, hv, rfl⟩ := List.mem_map.mp hf
    exact Frame.below_dropVal (h3 v ((mem_reorder _ _ _).mp hv))
  · exact List.eq_of_mem_singleton hf ▸ Frame.below_of_not_cleanup rfl _

theorem InvR.traceBranch (h : s.InvR) (o : Nat) : (s.traceBranch o).InvR := by
  rcases s.traceBranch_cases o with ⟨e, he⟩ | he | he <;> rw [he]
  · exact (h.emit _).fail e
  · exact h.emit _
  · exact (h.emit _).dropCycle _

theorem InvR.rcDrop {s : State} (h : s.InvR) (o : Nat) : (s.rcDrop o).InvR := by
  rcases s.rcDrop_cases o with ⟨e, he⟩ | he | ⟨ob, n, t, hc, -, -, hr⟩
  · rw [he]; exact h.fail e
  · rw [he]; exact h
  · have h1 : (s.setObj o { ob with strong := .cnt n }).InvR := h.setObj_of_cell _ hc (.inr rfl)
    rcases hr with ⟨-, -, he⟩ | ⟨-, -, he⟩ | ⟨-, -, he⟩ | ⟨-, -, he⟩ <;> rw [he]
    · exact h1
    · exact h1.beginSingle o
    · exact (h1.purgePeers o).beginSingle o
    · exact h1.traceBranch o

end State

theorem Val.Below.addHeld {n t : Nat} {v : Val} (hv : v.Below n) (ht : t < n) :
    Val.Below n { v with held := v.held ++ [t] } := ⟨hv.1.concat ht, hv.2⟩
theorem Val.Below.addWeak {n t : Nat} {v : Val} (hv : v.Below n) (ht : t < n) :
    Val.Below n { v with weaks := v.weaks ++ [t] } := ⟨hv.1, hv.2.concat ht⟩
theorem Val.Below.eraseHeld {n : Nat} {v : Val} (hv : v.Below n) (i : Nat) :
    Val.Below n { v with held := v.held.eraseIdx i } := ⟨hv.1.eraseIdx i, hv.2⟩

open State

theorem ActOutcome.invR {s t : State} {fh fw : List Nat} {a : Act} (hout : ActOutcome s fh fw a t) (h : s.InvR)
    (he : t.err = none) : t.InvR := by
  induction hout with
  | stay => exact h
  | fails t e ht => exact absurd (ht.symm.trans he) (fail_err_ne_none s e)
  | ret n _ ih => exact (ih he).emit _
  | gainRoot o _ =>
    exact (h.incStrong o).addRoot
      (by rw [incStrong_heap_length]; exact isLive_lt ((incStrong_err_eq_none_iff s o).mp he).2)
  | gainRaw o ho _ => exact (h.incStrong o).addRaw (by rw [incStrong_heap_length]; exact isLive_lt ho)
  | gainWeak o _ =>
    obtain ⟨-, ob, hc, -⟩ := (incWeak_err_eq_none_iff s o).mp he
    exact (h.incWeak o).addWroot (by rw [incWeak_heap_length]; exact cell_some_lt s o ob hc)
  | intoRaw i o _ ho => exact (h.withRoots (h.roots_below.eraseIdx _)).addRaw (isLive_lt (s := s) ho)
  | fromRaw i o hi =>
    exact (h.withRaws (h.raws_below.eraseIdx _)).addRoot (h.raws_below o (List.mem_of_getElem? hi))
  | dropRoot i o _ ho =>
    exact (h.withRoots (h.roots_below.eraseIdx _)).push_one (Frame.below_rcDrop (isLive_lt (s := s) ho))
  | dropRaw i o _ ho =>
    exact (h.withRaws (h.raws_below.eraseIdx _)).push_one (Frame.below_rcDrop (isLive_lt (s := s) ho))
  | dropWeak i o hi =>
    exact (h.withWroots (h.wroots_below.eraseIdx _)).push_one
      (Frame.below_weakDrop (h.wroots_below o (List.mem_of_getElem? hi)))
  | dropValue i v hi =>
    exact (h.withProg h.roots_below h.wroots_below h.raws_below fun v' hv' =>
      h.vals_below v' (List.mem_of_mem_eraseIdx hv')).push_one
        (Frame.below_dropVal (h.vals_below v (List.mem_of_getElem? hi)))
  | edit o f _ hf => exact h.modVal o f fun v hv => ⟨(hf v).1 ▸ hv.1, (hf v).2 ▸ hv.2⟩
  | storeWeak i t o hi _ =>
    exact (h.withWroots (h.wroots_below.eraseIdx _)).modVal o _
      fun _ hv => hv.addWeak (h.wroots_below t (List.mem_of_getElem? hi))
  | store i t o _ ht _ =>
    exact (h.withRoots (h.roots_below.eraseIdx _)).modVal o _ fun _ hv => hv.addHeld (isLive_lt (s := s) ht)
  | link i t o _ ht _ =>
    exact ((h.adopt o t false).withRoots ((h.adopt o t false).roots_below.eraseIdx _)).modVal o _
      fun _ hv => hv.addHeld (by rw [adopt_heap_length]; exact isLive_lt ht)
  | take o k t v _ hv hk =>
    exact (h.modVal o _ fun _ hv => hv.eraseHeld _).addRoot
      (by rw [modVal_heap_length]; exact (h.val_below_of_valOf hv).1 t (List.mem_of_getElem? hk))
  | unlink o k t v _ hv hk _ =>
    exact ((h.modVal o _ fun _ hv => hv.eraseHeld _).unadopt o t false).addRoot
      (by rw [unadopt_heap_length, modVal_heap_length]
          exact (h.val_below_of_valOf hv).1 t (List.mem_of_getElem? hk))
  | adopt a b same _ _ => exact h.adopt a b same
  | unadopt a b same _ _ => exact h.unadopt a b same
  | new v hv =>
    exact ((h.alloc v (hv ▸ ⟨Below_nil _, Below_nil _⟩)).addRoot
      (by rw [alloc_heap_length]; exact Nat.lt_succ_self _)).withNextVid _
  | unwrap i o ob v _ _ hc _ hv =>
    exact (h.withProg (h.roots_below.eraseIdx _) h.wroots_below h.raws_below fun v' hv' =>
      (List.mem_append.mp hv').elim (h.vals_below v')
        fun e => List.eq_of_mem_singleton e ▸ h.val_below_of_cell hc hv).giveUp o
  | cloneOut i o ob v v' sc _ ho hc hv _ hsc =>
    -- the handles of the value are cloned first, unless the value is copied without them
    have hvb : v.Below s.heap.length := h.val_below_of_cell hc hv
    have ⟨h0, hl, hv'⟩ : sc.InvR ∧ sc.heap.length = s.heap.length ∧ v'.Below s.heap.length := by
      rcases hsc with ⟨rfl, rfl⟩ | ⟨rfl, rfl⟩
      · exact ⟨h, rfl, Below_nil _, Below_nil _⟩
      · exact ⟨h.cloneHandles v, cloneHandles_heap_length _ v, hvb⟩
    have h1 := h0.alloc v' (hl ▸ hv')
    have hl1 : (sc.alloc v').heap.length = s.heap.length + 1 := by rw [alloc_heap_length, hl]
    exact ((h1.withRoots (h1.roots_below.set _ (hl1 ▸ Nat.lt_succ_self _))).withNextVid _).push_one
      (Frame.below_rcDrop (hl1 ▸ Nat.lt_succ_of_lt (isLive_lt ho)))
  | steal i o ob v _ _ hc hv _ _ =>
    have h1 := h.alloc v (h.val_below_of_cell hc hv)
    exact (h1.withRoots (h1.roots_below.set _ (by rw [alloc_heap_length]; exact Nat.lt_succ_self _))).giveUp o

theorem applyAct_invR (s : State) (fh fw : List Nat) (a : Act) (h : s.InvR)
    (he : (applyAct s fh fw a).err = none) : (applyAct s fh fw a).InvR :=
  (applyAct_outcome s fh fw a).invR h he

theorem applyOp_invR (s : State) (op : Op) (h : s.InvR) (he : (applyOp s op).err = none) :
    (applyOp s op).InvR := by
  cases op with
  | act a => exact applyAct_invR s [] [] a h he
  | setScript q acts =>
    simp only [applyOp]
    split
    · exact h.modVal _ _ fun _ hv => hv
    · exact h.badRoot q
  | shuffle q i =>
    simp only [applyOp]
    split
    · exact h.setLinks _ _
    · exact h.badRoot q

/-- pushing the rest of a running destructor body: the frame owns nothing -/
theorem script_push_invR {s : State} {hh ww : List Nat} {acts acts' : List Act} {rest : List Frame}
    (hst : s.stack = .script hh ww acts :: rest) (hR : s.InvR) :
    (({ s with stack := rest } : State).push [.script hh ww acts']).InvR :=
  (hR.pop hst).push_one (Frame.below_of_not_cleanup rfl _)

theorem step_invR (s : State) (h : s.InvR) (he : (step s).err = none) : (step s).InvR := by
  rcases step_cases s with e | ⟨f, rest, herr, hst⟩
  · rw [e]; exact h
  · have h0 := h.pop hst
    have hf := h.top_below hst
    rw [step_eq_frame herr hst] at he ⊢
    cases f with
    | rcDrop o => exact h0.rcDrop o
    | weakDrop o => exact h0.weakDrop o
    | dropVal v => exact h0.dropVal v hf.dropVal_below
    | script hh w acts =>
      cases acts with
      | nil => exact h0
      | cons a as => exact applyAct_invR _ hh w a (script_push_invR hst h) he
    | panic => exact h0.panic
    | dropFields hh w => exact h0.dropFields hh w hf.dropFields_below.1 hf.dropFields_below.2
    | finishSingle o => exact h0.finishSingle o
    | phase3 ks => exact foldl_pres State.phase3One (fun _ k hs => hs.phase3One k) ks h0

theorem endOp_invR (s : State) (h : s.InvR) : (endOp s).InvR := by
  unfold endOp
  split
  · exact h
  · exact h

theorem begin_invR (s : State) (hint : List Nat) (h : s.InvR) : (s.begin hint).InvR := h

end Cactus
