import Cactus.Lemmas.Inv.ActsSimple
import Cactus.Lemmas.Inv.ActsLinks
import Cactus.Lemmas.Inv.ActsConsume
import Cactus.Lemmas.Inv.Frames
import Cactus.Lemmas.Inv.DropSingle
import Cactus.Lemmas.Inv.DropCycle
import Cactus.Lemmas.Inv.Range
/-!
# Every transition of the machine preserves `Inv`

* `applyAct_inv`, `applyOp_inv`, `step_inv`, `endOp_inv`, `begin_inv`, `fail_inv`: every transition
  of the machine preserves `Inv` (the transitions that allocate need `InvR` of the source state);
* errors are sticky (`applyAct_err_none`, `applyOp_err_none`, `step_err_none`, `endOp_err`);
* `reachable_invAll`: `InvAll` in every reachable state, given preservation of `InvR`
  (`RangeFacts`, proved as `rangeFacts` in `Cactus/Lemmas/Main.lean`).
-/
namespace Cactus
open State

theorem ActOutcome.inv {s t : State} {fh fw : List Nat} {a : Act} (hout : ActOutcome s fh fw a t) (h : s.Inv)
    (hR : s.InvR) : t.Inv := by
  induction hout with
  | stay => exact h
  | fails t e ht => exact fun herr => absurd (ht.symm.trans herr) (fail_err_ne_none s e)
  | ret n _ ih => exact Inv_emit ih _
  | gainRoot o _ => exact Inv_incStrong_gen h rfl rfl rfl (ext_withRoots_append _ _) (fun _ => rfl)
  | gainRaw o _ _ => exact Inv_incStrong_gen h rfl rfl rfl (ext_withRaws_append _ _) (fun _ => rfl)
  | gainWeak o _ => exact Inv_incWeak_gen h rfl rfl rfl (fun _ => rfl) (extW_withWroots_append _ _)
  | intoRaw i o hi _ =>
    exact fun herr => InvCore_congr (h herr) rfl rfl (fun t => ext_intoRaw s i o t hi) (fun _ => rfl)
  | fromRaw i o hi =>
    exact fun herr => InvCore_congr (h herr) rfl rfl (fun t => ext_fromRaw s i o t hi) (fun _ => rfl)
  | dropRoot i o hi _ =>
    refine fun herr => InvCore_push_move (h herr) rfl rfl (fun t => ?_) (fun t => Nat.add_zero _) rfl
    have := ext_withRoots_eraseIdx s i t
    simp only [hi, Option.some.injEq] at this
    exact this
  | dropRaw i o hi _ =>
    refine fun herr => InvCore_push_move (h herr) rfl rfl (fun t => ?_) (fun t => Nat.add_zero _) rfl
    have := ext_withRaws_eraseIdx s i t
    simp only [hi, Option.some.injEq] at this
    exact this
  | dropWeak i o hi =>
    refine fun herr => InvCore_push_move (h herr) rfl rfl (fun t => Nat.add_zero _) (fun t => ?_) rfl
    have := extW_withWroots_eraseIdx s i t
    simp only [hi, Option.some.injEq] at this
    exact this
  | dropValue i v hi =>
    exact fun herr => InvCore_push_move (h herr) rfl rfl (fun t => ext_withVals_eraseIdx s i v t hi)
      (fun t => extW_withVals_eraseIdx s i v t hi) rfl
  | edit o f _ hf => exact Inv_modVal h o f (fun v => (hf v).1) fun v => (hf v).2
  | storeWeak i t o hi ho => exact fun herr => (h ((modVal_err_eq_none_iff _ _ _).mp herr).1).storeWeak hi ho
  | store i t o hi _ ho => exact fun herr => (h ((modVal_err_eq_none_iff _ _ _).mp herr).1).store hi ho
  | link i t o hi ht ho =>
    intro herr
    have e1 : (s.adopt o t false).err = none := ((modVal_err_eq_none_iff _ _ _).mp herr).1
    have e0 : s.err = none := ((adopt_err_eq_none_iff _ _ _ _).mp e1).1
    exact ((h e0).adopt ho ht false).store (i := i) (by rw [adopt_roots]; exact hi) (by rw [isLive_adopt]; exact ho)
  | take o k t v _ hv hk => exact fun herr => (h ((modVal_err _ hv).symm.trans herr)).take hv hk _ rfl rfl
  | unlink o k t v ho hv hk ht =>
    intro herr
    have e1 := ((unadopt_err_eq_none_iff _ _ _ _).mp herr).1
    rw [modVal_err _ hv] at e1
    exact (h e1).unlink hv hk _ rfl rfl ho ht
  | adopt a b same ha hb => exact h.adopt ha hb same
  | unadopt a b same ha hb => exact h.unadopt ha hb same
  | new v hv =>
    -- `Inv` alone is not inductive here (`applyAct_inv_new_counterexample`): the fresh index must be unused
    subst hv
    obtain ⟨hR1, hR2⟩ := hR s.heap.length (Nat.le_refl _)
    exact fun herr => InvCore_alloc (h herr) hR1 hR2 rfl (fun t => by simp; omega) (fun t => by simp)
      (fun _ hm => hm) (fun _ hm => hm) (fun _ => rfl)
  | unwrap i o ob v hi _ hc hs hv =>
    intro herr
    have herr0 := giveUp_err_none herr
    exact tryUnwrap_invCore herr0 (h herr0) hi hc hs hv
  | cloneOut i o ob v v' sc hi _ hc hv _ hsc =>
    intro herr
    rcases hsc with ⟨rfl, rfl⟩ | ⟨rfl, rfl⟩
    · exact makeMut_clone_invCore (v := { v with held := [], weaks := [] })
        (v' := { v with vid := sc.nextVid, held := [], weaks := [] }) (h herr) hR herr hi
        (fun _ => Nat.zero_le _) (fun _ => Nat.zero_le _) rfl rfl rfl rfl rfl rfl rfl rfl
    · have hval : s.valOf o = some v := by rw [valOf_of_cell hc, hv]
      refine makeMut_clone_invCore (v' := { v with vid := s.nextVid }) (h (cloneHandles_err_none herr)) hR herr
        hi (fun t => ?_) (fun t => ?_) rfl rfl rfl rfl rfl rfl rfl rfl
      · have := H_le_inHeap s o t
        rwa [H_def, heldOf_of_valOf hval] at this
      · have := count_weaksOf_le_inHeapW s o t
        rwa [weaksOf_of_valOf hval] at this
  | steal i o ob v hi _ hc hv hs _ =>
    intro herr
    have herr0 := giveUp_err_none herr
    exact makeMut_steal_invCore herr0 (h herr0) hR hi hc hs hv

theorem applyAct_inv (s : State) (fh fw : List Nat) (a : Act) (h : s.Inv) (hR : s.InvR) :
    (applyAct s fh fw a).Inv :=
  (applyAct_outcome s fh fw a).inv h hR

theorem applyOp_inv (s : State) (op : Op) (h : s.Inv) (hR : s.InvR) : (applyOp s op).Inv := by
  cases op with
  | act a => exact applyAct_inv s [] [] a h hR
  | setScript q acts =>
    simp only [applyOp]
    split
    · exact Inv_modVal h _ _ (fun _ => rfl) (fun _ => rfl)
    · exact Inv_badRoot h q
  | shuffle q i =>
    simp only [applyOp]
    split
    · rename_i o h1
      exact fun herr => (h ((setLinks_err_eq_none_iff _ _ _).mp herr).1).swap (useRoot_some h1).2 i
    · exact Inv_badRoot h q

/-! ## errors are sticky -/

namespace State

theorem errE_incStrong {s : State} {o : Nat} {e : Err} (h : s.err = some e) : (s.incStrong o).err = some e := by
  rcases incStrong_cases s o with ⟨e', he⟩ | ⟨ob, n, _, _, he⟩ <;> rw [he]
  · exact fail_err_of_some s e' e h
  · exact h

theorem errE_incWeak {s : State} {o : Nat} {e : Err} (h : s.err = some e) : (s.incWeak o).err = some e := by
  rcases incWeak_cases s o with ⟨e', he⟩ | ⟨ob, _, _, he⟩ <;> rw [he]
  · exact fail_err_of_some s e' e h
  · exact h

theorem errE_modVal {s : State} {o : Nat} {f : Val → Val} {e : Err} (h : s.err = some e) :
    (s.modVal o f).err = some e := by
  rcases modVal_cases s o f with ⟨e', he⟩ | ⟨ob, v, _, _, he⟩ <;> rw [he]
  · exact fail_err_of_some s e' e h
  · exact h

theorem errE_decWeakFree {s : State} {o : Nat} {imp : Bool} {e : Err} (h : s.err = some e) :
    (s.decWeakFree o imp).err = some e := by
  rcases decWeakFree_cases s o imp with ⟨e', he⟩ | ⟨ob, _, _, he⟩ | ⟨ob, w, _, _, he⟩ <;> rw [he]
  · exact fail_err_of_some s e' e h
  · exact h
  · exact h

theorem errE_giveUp {s : State} {o : Nat} {e : Err} (h : s.err = some e) : (s.giveUp o).err = some e := by
  unfold giveUp
  have h1 := purgePeers_err_of_some s o e h
  split
  · exact errE_decWeakFree (by simpa using h1)
  · exact fail_err_of_some _ _ e h1

end State

theorem Prim.err_of_some {a : Act} {t u : State} (p : Prim a t u) {e : Err} (h : t.err = some e) :
    u.err = some e := by
  cases p with
  | fail => exact fail_err_of_some _ _ _ h
  | incStrong => exact errE_incStrong h
  | incWeak => exact errE_incWeak h
  | setLinks => exact setLinks_err_of_some' _ _ h
  | modVal => exact errE_modVal h
  | giveUp => exact errE_giveUp h
  | _ => exact h

theorem applyAct_err_of_some (s : State) (fh fw : List Nat) (a : Act) {e : Err} (h : s.err = some e) :
    (applyAct s fh fw a).err = some e :=
  (applyAct_shape s fh fw a).pres (fun p h => p.err_of_some h) (fun _ _ _ _ h => h) h

theorem applyAct_err_none {s : State} {fh fw : List Nat} {a : Act}
    (h : (applyAct s fh fw a).err = none) : s.err = none := by
  cases he : s.err with
  | none => rfl
  | some e => rw [applyAct_err_of_some s fh fw a he] at h; cases h

theorem applyOp_err_of_some (s : State) (op : Op) {e : Err} (h : s.err = some e) :
    (applyOp s op).err = some e := by
  cases op with
  | act a => exact applyAct_err_of_some s [] [] a h
  | setScript q acts =>
    simp only [applyOp]; split
    · exact errE_modVal h
    · exact (Steps.refl s).badRoot q |>.pres (a := .new) (fun p h => p.err_of_some h) h
  | shuffle q i =>
    simp only [applyOp]; split
    · exact setLinks_err_of_some' _ _ h
    · exact (Steps.refl s).badRoot q |>.pres (a := .new) (fun p h => p.err_of_some h) h

theorem applyOp_err_none {s : State} {op : Op} (h : (applyOp s op).err = none) : s.err = none := by
  cases he : s.err with
  | none => rfl
  | some e => rw [applyOp_err_of_some s op he] at h; cases h

theorem step_err_none {s : State} (h : (step s).err = none) : s.err = none := by
  cases he : s.err with
  | none => rfl
  | some e => rw [step_of_err he, he] at h; cases h

theorem endOp_err (s : State) : (endOp s).err = s.err := by
  unfold endOp; split <;> rfl

/-- the `rcDrop` frame, by cases on the target's state -/
theorem step_inv_rcDrop {s : State} {o : Nat} {rest : List Frame}
    (hst : s.stack = .rcDrop o :: rest) (herr : s.err = none) (h : s.Inv) :
    (({ s with stack := rest } : State).rcDrop o).Inv := by
  cases hc : s.cell o with
  | none => exact rcDrop_inv_uaf hc
  | some ob =>
    cases hs : ob.strong with
    | uninit => exact rcDrop_inv_dead herr hst h hc (by rw [hs]; rfl)
    | cnt n =>
      cases n with
      | zero => exact rcDrop_inv_dead herr hst h hc (by rw [hs]; rfl)
      | succ n =>
        cases hl : ob.links with
        | none => exact rcDrop_inv_nolinks hc hs hl
        | some t =>
          cases n with
          | zero =>
            cases hemp : t.isEmpty with
            | true => exact rcDrop_inv_last_empty herr hst h hc hs hl hemp
            | false => exact rcDrop_inv_last_links herr hst h hc hs hl hemp
          | succ n =>
            cases hemp : t.isEmpty with
            | true => exact rcDrop_inv_dec herr hst h hc hs hl hemp
            | false =>
              have hc0 : ({ s with stack := rest } : State).cell o = some ob := by simpa using hc
              rw [State.rcDrop_eq_traceBranch _ o ob n t hc0 hs hl hemp]
              have hI := rcDrop_inv_dec_state herr hst h hc hs
              refine trace_branch_inv _ o herr hI ?_
              have hlt : o < ({ s with stack := rest } : State).heap.length := get_lt (get_of_cell hc)
              rw [isLive_of_get (getElem?_setObj_same _ hlt)]
              simp [freed_of_cell hc]

/-- pushing the rest of a running destructor body: the frame owns nothing -/
theorem script_push_invCore {s : State} {hh ww : List Nat} {acts acts' : List Act} {rest : List Frame}
    (hst : s.stack = .script hh ww acts :: rest) (hI : s.InvCore) :
    (({ s with stack := rest } : State).push [.script hh ww acts']).InvCore := by
  refine InvCore_same_heap hI rfl (fun t => ?_) (fun t => ?_)
    (fun o hm => (List.mem_cons.mp hm).elim nofun fun h => hst ▸ List.mem_cons_of_mem _ h)
    (fun ks hm => (List.mem_cons.mp hm).elim nofun fun h => hst ▸ List.mem_cons_of_mem _ h) (fun o => ?_)
  · rw [pend_push, pend_of_stack_cons hst t]; rfl
  · rw [pendW_push, pendW_of_stack_cons hst t]; rfl
  · rw [owed_push, owed_of_stack_cons hst o]; exact Nat.le_refl _

theorem step_inv (s : State) (h : s.Inv) (hR : s.InvR) : (step s).Inv := by
  by_cases h1 : ∃ o rest, s.stack = .rcDrop o :: rest
  · obtain ⟨o, rest, hst⟩ := h1
    cases herr : s.err with
    | some e => rw [step_of_err herr]; exact h
    | none =>
      rw [step_eq_frame herr hst]; exact step_inv_rcDrop hst herr h
  · by_cases h2 : ∃ hh ww a as rest, s.stack = .script hh ww (a :: as) :: rest
    · obtain ⟨hh, ww, a, as, rest, hst⟩ := h2
      cases herr : s.err with
      | some e => rw [step_of_err herr]; exact h
      | none =>
        rw [step_eq_frame herr hst]
        exact applyAct_inv _ hh ww a (fun _ => script_push_invCore hst (h herr)) (script_push_invR hst hR)
    · exact step_inv_frames h (fun f rest hst =>
        ⟨fun o e => h1 ⟨o, rest, by rw [hst, e]⟩, fun hh ww a as e => h2 ⟨hh, ww, a, as, rest, by rw [hst, e]⟩⟩)

theorem endOp_inv (s : State) (h : s.Inv) : (endOp s).Inv := by
  unfold endOp
  split
  · exact fun herr => InvCore_congr (h herr) rfl rfl (fun _ => rfl) (fun _ => rfl)
  · exact h

theorem begin_inv (s : State) (hint : List Nat) (h : s.Inv) : (s.begin hint).Inv :=
  fun herr => InvCore_congr (h herr) rfl rfl (fun _ => rfl) (fun _ => rfl)

theorem fail_inv (s : State) (e : Err) : (s.fail e).Inv := Inv_fail s e

theorem InvCore_init : ({} : State).InvCore := by
  refine ⟨?_, ⟨?_, ?_⟩, ?_, ?_, ?_, ?_, ?_⟩
  · intro o ob h; simp at h
  · intro o t h; simp [tableOf, cell] at h
  · intro a b h; simp [isLive] at h
  · intro t h; simp [isLive] at h
  · intro t h; simp at h
  · intro o h; simp at h
  · intro ks h; simp at h
  · intro o; simp [owed]

theorem InvR_init : ({} : State).InvR := fun _ _ => ⟨rfl, rfl⟩

/-- preservation of `InvR` (no handle designates an unallocated index) by the transitions; proved
as `rangeFacts` in `Cactus/Lemmas/Main.lean` -/
structure RangeFacts : Prop where
  applyOp : ∀ (s : State) (op : Op), s.InvR → (applyOp s op).err = none → (applyOp s op).InvR
  step : ∀ s : State, s.InvR → (step s).err = none → (step s).InvR
  endOp : ∀ s : State, s.InvR → (endOp s).err = none → (endOp s).InvR
  begin : ∀ (s : State) (hint : List Nat), s.InvR → (s.begin hint).err = none → (s.begin hint).InvR

theorem reachable_invAll (rf : RangeFacts) {s : State} (h : Reachable s) : s.InvAll := by
  induction h with
  | init => exact fun _ => ⟨InvCore_init, InvR_init⟩
  | @op s o hint _ _ ih =>
    intro he
    have h0 : (s.begin hint).err = none := applyOp_err_none he
    obtain ⟨hI, hRs⟩ := ih h0
    have hRb := rf.begin s hint hRs h0
    exact ⟨applyOp_inv _ o (begin_inv s hint (fun _ => hI)) hRb he, rf.applyOp _ o hRb he⟩
  | @step s _ ih =>
    intro he
    obtain ⟨hI, hRs⟩ := ih (step_err_none he)
    exact ⟨step_inv s (fun _ => hI) hRs he, rf.step s hRs he⟩
  | @endOp s _ ih =>
    intro he
    obtain ⟨hI, hRs⟩ := ih (by rw [← endOp_err s]; exact he)
    exact ⟨endOp_inv s (fun _ => hI) he, rf.endOp s hRs he⟩
  | @outOfFuel s _ _ =>
    intro he
    exact absurd he (fail_err_ne_none s _)

end Cactus
