import Cactus.Lemmas.Inv.Transfer
/-!
# Preservation of the invariant by the "small" frames

`step` pops the top frame `f` of the control stack and runs it.  This file proves that `Inv` is
preserved for every frame kind except `rcDrop` and `script` with a non-empty action list:
`weakDrop`, `dropVal`, `script _ _ []`, `panic`, `dropFields`, `finishSingle`, `phase3`.

`InvCore_decWeakFree`: releasing one weak reference (a Weak handle that is no longer counted, or
the implicit weak of a dead object that no pending frame owes any more) re-establishes `InvCore`.
-/
namespace Cactus
namespace State

/-! ## popping the top frame -/

/-- the glue between `s` and the state `s0` in which `step` runs the popped frame -/
theorem pop_inv_general {s : State} {f : Frame} {rest : List Frame} (hst : s.stack = f :: rest) :
    ({ s with stack := rest } : State).heap = s.heap
    ∧ ({ s with stack := rest } : State).err = s.err
    ∧ ({ s with stack := rest } : State).stack = rest
    ∧ (∀ o, ({ s with stack := rest } : State).ext o = s.ext o)
    ∧ (∀ o, ({ s with stack := rest } : State).extW o = s.extW o)
    ∧ (∀ o, s.pend o = Frame.strongTo o f + ({ s with stack := rest } : State).pend o)
    ∧ (∀ o, s.pendW o = Frame.weakTo o f + ({ s with stack := rest } : State).pendW o)
    ∧ (∀ o, s.owed o = Frame.owes o f + ({ s with stack := rest } : State).owed o)
    ∧ (∀ g, g ∈ ({ s with stack := rest } : State).stack → g ∈ s.stack) :=
  ⟨rfl, rfl, rfl, fun _ => rfl, fun _ => rfl, pend_of_stack_cons hst, pendW_of_stack_cons hst,
    owed_of_stack_cons hst, fun g hg => by rw [hst]; exact List.mem_cons_of_mem _ hg⟩

theorem pop_InvO {s : State} (rest : List Frame) (h : s.InvO) :
    ({ s with stack := rest } : State).InvO := InvO_of_heap_eq (s := s) rfl h

theorem pop_InvB {s : State} (rest : List Frame) (h : s.InvB) :
    ({ s with stack := rest } : State).InvB := InvB_of_heap_eq (s := s) rfl h

theorem pop_InvK {s : State} {f : Frame} {rest : List Frame} (hst : s.stack = f :: rest)
    (h : s.InvK) : ({ s with stack := rest } : State).InvK :=
  h.transfer (fun g hm _ => hst ▸ List.mem_cons_of_mem _ hm)
    (fun o => by rw [owed_of_stack_cons hst o]; omega) (fun _ _ _ _ hp => hp)

theorem pop_InvC {s : State} {f : Frame} {rest : List Frame} (hst : s.stack = f :: rest)
    (hs : ∀ o, Frame.strongTo o f = 0) (h : s.InvC) : ({ s with stack := rest } : State).InvC := by
  refine InvC_of_eq (s := s) rfl (fun o => ?_) h
  rw [pend_of_stack_cons hst o, hs, Nat.zero_add]; rfl

theorem pop_InvW {s : State} {f : Frame} {rest : List Frame} (hst : s.stack = f :: rest)
    (hw : ∀ o, Frame.weakTo o f = 0) (h : s.InvW) : ({ s with stack := rest } : State).InvW := by
  refine InvW_of_eq (s := s) rfl (fun o => ?_) h
  rw [pendW_of_stack_cons hst o, hw, Nat.zero_add]; rfl

/-- popping a frame that owns no handle keeps the whole invariant -/
theorem pop_InvCore {s : State} {f : Frame} {rest : List Frame} (hst : s.stack = f :: rest)
    (hs : ∀ o, Frame.strongTo o f = 0) (hw : ∀ o, Frame.weakTo o f = 0) (h : s.InvCore) :
    ({ s with stack := rest } : State).InvCore :=
  ⟨pop_InvO rest h.1, pop_InvB rest h.2.1, pop_InvC hst hs h.2.2.1, pop_InvW hst hw h.2.2.2.1,
    pop_InvK hst h.2.2.2.2⟩

/-! ## releasing one weak reference -/

theorem decWeakFree_heap {s : State} {o : Nat} {ob : Obj} (imp : Bool) (hc : s.cell o = some ob)
    (hw : ob.weak ≠ 0) :
    (s.decWeakFree o imp).heap = (s.setObj o
      { ob with weak := ob.weak - 1, freed := decide (ob.weak = 1), implicit := ob.implicit && !imp }).heap := by
  apply List.ext_getElem?
  intro x
  by_cases hx : x = o
  · subst hx
    rw [getElem?_decWeakFree_same imp hc hw, getElem?_setObj_same _ (cell_some_lt s x ob hc)]
  · rw [getElem?_decWeakFree_other s imp hx, getElem?_setObj_other s _ hx]

/-- Releasing one weak reference to `o` re-establishes `InvCore` from a state in which everything
holds except that, for `imp = false`, the weak count of `o` exceeds the counted references by one
(a Weak handle has just been taken off the books), and for `imp = true` the implicit weak of the
dead object `o` is released (`o` has no table any more and no pending frame owes the release). -/
theorem InvCore_decWeakFree {s : State} {o : Nat} {ob : Obj} (imp : Bool)
    (hget : s.heap[o]? = some ob)
    (hO : s.InvO) (hB : s.InvB) (hC : s.InvC) (hK : s.InvK)
    (hWother : ∀ t, t < s.heap.length → t ≠ o →
      s.weakNat t = s.extW t + s.inHeapW t + s.pendW t + s.implicitNat t)
    (hWo : s.weakNat o
      = s.extW o + s.inHeapW o + s.pendW o + s.implicitNat o + (if imp = true then 0 else 1))
    (himp : imp = true →
      ob.implicit = true ∧ ob.strong.isDead = true ∧ ob.links = none ∧ s.owed o = 0) :
    (s.decWeakFree o imp).InvCore ∧ (s.decWeakFree o imp).err = s.err := by
  obtain ⟨hO1, hO2, hO3, hO4⟩ := hO o ob hget
  rw [weakNat_of_get hget, implicitNat_of_get hget] at hWo
  -- the weak count is positive, so the allocation has not been released
  have hwpos : ob.weak ≠ 0 := by
    cases imp with
    | false => simp at hWo; omega
    | true => obtain ⟨hi, -⟩ := himp rfl; simp [hi] at hWo; omega
  have hfr : ob.freed = false := by
    cases hf : ob.freed with
    | false => rfl
    | true => exact absurd (hO4.mp hf) hwpos
  have hc : s.cell o = some ob := cell_of_not_freed hget hfr
  -- a live object keeps its implicit weak: its count stays positive
  have hlive : ob.strong.isDead = false → ob.weak ≠ 1 ∧ imp = false := by
    intro hnd
    obtain ⟨n, hn⟩ := (Strong.isDead_eq_false_iff _).mp hnd
    have himpl := (hO1 n hn).2.2.2
    have hi : imp = false := by
      cases imp with
      | false => rfl
      | true => have := (himp rfl).2.1; rw [hnd] at this; cases this
    subst hi
    simp [himpl] at hWo
    exact ⟨by omega, rfl⟩
  refine ⟨InvCore_congr (InvCore_overwrite hO hB hC hK hWother hget rfl rfl
      (ob' := { ob with weak := ob.weak - 1, freed := decide (ob.weak = 1), implicit := ob.implicit && !imp })
      ⟨fun n hn => ?_, hO2, fun hu => ?_, by simp; omega⟩ ?_ (fun h => by rw [hfr] at h; cases h) (.inl rfl)
      (fun hd => ⟨by simp [(hlive hd).1], rfl⟩) (fun hp => ?_))
    (decWeakFree_heap imp hc hwpos) (decWeakFree_stack_imp s o imp) (ext_decWeakFree s o imp)
    (extW_decWeakFree s o imp), decWeakFree_err imp hc hwpos⟩
  · obtain ⟨h1, h2, -, h4⟩ := hO1 n hn
    obtain ⟨hw1, hi⟩ := hlive (by rw [show ob.strong = _ from hn]; rfl)
    subst hi
    exact ⟨h1, h2, by simp [hw1], by simp [h4]⟩
  · obtain ⟨h1, h2⟩ := hO3 hu
    refine ⟨h1, ?_⟩
    cases imp with
    | true => exact Or.inl (himp rfl).2.2.1
    | false => simpa using h2
  · cases imp with
    | false => simp at hWo ⊢; omega
    | true => obtain ⟨hi, -⟩ := himp rfl; simp [hi] at hWo ⊢; omega
  · -- no pending frame waits for `o` when its implicit weak is released
    cases imp with
    | true => have := (himp rfl).2.2.2; omega
    | false => exact ⟨by simp, rfl⟩

/-! ## the frames -/

theorem panic_heap (s : State) : s.panic.heap = s.heap := by
  unfold panic; split
  · simp
  · rfl

theorem ext_panic (s : State) (o : Nat) : s.panic.ext o = s.ext o := by
  unfold panic; split
  · simp
  · rfl

theorem extW_panic (s : State) (o : Nat) : s.panic.extW o = s.extW o := by
  unfold panic; split
  · simp
  · rfl

theorem mem_stack_panic {s : State} {g : Frame} (h : g ∈ s.panic.stack) : g ∈ s.stack := by
  unfold panic at h; split at h
  · simpa using h
  · exact (List.mem_filter.mp h).1

/-- `Weak::drop` -/
theorem step_inv_weakDrop {s : State} {rest : List Frame} {o : Nat}
    (hst : s.stack = Frame.weakDrop o :: rest) (herr : s.err = none) (h : s.Inv) :
    (({ s with stack := rest } : State).weakDrop o).Inv := by
  intro herr'
  obtain ⟨hO, hB, hC, hW, hK⟩ := h herr
  unfold weakDrop at herr' ⊢
  cases hget : s.heap[o]? with
  | none =>
    have hc : ({ s with stack := rest } : State).cell o = none := cell_of_get_none hget
    rw [decWeakFree_of_cell_none false hc] at herr'
    exact absurd herr' (fail_err_ne_none _ _)
  | some ob =>
    have hlt := get_lt hget
    refine (InvCore_decWeakFree (s := { s with stack := rest }) false hget (pop_InvO rest hO)
      (pop_InvB rest hB) (pop_InvC hst (by simp) hC) (pop_InvK hst hK) ?_ ?_ (by simp)).1
    · intro t ht hto
      have h1 := hW t ht
      have h2 := pendW_of_stack_cons hst t
      rw [Frame.weakTo_weakDrop, if_neg hto.symm] at h2
      show s.weakNat t = s.extW t + s.inHeapW t + ({ s with stack := rest } : State).pendW t
        + s.implicitNat t
      omega
    · have h1 := hW o hlt
      have h2 := pendW_of_stack_cons hst o
      rw [Frame.weakTo_weakDrop, if_pos rfl] at h2
      show s.weakNat o = s.extW o + s.inHeapW o + ({ s with stack := rest } : State).pendW o
        + s.implicitNat o + 1
      omega

/-- a continuation frame found among `fs ++ rest`, none of `fs` being one, is in `rest` -/
theorem mem_rest_of_isCont {fs rest : List Frame} (hfs : fs.all (fun g => !g.isCont) = true) {g : Frame}
    (hm : g ∈ fs ++ rest) (hc : g.isCont = true) : g ∈ rest := by
  rcases List.mem_append.1 hm with hm | hm
  · have := List.all_eq_true.1 hfs g hm
    rw [hc] at this; cases this
  · exact hm

/-- `drop(inner)`: the handles of the value move to the `dropFields` frame -/
theorem step_inv_dropVal {s : State} {rest : List Frame} {v : Val}
    (hst : s.stack = Frame.dropVal v :: rest) (herr : s.err = none) (h : s.Inv) :
    (({ s with stack := rest } : State).dropVal v).Inv := by
  intro _
  have hsub : ∀ g, g ∈ (({ s with stack := rest } : State).dropVal v).stack → g.isCont = true →
      g ∈ s.stack := fun g hg hc =>
    hst ▸ List.mem_cons_of_mem _ (mem_rest_of_isCont (by cases v.panics <;> rfl) hg hc)
  refine InvCore_of_eq (s := s) rfl (fun _ => rfl) (fun _ => rfl) (fun o => ?_) (fun o => ?_)
    (fun o hm => hsub _ hm rfl) (fun ks hm => hsub _ hm rfl) (fun o => ?_) (h herr)
  · rw [pend_dropVal, pend_of_stack_cons hst o]; rfl
  · rw [pendW_dropVal, pendW_of_stack_cons hst o]; rfl
  · rw [owed_dropVal, owed_of_stack_cons hst o]; exact Nat.le_add_left _ _

/-- a destructor body that has run to its end -/
theorem step_inv_scriptNil {s : State} {rest : List Frame} {hh ww : List Nat}
    (hst : s.stack = Frame.script hh ww [] :: rest) (herr : s.err = none) (h : s.Inv) :
    ({ s with stack := rest } : State).Inv :=
  fun _ => pop_InvCore hst (by simp) (by simp) (h herr)

/-- the destructor panics -/
theorem step_inv_panic {s : State} {rest : List Frame}
    (hst : s.stack = Frame.panic :: rest) (herr : s.err = none) (h : s.Inv) :
    (({ s with stack := rest } : State).panic).Inv := by
  intro _
  have h0 : ({ s with stack := rest } : State).InvCore := pop_InvCore hst (by simp) (by simp) (h herr)
  exact InvCore_of_eq (panic_heap _) (ext_panic _) (extW_panic _) (pend_panic _) (pendW_panic _)
    (fun o hm => mem_stack_panic hm) (fun ks hm => mem_stack_panic hm) (owed_panic_le _) h0

/-- drop glue of the fields: one field becomes an `rcDrop` / `weakDrop` frame -/
theorem step_inv_dropFields {s : State} {rest : List Frame} {hs ws : List Nat}
    (hst : s.stack = Frame.dropFields hs ws :: rest) (herr : s.err = none) (h : s.Inv) :
    (({ s with stack := rest } : State).dropFields hs ws).Inv := by
  intro _
  obtain ⟨fs, hfs, hnc⟩ : ∃ fs, ({ s with stack := rest } : State).dropFields hs ws
      = ({ s with stack := rest } : State).push fs ∧ fs.all (fun g => !g.isCont) = true := by
    cases hs with
    | cons a hs => exact ⟨_, rfl, rfl⟩
    | nil =>
      cases ws with
      | cons a ws => exact ⟨_, rfl, rfl⟩
      | nil => exact ⟨[], rfl, rfl⟩
  have hsub : ∀ g, g ∈ (({ s with stack := rest } : State).dropFields hs ws).stack →
      g.isCont = true → g ∈ s.stack := fun g hg hc =>
    hst ▸ List.mem_cons_of_mem _ (mem_rest_of_isCont hnc (by rw [hfs] at hg; exact hg) hc)
  refine InvCore_of_eq (s := s) (by rw [hfs]; rfl) (fun o => by rw [hfs]; rfl) (fun o => by rw [hfs]; rfl)
    (fun o => ?_) (fun o => ?_) (fun o hm => hsub _ hm rfl) (fun ks hm => hsub _ hm rfl) (fun o => ?_) (h herr)
  · rw [pend_dropFields, pend_of_stack_cons hst o]; rfl
  · rw [pendW_dropFields, pendW_of_stack_cons hst o]; rfl
  · rw [owed_dropFields, owed_of_stack_cons hst o]; exact Nat.le_add_left _ _

/-- the table of a dead object that no pending frame refers to is moved out and dropped -/
theorem InvCore_dropLinks {s : State} {o : Nat} {ob : Obj} (hget : s.heap[o]? = some ob)
    (hdead : ob.strong.isDead = true) (howed : s.owed o = 0) (h : s.InvCore) :
    (s.setObj o { ob with links := none }).InvCore := by
  obtain ⟨hO, hB, hC, hW, hK⟩ := h
  obtain ⟨-, hO2, hO3, hO4⟩ := hO o ob hget
  refine InvCore_overwrite hO hB hC hK (fun t ht _ => hW t ht) hget rfl rfl
    ⟨fun n hn => ?_, fun h0 => ⟨(hO2 h0).1, rfl⟩, fun hu => ⟨(hO3 hu).1, .inl rfl⟩, hO4⟩ ?_ id (.inr rfl)
    (fun hd => by rw [hdead] at hd; cases hd) (fun hp => by rw [howed] at hp; cases hp)
  · rw [show ob.strong = _ from hn] at hdead; cases hdead
  · have := hW o (get_lt hget)
    rwa [weakNat_of_get hget, implicitNat_of_get hget] at this

/-- an object whose implicit weak is still owned has a positive weak count, hence is not released -/
theorem cell_of_implicit {s : State} {o : Nat} {ob : Obj} (hO : s.InvO) (hW : s.InvW)
    (hget : s.heap[o]? = some ob) (hi : ob.implicit = true) : s.cell o = some ob := by
  have hw := hW o (get_lt hget)
  rw [weakNat_of_get hget, implicitNat_of_get hget, hi] at hw
  have hwpos : ob.weak ≠ 0 := by simp at hw; omega
  have hfr : ob.freed = false := by
    cases hf : ob.freed with
    | false => rfl
    | true => exact absurd ((hO o ob hget).2.2.2.mp hf) hwpos
  exact cell_of_not_freed hget hfr

/-- rest of `drop_unreachable*`: the table is dropped and the implicit weak released -/
theorem step_inv_finishSingle {s : State} {rest : List Frame} {o : Nat}
    (hst : s.stack = Frame.finishSingle o :: rest) (herr : s.err = none) (h : s.Inv) :
    (({ s with stack := rest } : State).finishSingle o).Inv := by
  intro _
  have hcore := h herr
  obtain ⟨hfin, -, how⟩ : s.InvK := hcore.2.2.2.2
  obtain ⟨ob, hget, hun, hlk, himpl⟩ := hfin o (by rw [hst]; exact List.mem_cons_self)
  have hlt := get_lt hget
  have h0 : ({ s with stack := rest } : State).InvCore :=
    pop_InvCore hst (by simp) (by simp) hcore
  have howed : ({ s with stack := rest } : State).owed o = 0 := by
    have h1 := how o
    rw [owed_of_stack_cons hst o, Frame.owes_finishSingle, if_pos rfl] at h1
    omega
  have hc : ({ s with stack := rest } : State).cell o = some ob :=
    cell_of_implicit h0.1 h0.2.2.2.1 hget himpl
  have hfs : ({ s with stack := rest } : State).finishSingle o
      = (({ s with stack := rest } : State).setObj o { ob with links := none }).decWeakFree o true := by
    unfold finishSingle
    rw [hc]
    simp only [hlk]
  rw [hfs]
  have hdead : ob.strong.isDead = true := by rw [hun]; rfl
  have h1 := InvCore_dropLinks (s := { s with stack := rest }) hget hdead howed h0
  obtain ⟨hO1, hB1, hC1, hW1, hK1⟩ := h1
  have hget1 : (({ s with stack := rest } : State).setObj o { ob with links := none }).heap[o]?
      = some { ob with links := none } := getElem?_setObj_same _ hlt
  refine (InvCore_decWeakFree true hget1 hO1 hB1 hC1 hK1 (fun t ht _ => hW1 t ht) ?_ ?_).1
  · have := hW1 o (by rw [setObj_heap_length]; exact hlt)
    simpa using this
  · intro _
    exact ⟨himpl, hdead, rfl, by rw [owed_setObj]; exact howed⟩

/-- the loop of phase 3 of `drop_cycle` -/
theorem InvCore_phase3_fold : ∀ (ks : List Nat) (s : State), s.InvCore →
    (∀ k, k ∈ ks → ∃ ob, s.heap[k]? = some ob ∧ ob.strong = .uninit ∧ ob.links = none
      ∧ ob.implicit = true) →
    (∀ k, ks.count k + s.owed k ≤ 1) →
    (ks.foldl phase3One s).InvCore ∧ (ks.foldl phase3One s).err = s.err := by
  intro ks
  induction ks with
  | nil => intro s h _ _; exact ⟨h, rfl⟩
  | cons k ks ih =>
    intro s h hks hcnt
    obtain ⟨hO, hB, hC, hW, hK⟩ := h
    obtain ⟨ob, hget, hun, hlk, himpl⟩ := hks k List.mem_cons_self
    have hc : s.cell k = some ob := cell_of_implicit hO hW hget himpl
    have hdead : ob.strong.isDead = true := by rw [hun]; rfl
    have hone : phase3One s k = s.decWeakFree k true := by
      simp [phase3One, hc, hdead]
    have hk1 := hcnt k
    rw [List.count_cons_self] at hk1
    have hnotin : k ∉ ks := fun hm => by
      have := List.count_pos_iff.mpr hm
      omega
    obtain ⟨hcore', herr'⟩ := InvCore_decWeakFree true hget hO hB hC hK
      (fun t ht _ => hW t ht) (by simpa using hW k (get_lt hget))
      (fun _ => ⟨himpl, hdead, hlk, by omega⟩)
    rw [List.foldl_cons, hone]
    have hA : ∀ k', k' ∈ ks → ∃ ob, (s.decWeakFree k true).heap[k']? = some ob
        ∧ ob.strong = .uninit ∧ ob.links = none ∧ ob.implicit = true := by
      intro k' hk'
      have hne : k' ≠ k := fun e => hnotin (e ▸ hk')
      rw [getElem?_decWeakFree_other s true hne]
      exact hks k' (List.mem_cons_of_mem _ hk')
    have hB' : ∀ k', ks.count k' + (s.decWeakFree k true).owed k' ≤ 1 := by
      intro k'
      rw [owed_decWeakFree]
      have := hcnt k'
      have hle : ks.count k' ≤ (k :: ks).count k' := by
        rw [List.count_cons]; omega
      omega
    obtain ⟨hres, herr''⟩ := ih (s.decWeakFree k true) hcore' hA hB'
    exact ⟨hres, herr''.trans herr'⟩

/-- phase 3 of `drop_cycle`: the implicit weak of every group member is released -/
theorem step_inv_phase3 {s : State} {rest : List Frame} {ks : List Nat}
    (hst : s.stack = Frame.phase3 ks :: rest) (herr : s.err = none) (h : s.Inv) :
    (ks.foldl phase3One ({ s with stack := rest } : State)).Inv := by
  intro _
  have hcore := h herr
  have h0 : ({ s with stack := rest } : State).InvCore :=
    pop_InvCore hst (by simp) (by simp) hcore
  obtain ⟨-, hph, how⟩ : s.InvK := hcore.2.2.2.2
  refine (InvCore_phase3_fold ks _ h0 (fun k hk => ?_) (fun k => ?_)).1
  · exact hph ks (by rw [hst]; exact List.mem_cons_self) k hk
  · have h1 := how k
    rw [owed_of_stack_cons hst k, Frame.owes_phase3] at h1
    exact h1

/-! ## one machine step that runs any of these frames -/

/-- the two remaining cases, `rcDrop` and a `script` with a pending action, are treated in
`Inv/Assemble.lean` (`step_inv_rcDrop`, `step_inv`) -/
theorem step_inv_frames {s : State} (h : s.Inv)
    (hf : ∀ f rest, s.stack = f :: rest →
      (∀ o, f ≠ Frame.rcDrop o) ∧ (∀ hh ww a as, f ≠ Frame.script hh ww (a :: as))) :
    (step s).Inv := by
  unfold step
  split
  · exact h
  · rename_i herr
    split
    · exact h
    · rename_i f rest hst
      obtain ⟨h1, h2⟩ := hf f rest hst
      split
      · rename_i o; exact absurd rfl (h1 o)
      · exact step_inv_weakDrop hst herr h
      · exact step_inv_dropVal hst herr h
      · exact step_inv_scriptNil hst herr h
      · rename_i hh ww a as; exact absurd rfl (h2 hh ww a as)
      · exact step_inv_panic hst herr h
      · exact step_inv_dropFields hst herr h
      · exact step_inv_finishSingle hst herr h
      · exact step_inv_phase3 hst herr h

end State
end Cactus
