import Cactus.Lemmas.PayAsYouGo.Scripts
/-!
# The adoption contract as a syntactic condition on histories

`ReachableP` (Spec/Reach.lean) asks for the contract `P` in every state passed through.  Here we
show that this semantic hypothesis follows from a syntactic one: the history never uses the two
primitive calls `adopt` and `take` on their own (it uses the paired forms `link` / `unlink`).

`P` is preserved along "contract-monotone" steps `State.PLe s s'` (recorded adoptions of survivors do
not grow, their stored handles do not shrink, fresh objects record nothing); the respecting actions and
every machine step are made of such steps, except `link` and `unlink`, which add or remove an adoption
together with its handle.  Scripts enter through `State.ScriptsC` (every destructor script in the
state is contract-respecting), the instance `Q := Act.respects` of `State.ScriptsQ`, whose
preservation is proved in PayAsYouGo/Scripts.lean.  `ReachableC` is `Reachable` for such histories; it
implies `ReachableP`.
-/
namespace Cactus

/-- the actions that cannot break the adoption contract on their own: everything except the two
primitive calls `adopt` (records an adoption without storing a handle) and `take` (removes a stored
handle without `unadopt`) -/
def Act.respects : Act → Prop
  | .adopt _ _ => False
  | .take _ _ => False
  | _ => True

instance : DecidablePred Act.respects := fun a => by
  unfold Act.respects; split <;> infer_instance

def Op.respects : Op → Prop
  | .act a => a.respects
  | .setScript _ acts => ∀ a ∈ acts, a.respects
  | .shuffle _ _ => True

instance : DecidablePred Op.respects := fun o => by
  unfold Op.respects; split <;> infer_instance

namespace State

/-! ## contract-monotone steps -/

/-- every object live afterwards either records no adoption at all, or was live before, records no
more adoptions and stores no fewer handles -/
def PLe (s s' : State) : Prop :=
  ∀ a, s'.isLive a = true →
    (∀ b, s'.F a b = 0) ∨ (s.isLive a = true ∧ ∀ b, s'.F a b ≤ s.F a b ∧ s.H a b ≤ s'.H a b)

theorem PLe.P {s s' : State} (h : PLe s s') (hP : s.P) : s'.P := by
  intro a b ha
  rcases h a ha with h0 | ⟨hl, hb⟩
  · rw [h0 b]; exact Nat.zero_le _
  · have := hP a b hl
    have := hb b
    omega

theorem PLe.refl (s : State) : PLe s s :=
  fun _ ha => Or.inr ⟨ha, fun _ => ⟨Nat.le_refl _, Nat.le_refl _⟩⟩

theorem PLe.trans {s s' s'' : State} (h1 : PLe s s') (h2 : PLe s' s'') : PLe s s'' := by
  intro a ha
  rcases h2 a ha with h0 | ⟨hl, hb⟩
  · exact Or.inl h0
  · rcases h1 a hl with h0 | ⟨hl', hb'⟩
    · left
      intro b
      have := (hb b).1
      have := h0 b
      omega
    · right
      refine ⟨hl', fun b => ?_⟩
      have := hb b
      have := hb' b
      omega

theorem PLe.of_eq {s s' : State} (hl : ∀ x, s'.isLive x = s.isLive x)
    (hF : ∀ a b, s'.F a b = s.F a b) (hH : ∀ a b, s'.H a b = s.H a b) : PLe s s' := by
  intro a ha
  right
  rw [hl] at ha
  exact ⟨ha, fun b => by rw [hF, hH]; exact ⟨Nat.le_refl _, Nat.le_refl _⟩⟩

theorem PLe.of_heap {s s' : State} (hh : s'.heap = s.heap) : PLe s s' :=
  PLe.of_eq (isLive_congr hh) (F_congr hh) (H_congr hh)

theorem PLe.fail (s : State) (e : Err) : PLe s (s.fail e) := PLe.of_heap (fail_heap s e)
theorem PLe.emit (s : State) (e : Ev) : PLe s (s.emit e) := PLe.of_heap rfl
theorem PLe.push (s : State) (fs : List Frame) : PLe s (s.push fs) := PLe.of_heap rfl

theorem PLe.badRoot (s : State) (r : Nat) : PLe s (s.badRoot r) := by
  rcases badRoot_cases s r with e | ⟨e, he⟩
  · rw [e]; exact PLe.refl s
  · rw [he]; exact PLe.fail s e

theorem PLe.setObj {s : State} {o : Nat} {ob ob' : Obj} (hg : s.heap[o]? = some ob)
    (h : (!ob'.freed && !ob'.strong.isDead) = true →
      (!ob.freed && !ob.strong.isDead) = true
      ∧ (∀ l, (ob'.links.getD []).get l ≤ (ob.links.getD []).get l)
      ∧ ∀ b, ob.heldList.count b ≤ ob'.heldList.count b) : PLe s (s.setObj o ob') := by
  intro a ha
  right
  by_cases hao : a = o
  · subst hao
    have hlt := get_lt hg
    rw [isLive_setObj_same ob' hlt] at ha
    obtain ⟨h1, h2, h3⟩ := h ha
    have hf' : ob'.freed = false := by
      cases hf : ob'.freed <;> simp [hf] at ha ⊢
    have hf : ob.freed = false := by
      cases hf : ob.freed <;> simp [hf] at h1 ⊢
    refine ⟨by rw [isLive_of_get hg]; exact h1, fun b => ⟨?_, ?_⟩⟩
    · rw [F_setObj_same ob' hlt, F_def, tbl_of_get hg, hf, hf']
      exact h2 _
    · rw [H_setObj_same ob' hlt, H_of_get hg]
      exact h3 b
  · rw [isLive_setObj_other s ob' hao] at ha
    refine ⟨ha, fun b => ?_⟩
    rw [F_setObj_other s ob' hao, H_setObj_other s ob' hao]
    exact ⟨Nat.le_refl _, Nat.le_refl _⟩

theorem PLe.setObj_dead {s : State} {o : Nat} {ob ob' : Obj} (hg : s.heap[o]? = some ob)
    (hd : (!ob'.freed && !ob'.strong.isDead) = false) : PLe s (s.setObj o ob') :=
  PLe.setObj hg (fun h => by rw [hd] at h; cases h)

theorem PLe.setObj_keep {s : State} {o : Nat} {ob ob' : Obj} (hg : s.heap[o]? = some ob)
    (hf : ob'.freed = ob.freed) (hs : ob.strong.isDead = true → ob'.strong.isDead = true)
    (hl : ob'.links = ob.links) (hv : ob'.value = ob.value) : PLe s (s.setObj o ob') := by
  refine PLe.setObj hg (fun h => ⟨?_, ?_, ?_⟩)
  · rw [hf] at h
    cases hd : ob.strong.isDead with
    | false => simp only [Bool.and_eq_true, Bool.not_eq_true'] at h ⊢; exact ⟨h.1, trivial⟩
    | true => simp [hs hd] at h
  · intro l; rw [hl]; exact Nat.le_refl _
  · intro b; rw [Obj.heldList_congr hv]; exact Nat.le_refl _

theorem PLe.incStrong (s : State) (o : Nat) : PLe s (s.incStrong o) :=
  PLe.of_eq (by simp) (by simp) (by simp)

theorem PLe.incWeak (s : State) (o : Nat) : PLe s (s.incWeak o) :=
  PLe.of_eq (by simp) (by simp) (by simp)

theorem PLe.foldl {α : Type} (g : State → α → State) (hg : ∀ s a, PLe s (g s a)) :
    ∀ (l : List α) (s : State), PLe s (l.foldl g s) := by
  intro l
  induction l with
  | nil => intro s; exact PLe.refl s
  | cons a l ih => intro s; exact (hg s a).trans (ih (g s a))

theorem PLe.cloneHandles (s : State) (v : Val) : PLe s (s.cloneHandles v) := by
  unfold State.cloneHandles
  exact (PLe.foldl _ PLe.incStrong _ s).trans (PLe.foldl _ PLe.incWeak _ _)

theorem PLe.decWeakFree (s : State) (o : Nat) (imp : Bool) : PLe s (s.decWeakFree o imp) := by
  rcases decWeakFree_cases s o imp with ⟨e, h⟩ | ⟨ob, hc, hw, h⟩ | ⟨ob, w, hc, hw, h⟩ <;> rw [h]
  · exact PLe.fail s e
  · exact (PLe.setObj_dead (get_of_cell hc) (by simp)).trans (PLe.emit _ _)
  · exact PLe.setObj_keep (get_of_cell hc) rfl (fun h => h) rfl rfl

theorem PLe.setLinks {s : State} {o : Nat} {f : Table → Table}
    (hf : ∀ t, s.tableOf o = some t → ∀ l, (f t).get l ≤ t.get l) : PLe s (s.setLinks o f) := by
  rcases setLinks_cases s o f with ⟨e, h⟩ | ⟨ob, t, hc, hl, h⟩ <;> rw [h]
  · exact PLe.fail s e
  · refine PLe.setObj (get_of_cell hc) (fun hlive => ⟨hlive, ?_, fun b => Nat.le_refl _⟩)
    intro l
    have ht : s.tableOf o = some t := by rw [tableOf_of_cell hc, hl]
    simpa [hl] using hf t ht l

theorem PLe.modVal {s : State} {o : Nat} {f : Val → Val}
    (hf : ∀ v b, v.held.count b ≤ (f v).held.count b) : PLe s (s.modVal o f) := by
  rcases modVal_cases s o f with ⟨e, h⟩ | ⟨ob, v, hc, hv, h⟩ <;> rw [h]
  · exact PLe.fail s e
  · refine PLe.setObj (get_of_cell hc) (fun hlive => ⟨hlive, fun l => Nat.le_refl _, fun b => ?_⟩)
    rw [Obj.heldList_of_some hv]
    exact hf v b

theorem PLe.alloc (s : State) (v : Val) : PLe s (s.alloc v) := by
  intro a ha
  rcases (isLive_alloc_iff s v a).mp ha with hl | rfl
  · right
    refine ⟨hl, fun b => ?_⟩
    rw [F_alloc, H_alloc, if_neg (Nat.ne_of_gt (isLive_lt hl))]
    exact ⟨Nat.le_refl _, Nat.le_refl _⟩
  · left; intro b; exact F_alloc_new s v b

theorem PLe.purgePeers {s s1 : State} {x : Nat} (hO : s.InvO) (hB : s.InvB)
    (hx : s.isLive x = true) (hT : ∀ p, s1.tableOf p = s.tableOf p) (herr : s1.err = none) :
    PLe s1 (s1.purgePeers x) := by
  obtain ⟨t, ht⟩ := live_tableOf hO hx
  obtain ⟨-, c2, c3, -⟩ := purgePeers_of_InvB hO hB hx hT ht herr
  intro a ha
  right
  rw [isLive_purgePeers] at ha
  refine ⟨ha, fun b => ⟨?_, by rw [H_purgePeers]; exact Nat.le_refl _⟩⟩
  by_cases hax : a = x
  · subst hax
    rw [F_of_tableOf c2]; exact Nat.zero_le _
  · obtain ⟨hn, hs⟩ := c3 a hax
    cases hta : s.tableOf a with
    | none => rw [F_of_tableOf_none (hn.mpr hta)]; exact Nat.zero_le _
    | some tp =>
      obtain ⟨tp', e1, -, z1, -, e2, -⟩ := hs tp hta
      rw [F_of_tableOf e1, F_of_tableOf ((hT a).trans hta)]
      by_cases hb : b = x
      · subst hb; rw [z1]; exact Nat.zero_le _
      · rw [e2 ⟨b, .fwd⟩ (by simp [hb]) (by simp)]
        exact Nat.le_refl _

theorem PLe.beginSingle (s : State) (o : Nat) : PLe s (s.beginSingle o) := by
  unfold State.beginSingle
  split
  · rename_i ob hc
    split
    · exact PLe.decWeakFree s o true
    · split
      · exact (PLe.setObj_dead (get_of_cell hc) (by simp)).trans (PLe.push _ _)
      · exact PLe.fail _ _
  · exact PLe.fail _ _

theorem PLe.finishSingle (s : State) (o : Nat) : PLe s (s.finishSingle o) := by
  unfold State.finishSingle
  split
  · rename_i ob hc
    split
    · refine (PLe.setObj (ob' := { ob with links := none }) (get_of_cell hc)
        (fun hlive => ⟨hlive, fun l => ?_, fun b => Nat.le_refl _⟩)).trans (PLe.decWeakFree _ o true)
      simp
    · exact PLe.fail _ _
  · exact PLe.fail _ _

theorem PLe.giveUp {s s1 : State} {x : Nat} (hO : s.InvO) (hB : s.InvB)
    (hx : s.isLive x = true) (hT : ∀ p, s1.tableOf p = s.tableOf p) (herr : s1.err = none) :
    PLe s1 (s1.giveUp x) := by
  have h1 := PLe.purgePeers hO hB hx hT herr
  unfold State.giveUp
  split
  · rename_i ob hc
    exact h1.trans ((PLe.setObj_dead (get_of_cell hc) (by simp)).trans (PLe.decWeakFree _ x true))
  · exact h1.trans (PLe.fail _ _)

theorem PLe.phase3One (s : State) (k : Nat) : PLe s (s.phase3One k) := by
  unfold State.phase3One
  split
  · split
    · exact PLe.decWeakFree s k true
    · exact PLe.refl s
  · exact PLe.fail _ _

theorem PLe.dropFields (s : State) (hs ws : List Nat) : PLe s (s.dropFields hs ws) := by
  obtain ⟨fs, hfs⟩ := dropFields_eq_push s hs ws
  rw [hfs]; exact PLe.push s fs

theorem PLe.panic (s : State) : PLe s s.panic := PLe.of_heap (panic_heap s)

theorem PLe.dropVal (s : State) (v : Val) : PLe s (s.dropVal v) := PLe.of_heap rfl

end State

open State

theorem State.P_congr {s s' : State} (hh : s'.heap = s.heap) (h : s.P) : s'.P := (PLe.of_heap hh).P h

namespace State.P
variable {s : State}

theorem handles (h : s.P) (r w ra : List Nat) :
    ({ s with roots := r, wroots := w, raws := ra } : State).P := P_congr rfl h
theorem fail (h : s.P) (e : Err) : (s.fail e).P := (PLe.fail s e).P h
theorem emit (h : s.P) (e : Ev) : (s.emit e).P := P_congr rfl h
theorem push (h : s.P) (fs : List Frame) : (s.push fs).P := P_congr rfl h
theorem badRoot (h : s.P) (r : Nat) : (s.badRoot r).P := (PLe.badRoot s r).P h

end State.P

/-! ## `Rc::drop` -/

/-- a group teardown is contract-monotone: members die, survivors are untouched -/
theorem Teardown.PLe {s s' : State} {ks : List Nat} {vs : List Val} (h : Teardown s s' ks vs) :
    PLe s s' := by
  intro a ha
  right
  obtain ⟨hl, hak⟩ := (h.isLive_iff a).mp ha
  refine ⟨hl, fun b => ?_⟩
  rw [F_def, F_def, h.tbl_other hak, H_def, H_def]
  simp only [State.heldOf, h.other a hak]
  exact ⟨Nat.le_refl _, Nat.le_refl _⟩

theorem trace_branch_P (s1 : State) (o : Nat) (herr : s1.err = none) (hO : s1.InvO)
    (hB : s1.InvB) (hP : s1.P) (ho : s1.isLive o = true) : (s1.traceBranch o).P := by
  obtain ⟨e, -, he | ⟨-, -, -, -, hT⟩⟩ := traceBranch_inv s1 o herr hO hB ho
  · rw [he]; exact hP.emit e
  · exact hT.PLe.P hP

/-- `s0` is the state in which the `rcDrop` frame has already been popped -/
theorem rcDrop_P_core (s0 : State) (o : Nat) (herr : s0.err = none) (hO : s0.InvO)
    (hB : s0.InvB) (hP : s0.P) : (s0.rcDrop o).P := by
  rcases State.rcDrop_cases s0 o with ⟨e, he⟩ | he | ⟨ob, n, t, hc, hs, -, hcase⟩
  · rw [he]; exact hP.fail e
  · rw [he]; exact hP
  · have hg := get_of_cell hc
    have hlive : s0.isLive o = true := by rw [isLive_of_get hg, freed_of_cell hc, hs]; rfl
    rcases hcase with ⟨hn, -, he⟩ | ⟨hn, -, he⟩ | ⟨hn, -, he⟩ | ⟨hn, -, he⟩ <;> rw [he]
    · obtain ⟨m, rfl⟩ := Nat.exists_eq_succ_of_ne_zero hn
      exact P_of_dec' hg hs hP
    · subst hn
      exact ((PLe.setObj_dead hg (by simp)).trans (PLe.beginSingle _ o)).P hP
    · subst hn
      have h2 := PLe.purgePeers hO hB hlive
        (tableOf_setObj_of_links_eq (ob' := { ob with strong := .cnt 0 }) hg rfl rfl) herr
      exact ((PLe.setObj_dead hg (by simp)).trans (h2.trans (PLe.beginSingle _ o))).P hP
    · obtain ⟨m, rfl⟩ := Nat.exists_eq_succ_of_ne_zero hn
      refine trace_branch_P _ o herr (dec_InvO hg hs hO) (dec_InvB hg hs hB) (P_of_dec' hg hs hP) ?_
      rw [dec_isLive hg hs]
      exact hlive

namespace State

/-! ## the user-level actions -/

theorem valOf_setLinks (s : State) (o : Nat) (f : Table → Table) (x : Nat) :
    (s.setLinks o f).valOf x = s.valOf x := by
  rcases setLinks_cases s o f with ⟨e, h⟩ | ⟨ob, t, hc, hl, h⟩ <;> rw [h]
  · simp [valOf]
  · by_cases hx : x = o
    · subst hx
      rw [valOf, cell_setObj_same' _ (cell_some_lt s x ob hc), valOf_of_cell hc]
      simp [freed_of_cell hc]
    · rw [valOf, cell_setObj_other' s _ hx]; rfl

theorem Table.get_remove_le (t : Table) (hw : t.WF) (k l : Link) (n : Nat) :
    (t.remove k n).get l ≤ t.get l := by
  rw [Table.get_remove t hw]
  split
  · next h => subst h; omega
  · exact Nat.le_refl _

theorem PLe.unadopt {s : State} (hB : s.InvB) (a b : Nat) (same : Bool) :
    PLe s (s.unadopt a b same) := by
  cases same with
  | true =>
    rw [unadopt_same]
    exact PLe.setLinks (fun t ht l => Table.get_remove_le t (hB.1 a t ht).1 _ l 1)
  | false =>
    rw [unadopt_diff]
    refine (PLe.setLinks (fun t ht l => Table.get_remove_le t (hB.1 a t ht).1 _ l 1)).trans
      (PLe.setLinks (fun t ht l => Table.get_remove_le t ?_ _ l 1))
    rw [tableOf_setLinks] at ht
    split at ht
    · cases hta : s.tableOf a with
      | none => rw [hta] at ht; cases ht
      | some ta =>
        rw [hta] at ht
        cases ht
        exact Table.WF_remove ta (hB.1 a ta hta).1 _ 1
    · exact (hB.1 b t ht).1

/-- `link`: one more recorded adoption `o → t`, one more handle to `t` stored in `o` (`s1`: the
state after `adopt`, up to the handle table) -/
theorem link_P {s s1 : State} (hO : s.InvO) (hP : s.P) {o t : Nat} (ho : s.isLive o = true)
    (ht : s.isLive t = true) (hh : s1.heap = (s.adopt o t false).heap) :
    (s1.modVal o (fun v => { v with held := v.held ++ [t] })).P := by
  obtain ⟨v, hv⟩ := valOf_of_live hO ho
  have hv1 : s1.valOf o = some v := by
    have : s1.valOf o = (s.adopt o t false).valOf o := by simp only [valOf, cell_congr hh]
    rw [this, adopt_diff, valOf_setLinks, valOf_setLinks]
    exact hv
  obtain ⟨to, hto⟩ := live_tableOf hO ho
  obtain ⟨tt, htt⟩ := live_tableOf hO ht
  intro a b ha
  rw [isLive_modVal, isLive_congr hh, isLive_adopt] at ha
  have hPab := hP a b ha
  rw [F_modVal, F_congr hh, F_adopt_diff (by rw [hto]; rfl) (by rw [htt]; rfl)]
  by_cases hao : a = o
  · subst hao
    rw [H_def, heldOf_modVal_same _ hv1, count_concat]
    rw [H_def, heldOf_of_valOf hv] at hPab
    by_cases hbt : t = b
    · rw [if_pos hbt, if_pos ⟨rfl, hbt.symm⟩]; omega
    · rw [if_neg hbt, if_neg (fun h => hbt h.2.symm)]; omega
  · rw [H_modVal_other _ _ hao, H_congr hh, H_adopt, if_neg (fun h => hao h.1)]
    exact hPab

/-- `unlink`: the handle stored at position `i` of `o` leaves, the recorded adoption with it; if its
target is already dead, nothing is recorded for it -/
theorem unlink_P {s : State} (hO : s.InvO) (hB : s.InvB) (hP : s.P) {o t : Nat} {v : Val}
    (hv : s.valOf o = some v) {i : Nat} (hk : v.held[i]? = some t) (f : Val → Val)
    (hf : (f v).held = v.held.eraseIdx i) (ho : s.isLive o = true) :
    (if (s.modVal o f).isLive t = true then (s.modVal o f).unadopt o t false
      else (s.modVal o f).fail (.dangling t)).P := by
  have hH : ∀ a b, (s.modVal o f).H a b + (if a = o ∧ b = t then 1 else 0) = s.H a b := by
    intro a b
    by_cases hao : a = o
    · subst hao
      have hc := count_eraseIdx_add v.held i b
      rw [H_def, H_def, heldOf_modVal_same _ hv, hf, heldOf_of_valOf hv, ← hc, hk]
      by_cases hbt : b = t
      · rw [if_pos ⟨rfl, hbt⟩, if_pos (by rw [hbt])]
      · rw [if_neg (fun h => hbt h.2), if_neg (fun h => hbt (Option.some.inj h).symm)]
    · rw [H_modVal_other _ _ hao, if_neg (fun h => hao h.1)]; rfl
  rw [isLive_modVal]
  split
  · next hlt =>
    obtain ⟨to, hto⟩ := live_tableOf hO ho
    obtain ⟨tt, htt⟩ := live_tableOf hO hlt
    intro a b ha
    rw [isLive_unadopt, isLive_modVal] at ha
    have hPab := hP a b ha
    have hHab := hH a b
    rw [F_unadopt_diff (ta := to) (tb := tt) (by rw [tableOf_modVal]; exact hto)
      (by rw [tableOf_modVal]; exact htt) (hB.1 o to hto).1 (hB.1 t tt htt).1, H_unadopt]
    simp only [F_modVal]
    split
    · next hab => obtain ⟨rfl, rfl⟩ := hab; rw [if_pos ⟨rfl, rfl⟩] at hHab; omega
    · next hab => rw [if_neg hab] at hHab; omega
  · next hlt =>
    intro a b ha
    rw [isLive_fail, isLive_modVal] at ha
    have hPab := hP a b ha
    have hHab := hH a b
    rw [F_fail, H_fail, F_modVal]
    by_cases hab : a = o ∧ b = t
    · rw [hab.2, F_eq_zero_of_not_live hB a (by simpa using hlt)]; exact Nat.zero_le _
    · rw [if_neg hab] at hHab; omega

end State

open State

/-- **contract-respecting actions keep the contract** (core form), by the kind of outcome: `link`
and `unlink` by `link_P`, `unlink_P`; every other outcome is reached by contract-monotone steps (`PLe`). -/
theorem ActOutcome.P {s t : State} {fh fw : List Nat} {a : Act} (hout : ActOutcome s fh fw a t)
    (ha : a.respects) (herr : s.err = none) (hI : s.InvCore) (hP : s.P) : t.P := by
  obtain ⟨hO, hB, -, -, hK⟩ := hI
  induction hout with
  | stay => exact hP
  | fails t e _ hh =>
    rcases hh with hh | ⟨o, k, x, v, ho, hv, hk, hx, hh⟩
    · exact P_congr hh hP
    · have h1 := unlink_P hO hB hP hv hk (fun v => { v with held := v.held.eraseIdx (idxMod v.held k) }) rfl ho
      rw [isLive_modVal, hx, if_neg Bool.false_ne_true] at h1
      exact P_congr (hh.trans (fail_heap _ _).symm) h1
  | ret n _ ih => exact (ih ha).emit _
  | gainRoot o _ => exact ((PLe.incStrong s o).P hP).handles _ _ _
  | gainRaw o _ _ => exact ((PLe.incStrong s o).P hP).handles _ _ _
  | gainWeak o _ => exact ((PLe.incWeak s o).P hP).handles _ _ _
  | intoRaw i o _ _ => exact hP.handles _ _ _
  | fromRaw i o _ => exact hP.handles _ _ _
  | dropRoot i o _ _ => exact (hP.handles _ _ _).push _
  | dropRaw i o _ _ => exact (hP.handles _ _ _).push _
  | dropWeak i o _ => exact (hP.handles _ _ _).push _
  | dropValue i v _ => exact P_congr rfl hP
  | edit o f _ hf => exact PLe.P (PLe.modVal fun v b => by rw [(hf v).1]; exact Nat.le_refl _) hP
  | storeWeak i t o _ _ => exact PLe.P (PLe.modVal fun _ _ => Nat.le_refl _) (hP.handles _ _ _)
  | store i t o _ _ _ =>
    refine PLe.P (PLe.modVal fun v b => ?_) (hP.handles _ _ _)
    simp only [count_append]; omega
  | link i t o _ ht ho => exact link_P hO hP ho ht rfl
  | take => exact absurd ha id
  | unlink o k t v ho hv hk ht =>
    have h1 := unlink_P hO hB hP hv hk (fun v => { v with held := v.held.eraseIdx (idxMod v.held k) }) rfl ho
    rw [isLive_modVal, ht, if_pos rfl] at h1
    exact h1.handles _ _ _
  | adopt => exact absurd ha id
  | unadopt a b same _ _ => exact (PLe.unadopt hB a b same).P hP
  | new v _ => exact P_congr (s := s.alloc v) rfl ((PLe.alloc s v).P hP)
  | unwrap i o ob v _ ho _ _ _ =>
    exact PLe.P (PLe.giveUp (s := s) hO hB ho (fun _ => rfl) herr) (P_congr (s := s) rfl hP)
  | cloneOut i o ob v v' sc _ _ _ _ _ hsc =>
    refine P_congr (s := sc.alloc v') rfl (PLe.P ?_ hP)
    rcases hsc with ⟨rfl, -⟩ | ⟨rfl, -⟩
    · exact PLe.alloc _ _
    · exact (PLe.cloneHandles s v).trans (PLe.alloc _ _)
  | steal i o ob v _ ho _ _ _ _ =>
    obtain ⟨hO1, hB1, -⟩ := InvOBK_alloc (s := s)
      (s' := { s.alloc v with roots := (s.alloc v).roots.set i s.heap.length })
      (v := v) hO hB hK rfl (fun _ hm => hm) (fun _ hm => hm) (fun _ => rfl)
    exact PLe.P (PLe.giveUp hO1 hB1 (isLive_alloc_of_isLive v ho) (fun _ => rfl) herr)
      (P_congr (s := s.alloc v) rfl ((PLe.alloc s v).P hP))

theorem applyAct_P_core (s : State) (fh fw : List Nat) (a : Act) (ha : a.respects)
    (herr : s.err = none) (hI : s.InvCore) (hP : s.P) : (applyAct s fh fw a).P :=
  (applyAct_outcome s fh fw a).P ha herr hI hP

theorem applyOp_P_core (s : State) (op : Op) (hop : op.respects) (herr : s.err = none)
    (hI : s.InvCore) (hP : s.P) : (applyOp s op).P := by
  cases op with
  | act a => exact applyAct_P_core s [] [] a hop herr hI hP
  | setScript q acts =>
    rw [applyOp]; split
    · exact PLe.P (PLe.modVal fun _ _ => Nat.le_refl _) hP
    · exact hP.badRoot q
  | shuffle q i =>
    rw [applyOp]; split
    · rename_i o _
      refine (PLe.setLinks fun t ht l => ?_).P hP
      rw [Table.get_swapAt t (hI.2.1.1 o t ht).1]
      exact Nat.le_refl _
    · exact hP.badRoot q

/-! ## destructor scripts -/

def Val.C (v : Val) : Prop := ∀ a ∈ v.script, a.respects

def Frame.C : Frame → Prop
  | .script _ _ acts => ∀ a ∈ acts, a.respects
  | .dropVal v => v.C
  | _ => True

namespace State

def HeapC (s : State) : Prop :=
  ∀ (o : Nat) (ob : Obj) (v : Val), s.heap[o]? = some ob → ob.value = some v → v.C

/-- every destructor script in the state is contract-respecting: scripts of running destructors,
of values about to be destroyed, of values in the heap and of unwrapped values -/
def ScriptsC (s : State) : Prop :=
  (∀ f ∈ s.stack, f.C) ∧ s.HeapC ∧ (∀ v ∈ s.vals, v.C)

/-- `ScriptsC` is the instance `Q := Act.respects` of `ScriptsQ` (PayAsYouGo/Scripts.lean), where
its preservation is proved for any class of actions -/
theorem scriptsC_iff (s : State) : s.ScriptsC ↔ s.ScriptsQ Act.respects :=
  and_congr (forall_congr' fun f => forall_congr' fun _ => by cases f <;> exact Iff.rfl) Iff.rfl

theorem ScriptsC.beginSingle {s : State} (h : s.ScriptsC) (o : Nat) : (s.beginSingle o).ScriptsC :=
  (scriptsC_iff _).2 (((scriptsC_iff s).1 h).beginSingle o)

theorem ScriptsC.dropCycle {s : State} (h : s.ScriptsC) (c : CMap) : (s.dropCycle c).ScriptsC :=
  (scriptsC_iff _).2 (((scriptsC_iff s).1 h).dropCycle c)

theorem ScriptsC.rcDrop {s : State} (h : s.ScriptsC) (o : Nat) : (s.rcDrop o).ScriptsC :=
  (scriptsC_iff _).2 (((scriptsC_iff s).1 h).rcDrop o)

end State

open State

theorem Op.respects_iff (op : Op) : op.respects ↔ op.S Act.respects := by
  cases op <;> exact Iff.rfl

/-! ## machine steps keep the contract -/

/-- **one machine step keeps the contract**, for every frame kind, provided the scripts in the
state are contract-respecting (only the `script` frame needs that, and the invariant) -/
theorem step_P (s : State) (hI : s.Inv) (hC : s.ScriptsC) (hP : s.P) : (step s).P := by
  cases herr : s.err with
  | some e => rw [step_of_err herr]; exact hP
  | none =>
    cases hst : s.stack with
    | nil => rw [step_of_stack_nil hst]; exact hP
    | cons f rest =>
      have hP0 : ({ s with stack := rest } : State).P := P_congr rfl hP
      obtain ⟨hO, hB, -, -, -⟩ := hI herr
      rw [step_eq_frame herr hst]
      cases f with
      | rcDrop o => exact rcDrop_P_core _ _ herr (pop_InvO rest hO) (pop_InvB rest hB) hP0
      | weakDrop o => exact (PLe.decWeakFree _ _ false).P hP0
      | dropVal v => exact (PLe.dropVal _ _).P hP0
      | script hh ww acts =>
        cases acts with
        | nil => exact hP0
        | cons a as =>
          have hf : Frame.C (.script hh ww (a :: as)) := hC.1 _ (by rw [hst]; exact List.mem_cons_self)
          have ha : a.respects := hf a List.mem_cons_self
          exact applyAct_P_core _ hh ww a ha herr (script_push_invCore hst (hI herr)) (P_congr rfl hP)
      | panic => exact (PLe.panic _).P hP0
      | dropFields hh ww => exact (PLe.dropFields _ _ _).P hP0
      | finishSingle o => exact (PLe.finishSingle _ _).P hP0
      | phase3 ks => exact (PLe.foldl _ PLe.phase3One _ _).P hP0

theorem applyAct_P (s : State) (fh fw : List Nat) (a : Act) (ha : a.respects)
    (herr : s.err = none) (hI : s.Inv) (hP : s.P) : (applyAct s fh fw a).P :=
  applyAct_P_core s fh fw a ha herr (hI herr) hP

theorem applyOp_P (s : State) (op : Op) (hop : op.respects) (herr : s.err = none) (hI : s.Inv)
    (hP : s.P) : (applyOp s op).P :=
  applyOp_P_core s op hop herr (hI herr) hP

/-! ## contract-respecting histories -/

/-- like `Reachable`, but every operation of the history is contract-respecting -/
inductive ReachableC : State → Prop
  | init : ReachableC {}
  | op {s : State} (o : Op) (hint : List Nat) : ReachableC s → s.stack = [] → o.respects →
      ReachableC (applyOp (s.begin hint) o)
  | step {s : State} : ReachableC s → ReachableC (step s)
  | endOp {s : State} : ReachableC s → ReachableC (endOp s)
  | outOfFuel {s : State} : ReachableC s → ReachableC (s.fail .fuel)

theorem ReachableC.reachable {s : State} (h : ReachableC s) : Reachable s := by
  induction h with
  | init => exact .init
  | op o hint _ hq _ ih => exact .op o hint ih hq
  | step _ ih => exact .step ih
  | endOp _ ih => exact .endOp ih
  | outOfFuel _ ih => exact .outOfFuel ih

theorem ReachableC.scriptsC {s : State} (h : ReachableC s) : s.ScriptsC := by
  refine (scriptsC_iff s).2 ?_
  induction h with
  | init => exact ScriptsQ_init
  | op o hint _ _ ho ih =>
    exact applyOp_scriptsQ _ o ((Op.respects_iff o).1 ho) (begin_scriptsQ _ hint ih)
  | step _ ih => exact step_scriptsQ _ ih
  | endOp _ ih => exact endOp_scriptsQ _ ih
  | outOfFuel _ ih => exact ih.fail _

/-- **a contract-respecting history satisfies the adoption contract in every state it passes
through** (as long as the machine has not stopped with an error) -/
theorem ReachableC.reachableP {s : State} (h : ReachableC s) (herr : s.err = none) :
    ReachableP s := by
  induction h with
  | init => exact .init
  | @op s o hint hr hq ho ih =>
    have herr0 : s.err = none := applyOp_err_none (s := s.begin hint) herr
    have hp := ih herr0
    refine .op o hint hp hq ?_
    exact applyOp_P _ o ho herr0 (begin_inv s hint (reachable_Inv hp.reachable))
      (P_congr (s := s) rfl (reachableP_P hp))
  | @step s hr ih =>
    have herr0 : s.err = none := step_err_none herr
    have hp := ih herr0
    exact .step hp (step_P s (reachable_Inv hp.reachable) hr.scriptsC (reachableP_P hp))
  | @endOp s hr ih =>
    exact .endOp (ih (by rw [← endOp_err s]; exact herr))
  | @outOfFuel s hr ih =>
    exact absurd herr (fail_err_ne_none s _)

theorem ReachableC.P {s : State} (h : ReachableC s) (herr : s.err = none) : s.P :=
  reachableP_P (h.reachableP herr)

/-- **safety of contract-respecting histories**: every object reachable from the program's handles
through handles stored in live values is live -/
theorem contract_respecting_history_safe {s : State} (h : ReachableC s) (herr : s.err = none)
    {o : Nat} (hr : s.Reach o) : s.isLive o = true :=
  reach_live (reachableP_invS (h.reachableP herr) herr) hr

theorem ReachableC.closed : Closed Op.respects ReachableC :=
  ⟨fun o hint h hq ho => .op o hint h hq ho, .step, .endOp, .outOfFuel⟩

theorem run_reachableC (ops : List (Op × List Nat)) (hops : ∀ oh ∈ ops, oh.1.respects) :
    ReachableC (run ops) :=
  (ReachableC.closed.run .init ops hops).1

/-- a history of contract-respecting operations that ends without error satisfies `ReachableP`,
hence everything reachable from the program's handles is live at its end -/
theorem run_contract_safe (ops : List (Op × List Nat)) (hops : ∀ oh ∈ ops, oh.1.respects)
    (herr : (run ops).err = none) {o : Nat} (hr : (run ops).Reach o) :
    (run ops).isLive o = true :=
  contract_respecting_history_safe (run_reachableC ops hops) herr hr

end Cactus
