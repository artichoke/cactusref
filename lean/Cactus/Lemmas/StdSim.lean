import Cactus.Lemmas.Final
import Cactus.Spec.Std
/-!
# C07 — simulation: without adoptions the machine is `std::rc`

`State.erase` forgets link tables, the sentinel and the ghost flag.  It commutes with every
primitive of the machine (section Erasure), hence with every shared action as long as live objects
have empty tables, and with every machine step on the invariant `Std` of adoption-free histories.
-/
namespace Cactus
open State

/-! ## Erasure -/

def Obj.erase (ob : Obj) : SObj :=
  { strong := match ob.strong with | .cnt n => n | .uninit => 0,
    weak := ob.weak, value := ob.value, freed := ob.freed }

def State.erase (s : State) : SState :=
  { heap := s.heap.map Obj.erase, roots := s.roots, wroots := s.wroots, vals := s.vals, raws := s.raws,
    stack := s.stack, log := s.log, err := s.err, unwinding := s.unwinding, hint := s.hint,
    nextVid := s.nextVid }

namespace Sim

@[simp] theorem erase_weak (ob : Obj) : ob.erase.weak = ob.weak := rfl
@[simp] theorem erase_value (ob : Obj) : ob.erase.value = ob.value := rfl
@[simp] theorem erase_freed (ob : Obj) : ob.erase.freed = ob.freed := rfl

@[simp] theorem e_heap (s : State) : s.erase.heap = s.heap.map Obj.erase := rfl
@[simp] theorem e_roots (s : State) : s.erase.roots = s.roots := rfl
@[simp] theorem e_wroots (s : State) : s.erase.wroots = s.wroots := rfl
@[simp] theorem e_vals (s : State) : s.erase.vals = s.vals := rfl
@[simp] theorem e_raws (s : State) : s.erase.raws = s.raws := rfl
@[simp] theorem e_stack (s : State) : s.erase.stack = s.stack := rfl
@[simp] theorem e_log (s : State) : s.erase.log = s.log := rfl
@[simp] theorem e_err (s : State) : s.erase.err = s.err := rfl
@[simp] theorem e_unwinding (s : State) : s.erase.unwinding = s.unwinding := rfl
@[simp] theorem e_hint (s : State) : s.erase.hint = s.hint := rfl
@[simp] theorem e_nextVid (s : State) : s.erase.nextVid = s.nextVid := rfl

/-- fold a structure literal over an erased heap back into an erased state -/
@[simp] theorem mk_erase (h : List Obj) (r w : List Nat) (v : List Val) (ra : List Nat) (st : List Frame)
    (l : List Ev) (e : Option Err) (u : Bool) (hi : List Nat) (n : Nat) :
    SState.mk (h.map Obj.erase) r w v ra st l e u hi n = State.erase (State.mk h r w v ra st l e u hi n) := rfl

theorem erase_strong (ob : Obj) : ob.erase.strong = ob.strong.toNat := by
  unfold Obj.erase
  cases ob.strong <;> rfl

theorem erase_strong_eq_zero (ob : Obj) : ob.erase.strong = 0 ↔ ob.strong.isDead = true := by
  rw [erase_strong, Strong.isDead_iff_toNat_eq_zero]

theorem erase_strong_eq_one (ob : Obj) : ob.erase.strong = 1 ↔ ob.strong = .cnt 1 := by
  rw [erase_strong]
  cases ob.strong <;> simp

@[simp] theorem e_fail (s : State) (e : Err) : s.erase.fail e = (s.fail e).erase := by
  unfold SState.fail State.fail
  rw [e_err]
  cases s.err <;> rfl

@[simp] theorem e_emit (s : State) (e : Ev) : s.erase.emit e = (s.emit e).erase := rfl
@[simp] theorem e_push (s : State) (fs : List Frame) : s.erase.push fs = (s.push fs).erase := rfl

@[simp] theorem e_setObj (s : State) (o : Nat) (ob : Obj) :
    s.erase.setObj o ob.erase = (s.setObj o ob).erase := by
  unfold SState.setObj State.setObj State.erase
  simp only [List.map_set]

/-- `erase` goes through a conditional whose test reads differently on the two sides -/
theorem ite_erase {c c' : Prop} [Decidable c] [Decidable c'] (hc : c' ↔ c) {a b : State} {a' b' : SState}
    (ha : c → a' = a.erase) (hb : ¬ c → b' = b.erase) :
    (if c' then a' else b') = (if c then a else b).erase := by
  by_cases h : c
  · rw [if_pos h, if_pos (hc.mpr h)]; exact ha h
  · rw [if_neg h, if_neg (mt hc.mp h)]; exact hb h

@[simp] theorem e_cell (s : State) (o : Nat) : s.erase.cell o = (s.cell o).map Obj.erase := by
  unfold SState.cell State.cell
  rw [e_heap, List.getElem?_map]
  cases s.heap[o]? with
  | none => rfl
  | some ob =>
    dsimp only [Option.map_some, erase_freed]
    exact (apply_ite (Option.map Obj.erase) _ none (some ob)).symm

/-- reading an allocation: the two machines see the same object up to erasure, or both report a
use after free -/
theorem e_onCell {s : State} {o : Nat} {F : Obj → State} {F' : SObj → SState}
    (h : ∀ ob, s.cell o = some ob → F' ob.erase = (F ob).erase) :
    (match s.erase.cell o with | some ob => F' ob | none => s.erase.fail (.uaf o))
      = State.erase (match s.cell o with | some ob => F ob | none => s.fail (.uaf o)) := by
  rw [e_cell]
  cases hc : s.cell o with
  | none => exact e_fail s _
  | some ob => exact h ob hc

@[simp] theorem e_isLive (s : State) (o : Nat) : s.erase.isLive o = s.isLive o := by
  unfold SState.isLive State.isLive
  rw [e_heap, List.getElem?_map]
  cases s.heap[o]? with
  | none => rfl
  | some ob =>
    have : (ob.erase.strong == 0) = ob.strong.isDead :=
      Bool.eq_iff_iff.mpr (beq_iff_eq.trans (erase_strong_eq_zero ob))
    exact congrArg (fun b => !ob.freed && !b) this

@[simp] theorem e_useRoot (s : State) (r : Nat) : s.erase.useRoot r = s.useRoot r := by
  unfold SState.useRoot State.useRoot
  simp only [e_roots, e_isLive]
  rfl

@[simp] theorem e_badRoot (s : State) (r : Nat) : s.erase.badRoot r = (s.badRoot r).erase := by
  unfold SState.badRoot State.badRoot
  simp only [e_roots, e_isLive, e_fail]
  cases nthMod s.roots r with
  | none => rfl
  | some o => exact ite_erase Iff.rfl (fun _ => rfl) (fun _ => rfl)

/-- selecting a live handle: the two machines find the same object, or report the same misuse -/
theorem e_onRoot {s : State} {r : Nat} {F : Nat → State} {F' : Nat → SState}
    (h : ∀ o, s.useRoot r = some o → F' o = (F o).erase) :
    (match s.erase.useRoot r with | some o => F' o | none => s.erase.badRoot r)
      = State.erase (match s.useRoot r with | some o => F o | none => s.badRoot r) := by
  rw [e_useRoot]
  cases hu : s.useRoot r with
  | none => exact e_badRoot s r
  | some o => exact h o hu

/-- the same for an action on two handles -/
theorem e_onRoots {s : State} {r q : Nat} {F : Nat → Nat → State} {F' : Nat → Nat → SState}
    (h : ∀ a b, F' a b = (F a b).erase) :
    (match s.erase.useRoot r, s.erase.useRoot q with
      | some a, some b => F' a b
      | _, _ => (s.erase.badRoot r).badRoot q)
      = State.erase (match s.useRoot r, s.useRoot q with
        | some a, some b => F a b
        | _, _ => (s.badRoot r).badRoot q) := by
  rw [e_useRoot, e_useRoot, e_badRoot, e_badRoot]
  cases s.useRoot r with
  | none => cases s.useRoot q <;> rfl
  | some a =>
    cases s.useRoot q with
    | none => rfl
    | some b => exact h a b

/-- selecting an entry of a handle list that the machines share; nothing happens when it is empty -/
theorem e_onNth {s : State} {l : List Nat} {i : Nat} {F : Nat → State} {F' : Nat → SState}
    (h : ∀ o, F' o = (F o).erase) :
    (match nthMod l i with | some o => F' o | none => s.erase)
      = State.erase (match nthMod l i with | some o => F o | none => s) := by
  cases nthMod l i with
  | none => rfl
  | some o => exact h o

@[simp] theorem e_incStrong (s : State) (o : Nat) : s.erase.incStrong o = (s.incStrong o).erase := by
  refine e_onCell fun ob _ => ?_
  obtain ⟨st, w, l, v, f, i⟩ := ob
  cases st with
  | uninit => exact e_fail s _
  | cnt n =>
    cases n with
    | zero => exact e_fail s _
    | succ n => exact e_setObj s o ⟨.cnt (n + 2), w, l, v, f, i⟩

@[simp] theorem e_incWeak (s : State) (o : Nat) : s.erase.incWeak o = (s.incWeak o).erase :=
  e_onCell fun ob _ =>
    ite_erase Iff.rfl (fun _ => e_fail s _) (fun _ => e_setObj s o { ob with weak := ob.weak + 1 })

@[simp] theorem e_decWeakFree (s : State) (o : Nat) (imp : Bool) :
    s.erase.decWeakFree o = (s.decWeakFree o imp).erase := by
  refine e_onCell fun ob _ => ?_
  obtain ⟨st, w, l, v, f, i⟩ := ob
  match w with
  | 0 => exact e_fail s _
  | 1 => exact congrArg (SState.emit · (.freed o)) (e_setObj s o ⟨st, 0, l, v, true, i && !imp⟩)
  | w + 2 => exact e_setObj s o ⟨st, w + 1, l, v, f, i && !imp⟩

@[simp] theorem e_weakDrop (s : State) (o : Nat) : s.erase.weakDrop o = (s.weakDrop o).erase :=
  e_decWeakFree s o false

@[simp] theorem e_modVal (s : State) (o : Nat) (f : Val → Val) : s.erase.modVal o f = (s.modVal o f).erase := by
  refine e_onCell fun ob _ => ?_
  obtain ⟨st, w, l, v, fr, i⟩ := ob
  cases v with
  | none => exact e_fail s _
  | some v => exact e_setObj s o ⟨st, w, l, some (f v), fr, i⟩

@[simp] theorem e_valOf (s : State) (o : Nat) : s.erase.valOf o = s.valOf o := by
  unfold SState.valOf State.valOf
  rw [e_cell]
  cases s.cell o <;> rfl

@[simp] theorem e_alloc (s : State) (v : Val) : s.erase.alloc v = (s.alloc v).erase := by
  unfold SState.alloc State.alloc State.erase
  simp only [List.map_append]
  rfl

theorem e_foldl {α : Type} {f : State → α → State} {g : SState → α → SState}
    (h : ∀ s a, g s.erase a = (f s a).erase) (l : List α) (s : State) :
    l.foldl g s.erase = (l.foldl f s).erase := by
  induction l generalizing s with
  | nil => rfl
  | cons a l ih => exact (congrArg (l.foldl g) (h s a)).trans (ih _)

@[simp] theorem e_cloneHandles (s : State) (v : Val) : s.erase.cloneHandles v = (s.cloneHandles v).erase := by
  unfold SState.cloneHandles State.cloneHandles
  rw [e_foldl e_incStrong, e_foldl e_incWeak]

@[simp] theorem e_dropVal (s : State) (v : Val) : s.erase.dropVal v = (s.dropVal v).erase := rfl

@[simp] theorem e_panic (s : State) : s.erase.panic = s.panic.erase := by
  unfold SState.panic State.panic
  rw [e_unwinding]
  exact ite_erase Iff.rfl (fun _ => e_fail s _) (fun _ => rfl)

@[simp] theorem e_dropFields (s : State) (h w : List Nat) : s.erase.dropFields h w = (s.dropFields h w).erase := by
  cases h with
  | cons a h => rfl
  | nil => cases w <;> rfl

/-- an object with an empty table is given up the `std` way: nothing to purge -/
theorem e_giveUp (s : State) (o : Nat) (ob : Obj) (hc : s.cell o = some ob) (hl : ob.links = some []) :
    s.erase.giveUp o = (s.giveUp o).erase := by
  unfold State.giveUp
  rw [purgePeers_of_nil ((tableOf_of_cell hc).trans hl)]
  exact e_onCell fun ob _ =>
    (congrArg (SState.decWeakFree · o) (e_setObj s o { ob with strong := .cnt 0, value := none, links := none })).trans
      (e_decWeakFree _ o true)

/-- `Rc::drop` of a live object with an empty table is `Rc::drop` of `std` -/
theorem e_rcDrop (s : State) (o : Nat)
    (h : ∀ ob, s.cell o = some ob → ∃ n, ob.strong = .cnt (n + 1) ∧ ob.links = some []) :
    s.erase.rcDrop o = (s.rcDrop o).erase := by
  unfold SState.rcDrop State.rcDrop
  rw [e_cell]
  cases hc : s.cell o with
  | none => exact e_fail s _
  | some ob =>
    obtain ⟨n, hs, hl⟩ := h ob hc
    have hf := freed_of_cell hc
    obtain ⟨st, w, l, v, f, i⟩ := ob
    cases hs; cases hl; cases hf
    simp only [Option.map_some, Obj.erase, List.isEmpty_nil, if_true]
    cases n with
    | succ n => simp only [Nat.succ_ne_zero, if_false]; rw [← e_setObj]; rfl
    | zero =>
      simp only [if_true]
      unfold State.beginSingle
      rw [cell_setObj_same s o _ _ hc]
      cases v with
      | none => simp only [Bool.false_eq_true, if_false]; rw [← e_fail, ← e_setObj]; rfl
      | some v =>
        simp only [Bool.false_eq_true, if_false, setObj_setObj]
        rw [← e_push, ← e_setObj]; rfl

/-- `finishSingle` only drops the (empty) table before releasing the implicit weak reference -/
theorem e_finishSingle (s : State) (o : Nat) (h : ∀ ob, s.cell o = some ob → ob.links.isSome = true) :
    s.erase.finishSingle o = (s.finishSingle o).erase := by
  unfold SState.finishSingle State.finishSingle
  cases hc : s.cell o with
  | none =>
    unfold SState.decWeakFree
    rw [e_cell, hc]
    exact e_fail s _
  | some ob =>
    dsimp only
    cases hl : ob.links with
    | none => exact absurd (h ob hc) (by rw [hl]; exact Bool.false_ne_true)
    | some t =>
      have : (s.setObj o { ob with links := none }).erase = s.erase :=
        (e_setObj s o _).symm.trans ((e_setObj s o ob).trans (congrArg State.erase (setObj_self (get_of_cell hc))))
      exact (congrArg (·.decWeakFree o) this.symm).trans (e_decWeakFree _ o true)

end Sim

/-- the part of the API that `std::rc` has too -/
def Act.shared : Act → Prop
  | .adopt _ _ => False
  | .unadopt _ _ => False
  | .link _ _ => False
  | .unlink _ _ => False
  | _ => True

instance : DecidablePred Act.shared := fun a => by
  cases a <;> simp only [Act.shared] <;> infer_instance

theorem Act.shared.not_adopts {a : Act} (h : a.shared) : ¬ a.adopts := fun ha => by
  cases a with
  | adopt | link => exact h
  | _ => exact ha

/-- every live object has an empty link table (what the simulation of one action needs) -/
def State.LiveLinks (s : State) : Prop :=
  ∀ o ob, s.cell o = some ob → ∀ n, ob.strong = .cnt (n + 1) → ob.links = some []

namespace Sim

/-- the test of `try_unwrap` (sole strong handle, value present) reads the same on both sides -/
theorem unwrapMatch_erase (ob : Obj) {A : Val → State} {B C : State} {A' : Val → SState} {B' C' : SState}
    (hA : ∀ v, ob.strong = .cnt 1 → ob.value = some v → A' v = (A v).erase) (hB : B' = B.erase)
    (hC : C' = C.erase) :
    (match ob.erase.strong, ob.erase.value with
      | 1, some v => A' v
      | 1, none => B'
      | _, _ => C')
    = State.erase (match ob.strong, ob.value with
      | .cnt 1, some v => A v
      | .cnt 1, none => B
      | _, _ => C) := by
  obtain ⟨st, w, l, v, f, i⟩ := ob
  cases st with
  | uninit => cases v <;> exact hC
  | cnt n =>
    rcases n with _ | _ | n
    · cases v <;> exact hC
    · cases v with
      | none => exact hB
      | some v => exact hA v rfl rfl
    · cases v <;> exact hC

/-- A shared action of the machine is the same action of `std::rc`: the two functions select
their objects in the same way (`e_onRoot`, `e_onNth`, `e_onCell`), test the same conditions, and
apply primitives that commute with `erase`. -/
theorem applyAct_erase (s : State) (fh fw : List Nat) (a : Act) (hs : a.shared) (hl : s.LiveLinks) :
    stdApplyAct s.erase fh fw a = (applyAct s fh fw a).erase := by
  cases a
  case adopt | unadopt | link | unlink => exact hs.elim
  case new => dsimp only [stdApplyAct]; rw [e_alloc, e_heap s, List.length_map]; rfl
  case clone r => exact e_onRoot fun o _ => by rw [e_incStrong]; rfl
  case drop r | intoRaw r => exact e_onRoot fun o _ => rfl
  case downgrade r => exact e_onRoot fun o _ => by rw [e_incWeak]; rfl
  case setPanic r | setShallow r => exact e_onRoot fun o _ => e_modVal s o _
  case cloneWeak w | downgradeField w => exact e_onNth fun o => by rw [e_incWeak]; rfl
  case cloneField k => exact e_onNth fun o => by rw [e_incStrong]; rfl
  case dropWeak w | fromRaw w => exact e_onNth fun o => rfl
  case dropValue i => dsimp only [applyAct, stdApplyAct, e_vals]; cases nthMod s.vals i <;> rfl
  case store r q =>
    exact e_onRoots fun t o => ite_erase Iff.rfl (fun _ => rfl)
      (fun _ => e_modVal { s with roots := s.roots.eraseIdx (idxMod s.roots r) } o _)
  case ptrEq r q => exact e_onRoots fun a b => rfl
  case storeWeak w q =>
    dsimp only [applyAct, stdApplyAct, e_wroots]
    rw [e_useRoot]
    cases nthMod s.wroots w with
    | none => rfl
    | some t =>
      cases s.useRoot q with
      | none => exact e_badRoot s q
      | some o => exact e_modVal { s with wroots := s.wroots.eraseIdx (idxMod s.wroots w) } o _
  case take q k =>
    refine e_onRoot fun o _ => ?_
    rw [e_valOf]
    cases s.valOf o with
    | none => exact e_fail s _
    | some v => exact e_onNth fun t => by rw [e_modVal]; rfl
  case upgrade w | upgradeField w =>
    exact e_onNth fun o => e_onCell fun ob _ =>
      ite_erase (erase_strong_eq_zero ob) (fun _ => rfl) (fun _ => by rw [e_incStrong]; rfl)
  case incStrong i =>
    exact e_onNth fun o => ite_erase (by rw [e_isLive]) (fun _ => by rw [e_incStrong]; rfl) (fun _ => e_fail s _)
  case decStrong i => exact e_onNth fun o => ite_erase (by rw [e_isLive]) (fun _ => rfl) (fun _ => e_fail s _)
  case counts r => exact e_onRoot fun o _ => e_onCell fun ob _ => rfl
  case getMut r =>
    exact e_onRoot fun o _ => e_onCell fun ob _ =>
      congrArg (fun b => s.erase.emit (retBool (b && decide (ob.weak = 1))))
        (decide_eq_decide.mpr (erase_strong_eq_one ob))
  case wcounts w =>
    refine e_onNth fun o => e_onCell fun ob _ => ?_
    obtain ⟨st, w, l, v, f, i⟩ := ob
    cases st with
    | uninit => rfl
    | cnt n => cases n <;> rfl
  case tryUnwrap r =>
    refine e_onRoot fun o _ => e_onCell fun ob hc => unwrapMatch_erase ob (fun v h1 _ => ?_) (e_fail s _) rfl
    rw [← e_emit]
    exact congrArg (SState.emit · (retBool true))
      (e_giveUp { s with roots := s.roots.eraseIdx (idxMod s.roots r), vals := s.vals ++ [v] } o ob hc
        (hl o ob hc 0 h1))
  case makeMut r =>
    refine e_onRoot fun o _ => e_onCell fun ob hc => ?_
    dsimp only [erase_value, erase_weak]
    cases ob.value with
    | none => exact e_fail s _
    | some v =>
      refine ite_erase (not_congr (erase_strong_eq_one ob)) (fun _ => ?_)
        (fun h1 => ite_erase Iff.rfl (fun _ => ?_) (fun _ => rfl))
      · rw [e_cloneHandles, ← apply_ite State.erase, e_alloc, e_heap s, List.length_map]; rfl
      · rw [e_alloc, e_heap s, List.length_map, ← e_emit]
        exact congrArg (SState.emit · (.ret 1))
          (e_giveUp { s.alloc v with roots := (s.alloc v).roots.set (idxMod s.roots r) s.heap.length } o ob
            ((cell_alloc_old s v (Nat.ne_of_lt (cell_some_lt s o _ hc))).trans hc)
            (hl o ob hc 0 (Decidable.of_not_not h1)))

end Sim

/-! ## The invariant of adoption-free histories -/

def Val.ok (v : Val) : Prop := ∀ a ∈ v.script, a.shared

/-- no table entries; scripts use the shared API only; an object whose table has been dropped no
longer owns its implicit weak reference (no group teardown is in flight) -/
def Obj.ok (ob : Obj) : Prop :=
  (ob.links = some [] ∨ ob.links = none)
  ∧ (ob.strong = .uninit → ob.implicit = true → ob.links = none → ob.weak = 0)
  ∧ (∀ v, ob.value = some v → v.ok)

def Frame.ok : Frame → Prop
  | .dropVal v => v.ok
  | .script _ _ acts => ∀ a ∈ acts, a.shared
  | _ => True

def State.NoLinks (s : State) : Prop := ∀ ob ∈ s.heap, ob.links = some [] ∨ ob.links = none

def State.SharedScripts (s : State) : Prop :=
  (∀ ob ∈ s.heap, ∀ v, ob.value = some v → v.ok) ∧ (∀ v ∈ s.vals, v.ok) ∧ (∀ f ∈ s.stack, f.ok)

/-- no group teardown in flight -/
def State.NoGroup (s : State) : Prop :=
  ∀ ob ∈ s.heap, ob.strong = .uninit → ob.implicit = true → ob.links = none → ob.weak = 0

/-- the invariant of adoption-free histories: `NoLinks ∧ NoGroup ∧ SharedScripts` (`Std_iff`); it
mentions `heap`, `vals`, `stack` only -/
def State.Std (s : State) : Prop :=
  (∀ ob ∈ s.heap, ob.ok) ∧ (∀ v ∈ s.vals, v.ok) ∧ (∀ f ∈ s.stack, f.ok)

theorem State.Std.heap {s : State} (h : s.Std) : ∀ ob ∈ s.heap, ob.ok := h.1
theorem State.Std.vals {s : State} (h : s.Std) : ∀ v ∈ s.vals, v.ok := h.2.1
theorem State.Std.stack {s : State} (h : s.Std) : ∀ f ∈ s.stack, f.ok := h.2.2

theorem State.Std.noLinks {s : State} (h : s.Std) : s.NoLinks := fun ob hm => (h.heap ob hm).1
theorem State.Std.noGroup {s : State} (h : s.Std) : s.NoGroup := fun ob hm => (h.heap ob hm).2.1
theorem State.Std.sharedScripts {s : State} (h : s.Std) : s.SharedScripts :=
  ⟨fun ob hm => (h.heap ob hm).2.2, h.vals, h.stack⟩
theorem State.Std.mk' {s : State} (h1 : s.NoLinks) (h2 : s.NoGroup) (h3 : s.SharedScripts) : s.Std :=
  ⟨fun ob hm => ⟨h1 ob hm, h2 ob hm, h3.1 ob hm⟩, h3.2.1, h3.2.2⟩

theorem Std_init : ({} : State).Std :=
  ⟨fun _ h => absurd h List.not_mem_nil, fun _ h => absurd h List.not_mem_nil, fun _ h => absurd h List.not_mem_nil⟩

namespace Sim

theorem Std.of_eq {s s' : State} (h : s.Std) (hh : s'.heap = s.heap) (hv : s'.vals = s.vals)
    (hs : s'.stack = s.stack) : s'.Std :=
  ⟨hh ▸ h.heap, hv ▸ h.vals, hs ▸ h.stack⟩

theorem cell_mem {s : State} {o : Nat} {ob : Obj} (h : s.cell o = some ob) : ob ∈ s.heap :=
  List.mem_of_getElem? (get_of_cell h)

theorem std_cell {s : State} (h : s.Std) {o : Nat} {ob : Obj} (hc : s.cell o = some ob) : ob.ok :=
  h.heap _ (cell_mem hc)

theorem NoLinks.table_nil {s : State} (h : s.NoLinks) {o : Nat} {t : Table} (ht : s.tableOf o = some t) :
    t = [] := by
  obtain ⟨ob, hc, hl⟩ := tableOf_eq_some s o t ht
  rcases h ob (cell_mem hc) with h1 | h1 <;> rw [hl] at h1 <;> cases h1
  rfl

theorem std_fail {s : State} (h : s.Std) (e : Err) : (s.fail e).Std :=
  Std.of_eq h (fail_heap s e) (fail_vals s e) (fail_stack s e)

theorem std_emit {s : State} (h : s.Std) (e : Ev) : (s.emit e).Std := h

theorem std_push {s : State} (h : s.Std) (fs : List Frame) (hf : ∀ f ∈ fs, f.ok) : (s.push fs).Std :=
  ⟨h.heap, h.vals, fun f hm => (List.mem_append.mp hm).elim (hf f) (h.stack f)⟩

theorem std_setObj {s : State} (h : s.Std) (o : Nat) (ob : Obj) (hob : ob.ok) : (s.setObj o ob).Std :=
  ⟨fun ob' hm => (List.mem_or_eq_of_mem_set hm).elim (h.heap ob') (· ▸ hob), h.vals, h.stack⟩

theorem std_alloc {s : State} (h : s.Std) (v : Val) (hv : v.ok) : (s.alloc v).Std := by
  refine ⟨fun ob hm => (List.mem_append.mp hm).elim (h.heap ob) fun h1 => ?_, h.vals, h.stack⟩
  cases List.mem_singleton.mp h1
  exact ⟨Or.inl rfl, fun h => (by cases h), fun v' h => (by cases h; exact hv)⟩

theorem ok_strong {ob : Obj} (h : ob.ok) (n : Nat) : ({ ob with strong := .cnt n } : Obj).ok :=
  ⟨h.1, fun h => (by cases h), h.2.2⟩

theorem std_incStrong {s : State} (h : s.Std) (o : Nat) : (s.incStrong o).Std := by
  rcases incStrong_cases s o with ⟨e, he⟩ | ⟨ob, n, hc, _, he⟩ <;> rw [he]
  · exact std_fail h e
  · exact std_setObj h o _ (ok_strong (std_cell h hc) _)

theorem std_incWeak {s : State} (h : s.Std) (o : Nat) : (s.incWeak o).Std := by
  rcases incWeak_cases s o with ⟨e, he⟩ | ⟨ob, hc, hw, he⟩ <;> rw [he]
  · exact std_fail h e
  · have hok := std_cell h hc
    exact std_setObj h o _ ⟨hok.1, fun a b c => absurd (hok.2.1 a b c) hw, hok.2.2⟩

theorem std_decWeakFree {s : State} (h : s.Std) (o : Nat) (imp : Bool) : (s.decWeakFree o imp).Std := by
  rcases decWeakFree_cases s o imp with ⟨e, he⟩ | ⟨ob, hc, _, he⟩ | ⟨ob, w, hc, hw, he⟩ <;> rw [he]
  · exact std_fail h e
  · have hok := std_cell h hc
    refine std_emit (std_setObj h o _ ?_) _
    exact ⟨hok.1, fun _ _ _ => rfl, hok.2.2⟩
  · have hok := std_cell h hc
    refine std_setObj h o _ ⟨hok.1, fun a b c => ?_, hok.2.2⟩
    have := hok.2.1 a (Bool.and_eq_true_iff.mp b).1 c
    omega

theorem std_modVal {s : State} (h : s.Std) (o : Nat) (f : Val → Val) (hf : ∀ v, v.ok → (f v).ok) :
    (s.modVal o f).Std := by
  rcases modVal_cases s o f with ⟨e, he⟩ | ⟨ob, v, hc, hv, he⟩ <;> rw [he]
  · exact std_fail h e
  · have hok := std_cell h hc
    exact std_setObj h o _ ⟨hok.1, hok.2.1, fun v' hv' => (by cases hv'; exact hf v (hok.2.2 v hv))⟩

theorem std_setLinks {s : State} (h : s.Std) (o : Nat) (f : Table → Table) (hf : f [] = []) :
    (s.setLinks o f).Std := by
  rcases setLinks_cases s o f with ⟨e, he⟩ | ⟨ob, t, hc, hl, he⟩ <;> rw [he]
  · exact std_fail h e
  · have hok := std_cell h hc
    rw [NoLinks.table_nil h.noLinks ((tableOf_of_cell hc).trans hl), hf]
    exact std_setObj h o _ ⟨Or.inl rfl, fun _ _ c => (by cases c), hok.2.2⟩

theorem std_valOf {s : State} (h : s.Std) {o : Nat} {v : Val} (hv : s.valOf o = some v) : v.ok := by
  unfold State.valOf at hv
  split at hv
  · rename_i ob hc
    exact (h.heap _ (cell_mem hc)).2.2 v hv
  · cases hv

theorem std_cloneHandles {s : State} (h : s.Std) (v : Val) : (s.cloneHandles v).Std :=
  foldl_pres (I := Std) _ (fun _ o h => std_incWeak h o) _ (foldl_pres (I := Std) _ (fun _ o h => std_incStrong h o) _ h)

theorem std_purgePeers {s : State} (h : s.Std) (o : Nat) : (s.purgePeers o).Std := by
  cases ht : s.tableOf o with
  | none => unfold State.purgePeers; rw [ht]; exact std_fail h _
  | some t => rw [purgePeers_of_nil (ht.trans (congrArg some (NoLinks.table_nil h.noLinks ht)))]; exact h

theorem std_badRoot {s : State} (h : s.Std) (r : Nat) : (s.badRoot r).Std := by
  rcases badRoot_cases s r with he | ⟨e, he⟩ <;> rw [he]
  · exact h
  · exact std_fail h e

theorem std_ite {c : Prop} [Decidable c] {a b : State} (ha : c → a.Std) (hb : ¬ c → b.Std) :
    (if c then a else b).Std := by
  by_cases hc : c
  · rw [if_pos hc]; exact ha hc
  · rw [if_neg hc]; exact hb hc

theorem std_onRoot {s : State} (h : s.Std) {r : Nat} {F : Nat → State} (hF : ∀ o, (F o).Std) :
    (match s.useRoot r with | some o => F o | none => s.badRoot r).Std := by
  cases s.useRoot r with
  | none => exact std_badRoot h r
  | some o => exact hF o

theorem std_onCell {s : State} (h : s.Std) {o : Nat} {F : Obj → State}
    (hF : ∀ ob, s.cell o = some ob → ob.ok → (F ob).Std) :
    (match s.cell o with | some ob => F ob | none => s.fail (.uaf o)).Std := by
  cases hc : s.cell o with
  | none => exact std_fail h _
  | some ob => exact hF ob hc (std_cell h hc)

theorem std_giveUp {s : State} (h : s.Std) (o : Nat) : (s.giveUp o).Std :=
  std_onCell (std_purgePeers h o) fun _ _ _ =>
    std_decWeakFree (std_setObj (std_purgePeers h o) o _
      ⟨Or.inr rfl, fun h => (by cases h), fun _ h => (by cases h)⟩) o true

/-- pending handles are always fine; a pending value must come with its own proof -/
theorem Frame.ok_of_isData {d : Frame} (hd : d.isData = true) (hv : ∀ v, d ≠ .dropVal v) : d.ok := by
  cases d with
  | dropVal v => exact absurd rfl (hv v)
  | rcDrop | weakDrop => trivial
  | _ => cases hd

/-- `Std` goes across the elementary updates of an action that neither records an adoption nor
moves a value: such an action keeps empty tables empty, edits stored values without touching
their scripts, and introduces no value the invariant has not seen -/
theorem Std.prim {a : Act} (ha : ¬ a.adopts) (hm : ¬ a.movesValue) {t u : State} (p : Prim a t u)
    (h : t.Std) : u.Std := by
  cases p with
  | fail e => exact std_fail h e
  | ret => exact std_emit h _
  | incStrong o => exact std_incStrong h o
  | incWeak o => exact std_incWeak h o
  | setLinks o f hf => exact std_setLinks h o f (hf.resolve_left ha)
  | modVal o f hf => exact std_modVal h o f fun v hv b hb => hv b ((hf v).2.1 ▸ hb)
  | handles => exact h
  | valsPush _ hv | valsErase _ hv | nextVid _ hv | alloc _ hv | giveUp _ hv => exact absurd hv hm

theorem Std.of_shape {a : Act} (ha : ¬ a.adopts) (hm : ¬ a.movesValue) {s u : State}
    (hu : ActShape a s u) (h : s.Std) : u.Std :=
  hu.pres (Std.prim ha hm)
    (fun _ _ hd hv ht => std_push ht _
      (List.forall_mem_singleton.mpr (Frame.ok_of_isData hd fun v hdv => hm (hv v hdv)))) h

/-- `Std` survives every action except the two that record an adoption (`unadopt` and `unlink`
find nothing to remove) -/
theorem applyAct_std (s : State) (fh fw : List Nat) (a : Act) (ha : ¬ a.adopts) (h : s.Std) :
    (applyAct s fh fw a).Std := by
  cases a with
  | adopt | link => exact (ha trivial).elim
  | new => exact std_alloc h _ fun _ hm => nomatch hm
  | tryUnwrap r =>
    refine std_onRoot h fun o => std_onCell h fun ob _ hok => ?_
    split
    · rename_i v _ hv
      refine std_emit (std_giveUp (s := { s with roots := s.roots.eraseIdx (idxMod s.roots r), vals := s.vals ++ [v] })
        ⟨h.heap, fun v' hm => ?_, h.stack⟩ o) _
      exact (List.mem_append.mp hm).elim (h.vals v') fun h1 => List.mem_singleton.mp h1 ▸ hok.2.2 v hv
    · exact std_fail h _
    · exact std_emit h _
  | dropValue i =>
    dsimp only [applyAct]
    cases hv : nthMod s.vals i with
    | none => exact h
    | some v =>
      exact std_push (s := { s with vals := s.vals.eraseIdx (idxMod s.vals i) })
        ⟨h.heap, fun v' hm => h.vals v' (List.mem_of_mem_eraseIdx hm), h.stack⟩ _
        (List.forall_mem_singleton.mpr (h.vals v (mem_of_nthMod hv)))
  | makeMut r =>
    refine std_onRoot h fun o => std_onCell h fun ob _ hok => ?_
    cases hv : ob.value with
    | none => exact std_fail h _
    | some v =>
      have hvok : v.ok := hok.2.2 v hv
      refine std_ite (fun _ => ?_) fun _ => std_ite (fun _ => ?_) fun _ => std_emit h _
      · refine std_push (std_emit (s := _) ?_ _) _ (List.forall_mem_singleton.mpr trivial)
        exact std_alloc (std_ite (fun _ => h) fun _ => std_cloneHandles h v) _ (by split <;> exact hvok)
      · refine std_emit (std_giveUp (s := _) ?_ o) _
        exact std_alloc h v hvok
  | _ => exact Std.of_shape id id (applyAct_shape s fh fw _) h

theorem std_beginSingle {s : State} (h : s.Std) (o : Nat) (hl : s.tableOf o ≠ none) :
    (s.beginSingle o).Std := by
  refine std_onCell h fun ob hc hok => ?_
  split
  · exact std_decWeakFree h o true
  · split
    · rename_i v hv
      refine std_push (std_setObj h o _ ?_) _
        (List.forall_mem_cons.mpr ⟨hok.2.2 v hv, List.forall_mem_singleton.mpr trivial⟩)
      exact ⟨hok.1, fun _ _ c => absurd ((tableOf_of_cell hc).trans c) hl, fun _ h => (by cases h)⟩
    · exact std_fail h _

theorem std_rcDrop {s : State} (h : s.Std) (o : Nat) : (s.rcDrop o).Std := by
  rcases rcDrop_cases s o with ⟨e, he⟩ | he | ⟨ob, n, t, hc, -, hl, hcase⟩
  · rw [he]; exact std_fail h e
  · rw [he]; exact h
  · have h1 : (s.setObj o { ob with strong := .cnt n }).Std := std_setObj h o _ (ok_strong (std_cell h hc) n)
    have ht := NoLinks.table_nil h.noLinks ((tableOf_of_cell hc).trans hl)
    rcases hcase with ⟨-, -, he⟩ | ⟨-, -, he⟩ | ⟨-, hne, -⟩ | ⟨-, hne, -⟩
    · rw [he]; exact h1
    · rw [he]
      refine std_beginSingle h1 o ?_
      rw [tableOf_setObj_of_links_eq (ob' := { ob with strong := .cnt n }) (get_of_cell hc) rfl rfl,
        tableOf_of_cell hc, hl]
      exact Option.some_ne_none t
    · rw [ht] at hne; cases hne
    · rw [ht] at hne; cases hne

/-- releasing the implicit weak reference after the table has been dropped: whatever happens,
the object no longer both owns that reference and has a positive weak count -/
theorem std_finishSingle {s : State} (h : s.Std) (o : Nat) : (s.finishSingle o).Std := by
  refine std_onCell h fun ob hc hok => ?_
  split
  · unfold State.decWeakFree
    rw [cell_setObj_same s o ob _ hc, if_neg (by rw [freed_of_cell hc]; exact Bool.false_ne_true)]
    dsimp only
    split
    · rename_i hw
      refine std_fail (std_setObj h o _ ?_) _
      exact ⟨Or.inr rfl, fun _ _ _ => hw, hok.2.2⟩
    · rw [setObj_setObj]
      refine std_emit (std_setObj h o _ ?_) _
      exact ⟨Or.inr rfl, fun _ _ _ => rfl, hok.2.2⟩
    · rw [setObj_setObj]
      refine std_setObj h o _ ?_
      exact ⟨Or.inr rfl, fun _ b => absurd b (by simp), hok.2.2⟩
  · exact std_fail h _

theorem std_dropFields {s : State} (h : s.Std) (hs ws : List Nat) : (s.dropFields hs ws).Std := by
  cases hs with
  | cons a hs => exact std_push h _ (List.forall_mem_cons.mpr ⟨trivial, List.forall_mem_singleton.mpr trivial⟩)
  | nil =>
    cases ws with
    | cons w ws => exact std_push h _ (List.forall_mem_cons.mpr ⟨trivial, List.forall_mem_singleton.mpr trivial⟩)
    | nil => exact h

theorem std_panic {s : State} (h : s.Std) : s.panic.Std :=
  std_ite (fun _ => std_fail h _) fun _ => ⟨h.heap, h.vals, fun g hg => h.stack g (List.mem_filter.mp hg).1⟩

theorem std_phase3One {s : State} (h : s.Std) (k : Nat) : (s.phase3One k).Std :=
  std_onCell h fun _ _ _ => std_ite (fun _ => std_decWeakFree h k true) fun _ => h

theorem step_std (s : State) (h : s.Std) : (step s).Std := by
  cases herr : s.err with
  | some e => unfold step; rw [herr]; exact h
  | none =>
    cases hst : s.stack with
    | nil => unfold step; rw [herr, hst]; exact h
    | cons f rest =>
      have hf : f.ok := h.stack f (hst ▸ List.mem_cons_self)
      have h0 : ({ s with stack := rest } : State).Std :=
        ⟨h.heap, h.vals, fun g hg => h.stack g (hst ▸ List.mem_cons_of_mem _ hg)⟩
      rw [step_eq_frame herr hst]
      cases f with
      | rcDrop o => exact std_rcDrop h0 o
      | weakDrop o => exact std_decWeakFree h0 o false
      | dropVal v =>
        refine std_push (std_emit h0 _) _ fun g hg => ?_
        rcases List.mem_append.mp hg with hg | hg
        · rcases List.mem_append.mp hg with hg | hg
          · exact List.mem_singleton.mp hg ▸ hf
          · split at hg
            · exact List.mem_singleton.mp hg ▸ trivial
            · cases hg
        · exact List.mem_singleton.mp hg ▸ trivial
      | script hh ww acts =>
        cases acts with
        | nil => exact h0
        | cons a as =>
          have hfa : ∀ b ∈ a :: as, b.shared := hf
          exact applyAct_std _ hh ww a (hfa a List.mem_cons_self).not_adopts
            (std_push h0 _ (List.forall_mem_singleton.mpr fun b hb => hfa b (List.mem_cons_of_mem _ hb)))
      | panic => exact std_panic h0
      | dropFields hh ww => exact std_dropFields h0 hh ww
      | finishSingle o => exact std_finishSingle h0 o
      | phase3 ks => exact foldl_pres (I := Std) _ (fun _ k h => std_phase3One h k) ks h0

end Sim

/-- operations of the shared API -/
def Op.shared : Op → Prop
  | .act a => a.shared
  | .setScript _ acts => ∀ a ∈ acts, a.shared
  | .shuffle _ _ => True

namespace Sim

theorem applyOp_std (s : State) (op : Op) (hop : op.shared) (h : s.Std) : (applyOp s op).Std := by
  cases op with
  | act a => exact applyAct_std s [] [] a (Act.shared.not_adopts hop) h
  | setScript q acts => exact std_onRoot h fun o => std_modVal h o _ fun _ _ => hop
  | shuffle q i => exact std_onRoot h fun o => std_setLinks h o _ rfl

theorem liveLinks_of {s : State} (hO : s.InvO) (h : s.NoLinks) : s.LiveLinks := by
  intro o ob hc n hn
  have hl := ((hO o ob (get_of_cell hc)).1 n hn).2.1
  rcases h ob (cell_mem hc) with h1 | h1
  · exact h1
  · rw [h1] at hl; cases hl

/-- The step of the machine is the step of `std::rc`.  Two frames need the invariants: a pending
`rcDrop o` finds `o` live with an empty table (a dead target would be a group member whose implicit
weak reference is still held, which `Std` excludes), and `finishSingle o` finds the table still
there; `phase3` frames carry no keys, for the same reason. -/
theorem step_erase (s : State) (h : s.Std) (hI : s.Inv) (hS : s.InvS) : stdStep s.erase = (step s).erase := by
  unfold stdStep step
  rw [e_err, e_stack]
  cases herr : s.err with
  | some e => rfl
  | none =>
    cases hst : s.stack with
    | nil => rfl
    | cons f rest =>
      obtain ⟨hO, _, _, hW, hK⟩ := hI herr
      have hLL := liveLinks_of hO h.noLinks
      have hf : f ∈ s.stack := hst ▸ List.mem_cons_self
      dsimp only [e_heap, e_roots, e_wroots, e_vals, e_raws, e_log, e_unwinding, e_hint, e_nextVid, mk_erase,
        e_push]
      cases f with
      | rcDrop o =>
        refine e_rcDrop _ o fun ob hc => ?_
        replace hc : s.cell o = some ob := hc
        have hp : 0 < s.pend o := by
          simp only [State.pend, hst, State.sumList, Frame.strongTo, List.map_cons, List.foldr_cons, if_true]
          omega
        by_cases hlive : s.isLive o = true
        · obtain ⟨ob', n, hc', hn⟩ := (isLive_iff_cell s o).mp hlive
          cases hc.symm.trans hc'
          exact ⟨n, hn, hLL o ob hc n hn⟩
        · exfalso
          obtain ⟨ob', hget', hu, hln, himp⟩ := (hS herr).2.1 o hp (by simpa using hlive)
          cases (get_of_cell hc).symm.trans hget'
          have hw := (std_cell h hc).2.1 hu himp hln
          have := ((hO o ob (get_of_cell hc)).2.2.2).mpr hw
          rw [freed_of_cell hc] at this; cases this
      | weakDrop o => exact e_weakDrop _ o
      | dropVal v => rfl
      | script hh ww acts =>
        cases acts with
        | nil => rfl
        | cons a as =>
          exact applyAct_erase _ hh ww a (h.stack _ hf a List.mem_cons_self) fun o ob hc => hLL o ob hc
      | panic => exact e_panic _
      | dropFields hh ww => exact e_dropFields _ hh ww
      | finishSingle o =>
        refine e_finishSingle _ o fun ob hc => ?_
        obtain ⟨ob', hget', _, hl', _⟩ := hK.1 o hf
        cases (get_of_cell (s := s) hc).symm.trans hget'
        rw [hl']; rfl
      | phase3 ks =>
        cases ks with
        | nil => rfl
        | cons k ks =>
          exfalso
          obtain ⟨ob, hget, hu, hln, himp⟩ := hK.2.1 (k :: ks) hf k List.mem_cons_self
          have hw := (h.heap ob (List.mem_of_getElem? hget)).2.1 hu himp hln
          have := hW k (List.getElem?_eq_some_iff.mp hget).1
          simp [State.weakNat, State.implicitNat, hget, hw, himp] at this

theorem applyOp_erase (s : State) (op : Op) (hop : op.shared) (hLL : s.LiveLinks) :
    stdApplyOp s.erase op = (applyOp s op).erase := by
  cases op with
  | act a => exact applyAct_erase s [] [] a hop hLL
  | setScript q acts => exact e_onRoot fun o _ => e_modVal s o _
  | shuffle q i =>
    refine e_onRoot fun o hu => congrArg State.erase (Eq.symm ?_)
    obtain ⟨ob, n, hc, hn⟩ := (isLive_iff_cell s o).mp (useRoot_some hu).2
    have hl := hLL o ob hc n hn
    rw [setLinks_eq _ hc hl]
    exact setObj_self ((get_of_cell hc).trans (congrArg some (by cases ob; cases hl; rfl)))

/-- without table entries the adoption contract holds trivially -/
theorem P_of_noLinks {s : State} (h : s.NoLinks) : s.P := by
  intro a b _
  have : s.tbl a = [] := by
    cases ht : s.tableOf a with
    | none => exact tbl_eq_nil_of_tableOf_none ht
    | some t => rw [tbl_eq_of_tableOf ht]; exact NoLinks.table_nil h ht
  simp [State.F, this]

theorem endOp_erase (s : State) : stdEndOp s.erase = (endOp s).erase := by
  unfold stdEndOp endOp
  rw [e_unwinding]
  exact ite_erase Iff.rfl (fun _ => rfl) (fun _ => rfl)

/-- reachable in an adoption-free history -/
structure Good (s : State) : Prop where
  reach : ReachableP s
  std : s.Std

theorem Good.step {s : State} (h : Good s) : Good (Cactus.step s) :=
  have hs := step_std s h.std
  ⟨.step h.reach (P_of_noLinks hs.noLinks), hs⟩

theorem Good.step_erase {s : State} (h : Good s) : stdStep s.erase = (Cactus.step s).erase :=
  Sim.step_erase s h.std (reachable_Inv h.reach.reachable) (reachableP_invS h.reach)

theorem drain_erase (f : Nat) (s : State) (h : Good s) :
    stdDrain f s.erase = (drain f s).erase ∧ Good (drain f s) := by
  induction f generalizing s with
  | zero =>
    unfold stdDrain drain
    rw [e_stack]
    cases s.stack with
    | nil => exact ⟨rfl, h⟩
    | cons a r => exact ⟨e_fail s _, .outOfFuel h.reach, std_fail h.std _⟩
  | succ f ih =>
    unfold stdDrain drain
    rw [e_stack, e_err]
    cases s.err with
    | some e => exact ⟨rfl, h⟩
    | none =>
      cases s.stack with
      | nil => exact ⟨rfl, h⟩
      | cons a r =>
        dsimp only
        rw [h.step_erase]
        exact ih _ h.step

theorem execOp_of_none {fuel : Nat} {s : State} {op : Op} {hint : List Nat} (h : s.err = none) :
    execOp fuel s op hint = endOp (drain fuel (applyOp (s.begin hint) op)) := by
  unfold execOp State.begin; rw [h]

theorem execOp_of_some {fuel : Nat} {s : State} {op : Op} {hint : List Nat} {e : Err} (h : s.err = some e) :
    execOp fuel s op hint = s := by
  unfold execOp; rw [h]

theorem stdExecOp_of_none {fuel : Nat} {s : SState} {op : Op} {hint : List Nat} (h : s.err = none) :
    stdExecOp fuel s op hint = stdEndOp (stdDrain fuel (stdApplyOp { s with hint := hint } op)) := by
  unfold stdExecOp; rw [h]

theorem stdExecOp_of_some {fuel : Nat} {s : SState} {op : Op} {hint : List Nat} {e : Err} (h : s.err = some e) :
    stdExecOp fuel s op hint = s := by
  unfold stdExecOp; rw [h]

theorem execOp_erase (fuel : Nat) (s : State) (op : Op) (hint : List Nat) (hop : op.shared) (h : Good s)
    (hq : s.err = none → s.stack = []) :
    stdExecOp fuel s.erase op hint = (execOp fuel s op hint).erase ∧ Good (execOp fuel s op hint) := by
  cases herr : s.err with
  | some e => rw [execOp_of_some herr, stdExecOp_of_some (s := s.erase) herr]; exact ⟨rfl, h⟩
  | none =>
    rw [execOp_of_none herr, stdExecOp_of_none (s := s.erase) herr]
    have hLL : (s.begin hint).LiveLinks :=
      fun o ob hc => liveLinks_of (reachable_Inv h.reach.reachable herr).1 h.std.noLinks o ob hc
    have hstd : (applyOp (s.begin hint) op).Std := applyOp_std _ op hop h.std
    obtain ⟨hd, hgd⟩ := drain_erase fuel _ ⟨.op op hint h.reach (hq herr) (P_of_noLinks hstd.noLinks), hstd⟩
    refine ⟨?_, .endOp hgd.reach, std_ite (fun _ => hgd.std) fun _ => hgd.std⟩
    rw [← endOp_erase, ← hd, ← applyOp_erase (s.begin hint) op hop hLL]
    rfl

theorem foldl_erase (fuel : Nat) (ops : List (Op × List Nat)) (hops : ∀ oh ∈ ops, oh.1.shared) (s : State)
    (h : Good s) (hq : s.err = none → s.stack = []) :
    ops.foldl (fun s oh => stdExecOp fuel s oh.1 oh.2) s.erase
      = (ops.foldl (fun s oh => execOp fuel s oh.1 oh.2) s).erase
    ∧ Good (ops.foldl (fun s oh => execOp fuel s oh.1 oh.2) s) := by
  induction ops generalizing s with
  | nil => exact ⟨rfl, h⟩
  | cons oh rest ih =>
    obtain ⟨he, hg⟩ := execOp_erase fuel s oh.1 oh.2 (hops oh List.mem_cons_self) h hq
    rw [List.foldl_cons, List.foldl_cons, he]
    exact ih (fun x hx => hops x (List.mem_cons_of_mem _ hx)) _ hg (execOp_quiescent fuel s oh.1 oh.2 hq)

end Sim

theorem State.Std_iff (s : State) : s.Std ↔ s.NoLinks ∧ s.NoGroup ∧ s.SharedScripts :=
  ⟨fun h => ⟨h.noLinks, h.noGroup, h.sharedScripts⟩, fun h => State.Std.mk' h.1 h.2.1 h.2.2⟩

/-- `Std` (= `NoLinks ∧ NoGroup ∧ SharedScripts`) is preserved by every shared action, … -/
theorem applyAct_Std (s : State) (fh fw : List Nat) (a : Act) (ha : a.shared) (h : s.Std) :
    (applyAct s fh fw a).Std := Sim.applyAct_std s fh fw a ha.not_adopts h

/-- … by every shared top-level operation (`shuffle` included: nothing to permute), … -/
theorem applyOp_Std (s : State) (op : Op) (hop : op.shared) (h : s.Std) : (applyOp s op).Std :=
  Sim.applyOp_std s op hop h

/-- … and by every machine step. -/
theorem step_Std (s : State) (h : s.Std) : (step s).Std := Sim.step_std s h

/-- one shared action of the machine is the same action of `std::rc` -/
theorem applyAct_erase (s : State) (fh fw : List Nat) (a : Act) (hN : s.NoLinks) (hI : s.Inv)
    (he : s.err = none) (ha : a.shared) :
    (applyAct s fh fw a).erase = stdApplyAct s.erase fh fw a :=
  (Sim.applyAct_erase s fh fw a ha (Sim.liveLinks_of (hI he).1 hN)).symm

theorem applyOp_erase (s : State) (op : Op) (hN : s.NoLinks) (hI : s.Inv) (he : s.err = none)
    (hop : op.shared) : (applyOp s op).erase = stdApplyOp s.erase op :=
  (Sim.applyOp_erase s op hop (Sim.liveLinks_of (hI he).1 hN)).symm

/-- one machine step is one step of `std::rc` (`InvS` costs nothing here: without table entries
the adoption contract `P` holds trivially, `Sim.P_of_noLinks`) -/
theorem step_erase (s : State) (h : s.Std) (hI : s.Inv) (hS : s.InvS) : (step s).erase = stdStep s.erase :=
  (Sim.step_erase s h hI hS).symm

/-- **C07**: on histories that use the shared API only, the machine and the reference model of
`std::rc` produce the same state — heap (counts, values, released allocations), handles, and the
event log — whatever the fuel hints -/
theorem run_erase (ops : List (Op × List Nat)) (hops : ∀ oh ∈ ops, oh.1.shared) :
    (run ops).erase = stdRun ops :=
  (Sim.foldl_erase defaultFuel ops hops {} ⟨.init, Std_init⟩ (fun _ => rfl)).1.symm

/-- in particular the observable traces coincide: destructions `destroyed vid`, releases `freed o`,
return values `ret c`, `panicked` -/
theorem run_log (ops : List (Op × List Nat)) (hops : ∀ oh ∈ ops, oh.1.shared) :
    (run ops).log = (stdRun ops).log := by
  rw [← run_erase ops hops]; rfl

theorem run_err (ops : List (Op × List Nat)) (hops : ∀ oh ∈ ops, oh.1.shared) :
    (run ops).err = (stdRun ops).err := by
  rw [← run_erase ops hops]; rfl

/-- and no table ever gets an entry -/
theorem run_Std (ops : List (Op × List Nat)) (hops : ∀ oh ∈ ops, oh.1.shared) : (run ops).Std :=
  (Sim.foldl_erase defaultFuel ops hops {} ⟨.init, Std_init⟩ (fun _ => rfl)).2.std

end Cactus
