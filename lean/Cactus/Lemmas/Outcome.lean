import Cactus.Lemmas.Shape
/-!
# What each kind of action does

The thirty actions begin with look-ups (a handle selected modulo the length of its table, the cell of
its target, the value stored there) and then do one of two dozen things to the state.  `ActOutcome`
lists these with the facts the look-ups have established: the positions are in range, the objects are
live or readable.  An invariant that is broken between the elementary updates of `Lemmas/Shape.lean`
is carried across `applyAct` by one case for each of them.
-/
namespace Cactus
open State

/-- Why an action fails with `e`: the program has used a handle, its own or one stored in a value, to
an object that is not live; or the library has found released, or emptied of its value, an object
that a handle vouches for (`fw`: the weak fields of the running destructor).  The invariants exclude
each of them. -/
inductive Refused (s : State) (fw : List Nat) : Err → Prop
  | dangling {o : Nat} (hm : o ∈ s.roots ∨ o ∈ s.raws ∨ ∃ p v, s.valOf p = some v ∧ o ∈ v.held)
      (hd : ¬s.isLive o = true) : Refused s fw (.dangling o)
  | uaf {o : Nat} (hm : s.isLive o = true ∨ o ∈ s.wroots ∨ o ∈ fw) (hc : s.cell o = none) :
      Refused s fw (.uaf o)
  | movedValue {o : Nat} (hl : s.isLive o = true) (hv : s.valOf o = none) : Refused s fw (.movedValue o)

theorem State.badRoot_refused (s : State) (fw : List Nat) (r : Nat) :
    s.badRoot r = s ∨ ∃ e, Refused s fw e ∧ s.badRoot r = s.fail e := by
  unfold badRoot
  split
  · next o hn =>
    split
    · exact .inl rfl
    · next hd => exact .inr ⟨_, .dangling (.inl (mem_of_nthMod hn)) hd, rfl⟩
  · exact .inl rfl

/-- `ActOutcome s fh fw a t`: `t` is what action `a`, run with the fields `fh`, `fw`, makes of `s`.
A kind of outcome that several actions share leaves the action open; the others name theirs.
Of a failing action the error is recorded, a failed state not being run any further, with its cause,
and the heap, which is that of `s` unless an `unlink` has found the handle it took out of a value
dangling. -/
inductive ActOutcome (s : State) (fh fw : List Nat) : Act → State → Prop
  | stay {a : Act} : ActOutcome s fh fw a s
  | fails {a : Act} (t : State) (e : Err) (h : t.err = (s.fail e).err)
      (hh : t.heap = s.heap ∨ ∃ o k x v, s.isLive o = true ∧ s.valOf o = some v
        ∧ v.held[idxMod v.held k]? = some x ∧ s.isLive x = false
        ∧ t.heap = (s.modVal o fun v => { v with held := v.held.eraseIdx (idxMod v.held k) }).heap)
      (hc : Refused s fw e) : ActOutcome s fh fw a t
  /-- any outcome may be followed by a returned value -/
  | ret {a : Act} {t : State} (n : Nat) : ActOutcome s fh fw a t → ActOutcome s fh fw a (t.emit (.ret n))
  /-- a handle to a live object, or a field of the running destructor, is cloned (`inc_strong` aborts
  if the target of the field is dead) -/
  | gainRoot {a : Act} (o : Nat) (ho : s.isLive o = true ∨ o ∈ fh) :
      ActOutcome s fh fw a { s.incStrong o with roots := (s.incStrong o).roots ++ [o] }
  | gainRaw {j : Nat} (o : Nat) (ho : s.isLive o = true) (hm : o ∈ s.raws) :
      ActOutcome s fh fw (.incStrong j) { s.incStrong o with raws := (s.incStrong o).raws ++ [o] }
  | gainWeak {a : Act} (o : Nat) (ho : s.isLive o = true ∨ o ∈ s.wroots ∨ o ∈ fh) :
      ActOutcome s fh fw a { s.incWeak o with wroots := (s.incWeak o).wroots ++ [o] }
  | intoRaw {r : Nat} (i o : Nat) (hi : s.roots[i]? = some o) (ho : s.isLive o = true) :
      ActOutcome s fh fw (.intoRaw r) { s with roots := s.roots.eraseIdx i, raws := s.raws ++ [o] }
  | fromRaw {j : Nat} (i o : Nat) (hi : s.raws[i]? = some o) :
      ActOutcome s fh fw (.fromRaw j) { s with raws := s.raws.eraseIdx i, roots := s.roots ++ [o] }
  | dropRoot {r : Nat} (i o : Nat) (hi : s.roots[i]? = some o) (ho : s.isLive o = true) :
      ActOutcome s fh fw (.drop r) (({ s with roots := s.roots.eraseIdx i } : State).push [.rcDrop o])
  | dropRaw {j : Nat} (i o : Nat) (hi : s.raws[i]? = some o) (ho : s.isLive o = true) :
      ActOutcome s fh fw (.decStrong j) (({ s with raws := s.raws.eraseIdx i } : State).push [.rcDrop o])
  | dropWeak {w : Nat} (i o : Nat) (hi : s.wroots[i]? = some o) :
      ActOutcome s fh fw (.dropWeak w) (({ s with wroots := s.wroots.eraseIdx i } : State).push [.weakDrop o])
  | dropValue {j : Nat} (i : Nat) (v : Val) (hi : s.vals[i]? = some v) :
      ActOutcome s fh fw (.dropValue j) (({ s with vals := s.vals.eraseIdx i } : State).push [.dropVal v])
  /-- a flag of the value of a live object is set -/
  | edit {a : Act} {q : Nat} (o : Nat) (f : Val → Val) (ho : s.isLive o = true)
      (hf : ∀ v, (f v).held = v.held ∧ (f v).weaks = v.weaks)
      (hk : ∀ v, (f v).vid = v.vid ∧ (f v).script = v.script ∧ (a.noPanic → (f v).panics = v.panics))
      (ha : a = .setPanic q ∨ a = .setShallow q) : ActOutcome s fh fw a (s.modVal o f)
  | storeWeak {w q : Nat} (i t o : Nat) (hi : s.wroots[i]? = some t) (ho : s.isLive o = true) :
      ActOutcome s fh fw (.storeWeak w q) (({ s with wroots := s.wroots.eraseIdx i } : State).modVal o
        fun v => { v with weaks := v.weaks ++ [t] })
  | store {r q : Nat} (i t o : Nat) (hi : s.roots[i]? = some t) (ht : s.isLive t = true)
      (ho : s.isLive o = true) :
      ActOutcome s fh fw (.store r q) (({ s with roots := s.roots.eraseIdx i } : State).modVal o
        fun v => { v with held := v.held ++ [t] })
  | link {r q : Nat} (i t o : Nat) (hi : s.roots[i]? = some t) (ht : s.isLive t = true)
      (ho : s.isLive o = true) :
      ActOutcome s fh fw (.link r q)
        (({ s.adopt o t false with roots := (s.adopt o t false).roots.eraseIdx i } : State).modVal o
          fun v => { v with held := v.held ++ [t] })
  | take {q : Nat} (o k t : Nat) (v : Val) (ho : s.isLive o = true) (hv : s.valOf o = some v)
      (hk : v.held[idxMod v.held k]? = some t) :
      ActOutcome s fh fw (.take q k)
        { s.modVal o (fun v => { v with held := v.held.eraseIdx (idxMod v.held k) }) with
          roots := (s.modVal o fun v => { v with held := v.held.eraseIdx (idxMod v.held k) }).roots ++ [t] }
  | unlink {q : Nat} (o k t : Nat) (v : Val) (ho : s.isLive o = true) (hv : s.valOf o = some v)
      (hk : v.held[idxMod v.held k]? = some t) (ht : s.isLive t = true) :
      ActOutcome s fh fw (.unlink q k)
        { (s.modVal o fun v => { v with held := v.held.eraseIdx (idxMod v.held k) }).unadopt o t false with
          roots := ((s.modVal o fun v => { v with held := v.held.eraseIdx (idxMod v.held k) }).unadopt o t false).roots
            ++ [t] }
  | adopt {r1 r2 : Nat} (a b : Nat) (same : Bool) (ha : s.isLive a = true) (hb : s.isLive b = true) :
      ActOutcome s fh fw (.adopt r1 r2) (s.adopt a b same)
  | unadopt {r1 r2 : Nat} (a b : Nat) (same : Bool) (ha : s.isLive a = true) (hb : s.isLive b = true) :
      ActOutcome s fh fw (.unadopt r1 r2) (s.unadopt a b same)
  | new (v : Val) (hv : v = { vid := s.nextVid, held := [], weaks := [], script := [], panics := false }) :
      ActOutcome s fh fw .new
        { s.alloc v with roots := (s.alloc v).roots ++ [s.heap.length], nextVid := s.nextVid + 1 }
  /-- `try_unwrap` of the only handle: the value goes to the program, the allocation is given up -/
  | unwrap {r : Nat} (i o : Nat) (ob : Obj) (v : Val) (hi : s.roots[i]? = some o) (ho : s.isLive o = true)
      (hc : s.cell o = some ob) (hs : ob.strong = .cnt 1) (hv : ob.value = some v) :
      ActOutcome s fh fw (.tryUnwrap r)
        (({ s with roots := s.roots.eraseIdx i, vals := s.vals ++ [v] } : State).giveUp o)
  /-- `make_mut` of a shared handle: the value is cloned (`sc`: after its handles have been, unless the
  clone is shallow) into a fresh allocation, whose handle takes the place of the old one -/
  | cloneOut {r : Nat} (i o : Nat) (ob : Obj) (v v' : Val) (sc : State) (hi : s.roots[i]? = some o)
      (ho : s.isLive o = true) (hc : s.cell o = some ob) (hv : ob.value = some v) (hs : ob.strong ≠ .cnt 1)
      (h : sc = s ∧ v' = { v with vid := s.nextVid, held := [], weaks := [] }
        ∨ sc = s.cloneHandles v ∧ v' = { v with vid := s.nextVid }) :
      ActOutcome s fh fw (.makeMut r) (({ sc.alloc v' with
        roots := (sc.alloc v').roots.set i s.heap.length, nextVid := s.nextVid + 1 } : State).push [.rcDrop o])
  /-- `make_mut` of the only handle to an object with `Weak`s: the value moves to a fresh allocation -/
  | steal {r : Nat} (i o : Nat) (ob : Obj) (v : Val) (hi : s.roots[i]? = some o) (ho : s.isLive o = true)
      (hc : s.cell o = some ob) (hv : ob.value = some v) (hs : ob.strong = .cnt 1) (hw : ob.weak ≠ 1) :
      ActOutcome s fh fw (.makeMut r)
        (({ s.alloc v with roots := (s.alloc v).roots.set i s.heap.length } : State).giveUp o)

namespace ActOutcome
variable {s : State} {fh fw : List Nat} {a : Act}

theorem fail {e : Err} (hc : Refused s fw e) : ActOutcome s fh fw a (s.fail e) :=
  .fails _ e rfl (.inl (fail_heap s e)) hc

theorem retB {t : State} (b : Bool) (h : ActOutcome s fh fw a t) : ActOutcome s fh fw a (t.emit (retBool b)) :=
  h.ret _

theorem badRoot (r : Nat) : ActOutcome s fh fw a (s.badRoot r) := by
  rcases badRoot_refused s fw r with he | ⟨e, hc, he⟩ <;> rw [he]
  · exact .stay
  · exact fail hc

theorem badRoot₂ (r q : Nat) : ActOutcome s fh fw a ((s.badRoot r).badRoot q) := by
  rcases badRoot_refused s fw r with he | ⟨e, hc, he⟩ <;> rw [he]
  · exact badRoot q
  · rcases badRoot_cases (s.fail e) q with he' | ⟨e', he'⟩ <;> rw [he']
    · exact fail hc
    · refine .fails _ e ?_ (.inl ((fail_heap _ e').trans (fail_heap s e))) hc
      rw [fail_eq (s.fail e), fail_eq s]
      rfl

/-! The look-ups, with the `match` terms of `applyAct` as their conclusions. -/

theorem useRoot (r : Nat) {F : Nat → State}
    (hF : ∀ o, s.roots[idxMod s.roots r]? = some o → s.isLive o = true → ActOutcome s fh fw a (F o)) :
    ActOutcome s fh fw a (match s.useRoot r with | some o => F o | none => s.badRoot r) := by
  split
  · next o hu => exact hF o (useRoot_some hu).1 (useRoot_some hu).2
  · exact badRoot r

theorem useRoot₂ (r q : Nat) {F : Nat → Nat → State}
    (hF : ∀ x y, s.roots[idxMod s.roots r]? = some x → s.isLive x = true →
      s.roots[idxMod s.roots q]? = some y → s.isLive y = true → ActOutcome s fh fw a (F x y)) :
    ActOutcome s fh fw a (match s.useRoot r, s.useRoot q with
      | some x, some y => F x y
      | _, _ => (s.badRoot r).badRoot q) := by
  split
  · next x y hx hy => exact hF x y (useRoot_some hx).1 (useRoot_some hx).2 (useRoot_some hy).1 (useRoot_some hy).2
  · exact badRoot₂ r q

theorem nthMod (l : List Nat) (i : Nat) {F : Nat → State}
    (hF : ∀ x, l[idxMod l i]? = some x → ActOutcome s fh fw a (F x)) :
    ActOutcome s fh fw a (match Cactus.nthMod l i with | some x => F x | none => s) := by
  split
  · next x hx => exact hF x (getElem?_idxMod_of_nthMod hx)
  · exact .stay

theorem cell (o : Nat) (hm : s.isLive o = true ∨ o ∈ s.wroots ∨ o ∈ fw) {F : Obj → State}
    (hF : ∀ ob, s.cell o = some ob → ActOutcome s fh fw a (F ob)) :
    ActOutcome s fh fw a (match s.cell o with | some ob => F ob | none => s.fail (.uaf o)) := by
  split
  · next ob hc => exact hF ob hc
  · next hc => exact fail (.uaf hm hc)

theorem valOf (o : Nat) (hl : s.isLive o = true) {F : Val → State}
    (hF : ∀ v, s.valOf o = some v → ActOutcome s fh fw a (F v)) :
    ActOutcome s fh fw a (match s.valOf o with | some v => F v | none => s.fail (.movedValue o)) := by
  split
  · next v hv => exact hF v hv
  · next hv => exact fail (.movedValue hl hv)

theorem ite {c : Prop} [Decidable c] {t u : State} (ht : c → ActOutcome s fh fw a t)
    (hu : ¬c → ActOutcome s fh fw a u) : ActOutcome s fh fw a (if c then t else u) := by
  split
  · exact ht ‹_›
  · exact hu ‹_›

end ActOutcome

theorem applyAct_outcome (s : State) (fh fw : List Nat) (a : Act) :
    ActOutcome s fh fw a (applyAct s fh fw a) := by
  cases a with
  | new => exact .new _ rfl
  | clone r => exact .useRoot r fun o _ ho => .gainRoot o (.inl ho)
  | drop r => exact .useRoot r fun o hi ho => .dropRoot _ o hi ho
  | adopt r1 r2 => exact .useRoot₂ r1 r2 fun a b _ ha _ hb => .adopt a b _ ha hb
  | unadopt r1 r2 => exact .useRoot₂ r1 r2 fun a b _ ha _ hb => .unadopt a b _ ha hb
  | store r q =>
    exact .useRoot₂ r q fun t o hi ht _ ho => .ite (fun _ => .stay) fun _ => .store _ t o hi ht ho
  | take q k =>
    refine .useRoot q fun o _ ho => .valOf o ho fun v hv => .nthMod v.held k fun t hj => ?_
    exact .take o k t v ho hv hj
  | link r q =>
    exact .useRoot₂ r q fun t o hi ht _ ho => .ite (fun _ => .stay) fun _ => .link _ t o hi ht ho
  | unlink q k =>
    refine .useRoot q fun o _ ho => .valOf o ho fun v hv => .nthMod v.held k fun t hj => ?_
    dsimp only
    split
    · next ht => exact .unlink o k t v ho hv hj (by rw [isLive_modVal] at ht; exact ht)
    · next ht =>
      rw [isLive_modVal] at ht
      refine .fails _ (.dangling t) ?_ (.inr ⟨o, k, t, v, ho, hv, hj, Bool.eq_false_iff.mpr ht, fail_heap _ _⟩)
        (.dangling (.inr (.inr ⟨o, v, hv, List.mem_of_getElem? hj⟩)) ht)
      show ((s.modVal o _).fail _).err = _
      rw [fail_eq, fail_eq, modVal_err _ hv]
  | downgrade r => exact .useRoot r fun o _ ho => .gainWeak o (.inl ho)
  | upgrade w =>
    refine .nthMod s.wroots w fun o hi => .cell o (.inr (.inl (List.mem_of_getElem? hi))) fun ob hc => .ite (fun _ => .retB _ .stay) fun hd => ?_
    exact .retB (t := { s.incStrong o with roots := (s.incStrong o).roots ++ [o] }) _
      (.gainRoot o (.inl (by rw [isLive_of_cell hc]; simpa using hd)))
  | cloneWeak w =>
    exact .nthMod s.wroots w fun o hi => .gainWeak o (.inr (.inl (List.mem_of_getElem? hi)))
  | dropWeak w => exact .nthMod s.wroots w fun o hi => .dropWeak _ o hi
  | storeWeak w q =>
    dsimp only [applyAct]
    split
    · next t o hn hu =>
      exact .storeWeak _ t o (getElem?_idxMod_of_nthMod hn) (useRoot_some hu).2
    · exact .badRoot q
    · exact .stay
  | tryUnwrap r =>
    refine .useRoot r fun o hi ho => .cell o (.inl ho) fun ob hc => ?_
    split
    · next v hs hv => exact .retB _ (.unwrap _ o ob v hi ho hc hs hv)
    · next hs hv => exact .fail (.movedValue ho ((valOf_of_cell hc).trans hv))
    · exact .retB _ .stay
  | dropValue i =>
    dsimp only [applyAct]
    split
    · next v hn => exact .dropValue _ v (getElem?_idxMod_of_nthMod hn)
    · exact .stay
  | makeMut r =>
    refine .useRoot r fun o hi ho => .cell o (.inl ho) fun ob hc => ?_
    split
    · next v hv =>
      refine .ite (fun hs => ?_) fun hs => .ite (fun hw => ?_) fun _ => .ret _ .stay
      · refine .ret (t := State.push _ _) 2 (.cloneOut _ o ob v _ _ hi ho hc hv hs ?_)
        cases v.shallow
        · exact .inr ⟨rfl, rfl⟩
        · exact .inl ⟨rfl, rfl⟩
      · exact .ret 1 (.steal _ o ob v hi ho hc hv (Decidable.not_not.mp hs) hw)
    · next hv => exact .fail (.movedValue ho ((valOf_of_cell hc).trans hv))
  | getMut r => exact .useRoot r fun o _ ho => .cell o (.inl ho) fun _ _ => .retB _ .stay
  | intoRaw r => exact .useRoot r fun o hi ho => .intoRaw _ o hi ho
  | fromRaw i => exact .nthMod s.raws i fun o hi => .fromRaw _ o hi
  | incStrong i =>
    exact .nthMod s.raws i fun o hi => .ite (fun ho => .gainRaw o ho (List.mem_of_getElem? hi)) fun hd =>
      .fail (.dangling (.inr (.inl (List.mem_of_getElem? hi))) hd)
  | decStrong i =>
    exact .nthMod s.raws i fun o hi => .ite (fun ho => .dropRaw _ o hi ho) fun hd =>
      .fail (.dangling (.inr (.inl (List.mem_of_getElem? hi))) hd)
  | ptrEq r1 r2 => exact .useRoot₂ r1 r2 fun _ _ _ _ _ _ => .retB _ .stay
  | counts r => exact .useRoot r fun o _ ho => .cell o (.inl ho) fun _ _ => .ret _ (.ret _ .stay)
  | wcounts w =>
    refine .nthMod s.wroots w fun o hi => .cell o (.inr (.inl (List.mem_of_getElem? hi))) fun ob _ => ?_
    split <;> exact .ret _ (.ret _ .stay)
  | setPanic q =>
    exact .useRoot q fun o _ ho => .edit o _ ho (fun _ => ⟨rfl, rfl⟩) (fun _ => ⟨rfl, rfl, False.elim⟩) (.inl rfl)
  | setShallow q =>
    exact .useRoot q fun o _ ho => .edit o _ ho (fun _ => ⟨rfl, rfl⟩) (fun _ => ⟨rfl, rfl, fun _ => rfl⟩) (.inr rfl)
  | upgradeField k =>
    refine .nthMod fw k fun o hi => .cell o (.inr (.inr (List.mem_of_getElem? hi))) fun ob hc => .ite (fun _ => .retB _ .stay) fun hd => ?_
    exact .retB (t := { s.incStrong o with roots := (s.incStrong o).roots ++ [o] }) _
      (.gainRoot o (.inl (by rw [isLive_of_cell hc]; simpa using hd)))
  | cloneField k => exact .nthMod fh k fun o hi => .gainRoot o (.inr (List.mem_of_getElem? hi))
  | downgradeField k =>
    exact .nthMod fh k fun o hi => .gainWeak o (.inr (.inr (List.mem_of_getElem? hi)))

end Cactus
