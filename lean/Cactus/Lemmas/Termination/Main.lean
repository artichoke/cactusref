import Cactus.Lemmas.Termination.Step
import Cactus.Lemmas.Termination.NoFuel
/-!
# Termination of the teardown: the drop returns

For every state in which no destructor script contains `makeMut` (`State.NoMM`; the general
statement is false, see `Termination/Loop.lean`):

* `teardown_terminates`: within `s.work` machine steps the control stack is empty or an error is
  raised;
* `drain_no_fuel_error`: `drain f s` with `s.work ≤ f` never ends in `err = some .fuel`;
  `drain_finishes`: it ends with an empty stack or another error;
* `execOp_no_fuel_error`, `execOp_no_fuel_of_work`, `run_no_fuel_error` (a static condition:
  `6·#ops + 7·Σ script lengths ≤ defaultFuel` for histories without `makeMut`),
  `State.work_le_size` (the measure in terms of heap size, stored handles and script lengths);
* `NoMM_of_noScripts`: states without any destructor script are an instance.
-/
namespace Cactus
open State

/-- **the teardown terminates**: at most `s.work` machine steps -/
theorem teardown_terminates (s : State) (hq : s.NoMM) :
    ∃ k, k ≤ s.work ∧ ((runSteps k s).stack = [] ∨ (runSteps k s).err ≠ none) := by
  generalize hn : s.work = n
  induction n using Nat.strongRecOn generalizing s with
  | _ n ih =>
    subst hn
    cases he : s.err with
    | some e => exact ⟨0, Nat.zero_le _, Or.inr (by simp [runSteps, he])⟩
    | none =>
      by_cases hst : s.stack = []
      · exact ⟨0, Nat.zero_le _, Or.inl hst⟩
      · rcases step_work_lt_of_noMM s hq he hst with h | h
        · exact ⟨1, work_pos_of_stack hst, Or.inr h⟩
        · obtain ⟨k, hk, hfin⟩ := ih (step s).work h (step s) (step_noMM s hq) rfl
          exact ⟨k + 1, Nat.lt_of_le_of_lt hk h, hfin⟩

theorem drain_err_of_err {t : State} {e : Err} (h : t.err = some e) (f : Nat) : (drain f t).err = some e := by
  cases f with
  | zero =>
    unfold drain
    split
    · exact h
    · exact fail_err_of_some t _ e h
  | succ f =>
    unfold drain
    split
    · rename_i h1 _; rw [h] at h1; cases h1
    · exact h

/-- … and, the budget being sufficient, `drain` stops because the stack is empty or because of an
error that is not `.fuel`; the work has not grown -/
theorem drain_finishes (f : Nat) (s : State) (hq : s.NoMM) (he : s.err = none) (hf : s.work ≤ f) :
    ((drain f s).err = none ∧ (drain f s).stack = [] ∧ (drain f s).work ≤ s.work)
    ∨ ((drain f s).err ≠ none ∧ (drain f s).err ≠ some .fuel) := by
  induction f generalizing s with
  | zero =>
    by_cases hst : s.stack = []
    · rw [drain_of_stack_nil _ _ hst]; exact Or.inl ⟨he, hst, Nat.le_refl _⟩
    · exact absurd hf (Nat.not_le_of_gt (work_pos_of_stack hst))
  | succ f ih =>
    by_cases hst : s.stack = []
    · rw [drain_of_stack_nil _ _ hst]; exact Or.inl ⟨he, hst, Nat.le_refl _⟩
    · rw [Run.drain_succ he hst]
      cases hse : (step s).err with
      | some e =>
        rw [drain_err_of_err hse]
        refine Or.inr ⟨by simp, ?_⟩
        intro h
        cases h
        have := step_err_fuel s hse
        rw [he] at this; cases this
      | none =>
        rcases step_work_lt_of_noMM s hq he hst with h | h
        · exact absurd hse h
        · rcases ih (step s) (step_noMM s hq) hse (Nat.le_of_lt_succ (Nat.lt_of_lt_of_le h hf)) with ⟨h1, h2, h3⟩ | h1
          · exact Or.inl ⟨h1, h2, Nat.le_trans h3 (Nat.le_of_lt h)⟩
          · exact Or.inr h1

/-- **the step budget suffices**: `drain` with at least `s.work` fuel never reports `.fuel` -/
theorem drain_no_fuel_error (f : Nat) (s : State) (hq : s.NoMM) (he : s.err = none) (hf : s.work ≤ f) :
    (drain f s).err ≠ some .fuel := by
  rcases drain_finishes f s hq he hf with ⟨h, _⟩ | ⟨_, h⟩
  · rw [h]; nofun
  · exact h

/-- scripts installed by the operation contain no `makeMut` (a top-level `makeMut` is harmless) -/
def Op.scriptNoMM : Op → Prop
  | .setScript _ acts => ∀ a ∈ acts, a.notMakeMut
  | _ => True

def Op.scriptLen : Op → Nat
  | .setScript _ acts => acts.length
  | _ => 0

theorem applyOp_noMM (s : State) (op : Op) (hop : op.scriptNoMM) (hq : s.NoMM) : (applyOp s op).NoMM := by
  cases op with
  | act a => exact applyAct_scriptsQ s [] [] a hq
  | setScript q acts => exact applyOp_scriptsQ s _ hop hq
  | shuffle q i => exact applyOp_scriptsQ s _ trivial hq

theorem NoMM_closed : Closed Op.scriptNoMM State.NoMM :=
  ⟨fun o hint h _ ho => applyOp_noMM _ o ho (begin_scriptsQ _ hint h), step_noMM _, endOp_scriptsQ _,
    (SLe.fail _ _).scriptsQ⟩

theorem applyOp_work (s : State) (op : Op) :
    (applyOp s op).err ≠ none ∨ (applyOp s op).work ≤ 2 * s.work + 6 + 7 * op.scriptLen := by
  cases op with
  | act a => exact applyAct_work_any s [] [] a
  | setScript q acts => exact .inr (Nat.le_trans (setScript_work s q acts) (by simp only [Op.scriptLen]; omega))
  | shuffle q i => exact .inr (by rw [shuffle_work]; omega)

theorem endOp_work (s : State) : (endOp s).work = s.work := by
  unfold endOp; split <;> rfl

theorem execOp_no_fuel_error (fuel : Nat) (s : State) (op : Op) (hint : List Nat)
    (he : s.err ≠ some .fuel) (hq : (applyOp (s.begin hint) op).NoMM)
    (hw : (applyOp (s.begin hint) op).err ≠ none ∨ (applyOp (s.begin hint) op).work ≤ fuel) :
    (execOp fuel s op hint).err ≠ some .fuel := by
  unfold execOp
  split
  · exact he
  · rw [endOp_err]
    cases ha : (applyOp (s.begin hint) op).err with
    | some e =>
      have : (drain fuel (applyOp { s with hint := hint } op)).err = some e := drain_err_of_err ha fuel
      rw [this]
      intro h
      cases h
      exact he (applyOp_err_fuel (s.begin hint) op ha)
    | none => exact drain_no_fuel_error fuel _ hq ha (hw.resolve_left fun h => h ha)

/-- the same from the state *before* the operation: `2·work + 6 + 7·|installed script|` -/
theorem execOp_no_fuel_of_work (fuel : Nat) (s : State) (op : Op) (hint : List Nat)
    (he : s.err ≠ some .fuel) (hq : s.NoMM) (hop : op.scriptNoMM)
    (hw : 2 * s.work + 6 + 7 * op.scriptLen ≤ fuel) :
    (execOp fuel s op hint).err ≠ some .fuel := by
  exact execOp_no_fuel_error fuel s op hint he (applyOp_noMM _ op hop (begin_scriptsQ s hint hq))
    ((applyOp_work (s.begin hint) op).imp_right fun h => Nat.le_trans h hw)

instance : DecidablePred Op.scriptNoMM := fun op => by
  cases op <;> simp only [Op.scriptNoMM] <;> infer_instance

instance : DecidablePred (Op.S Act.notMakeMut) := fun op => by
  cases op <;> simp only [Op.S] <;> infer_instance

/-- `NoMM` is an invariant of histories that install no script containing `makeMut` (a top-level
`makeMut` is allowed: it clones scripts that are in the class) -/
theorem execOp_noMM (fuel : Nat) (s : State) (op : Op) (hint : List Nat) (hq : s.NoMM)
    (hop : op.scriptNoMM) : (execOp fuel s op hint).NoMM := by
  unfold execOp
  split
  · exact hq
  · exact endOp_scriptsQ _ (NoMM_closed.drain fuel (applyOp_noMM _ op hop (begin_scriptsQ s hint hq)))

theorem run_noMM (ops : List (Op × List Nat)) (hops : ∀ oh ∈ ops, oh.1.scriptNoMM) : (run ops).NoMM := by
  exact (NoMM_closed.run ScriptsQ_init ops hops).1

theorem applyOp_work_noMM (s : State) (op : Op) (hop : op.S Act.notMakeMut) :
    (applyOp s op).err ≠ none ∨ (applyOp s op).work ≤ s.work + 6 + 7 * op.scriptLen := by
  cases op with
  | act a => exact applyAct_work s [] [] a hop
  | setScript q acts => exact .inr (Nat.le_trans (setScript_work s q acts) (by simp only [Op.scriptLen]; omega))
  | shuffle q i => exact .inr (by rw [shuffle_work]; exact Nat.le_add_right _ _)

theorem Op.scriptNoMM_of_S {op : Op} (h : op.S Act.notMakeMut) : op.scriptNoMM := by
  cases op <;> first | exact h | trivial

theorem execOp_noMM_step (fuel : Nat) (s : State) (op : Op) (hint : List Nat)
    (he : s.err ≠ some .fuel) (hq : s.NoMM) (hop : op.S Act.notMakeMut)
    (hw : s.work + 6 + 7 * op.scriptLen ≤ fuel) :
    (execOp fuel s op hint).err ≠ some .fuel ∧ (execOp fuel s op hint).NoMM
    ∧ ((execOp fuel s op hint).err = none → (execOp fuel s op hint).work ≤ s.work + 6 + 7 * op.scriptLen) := by
  have hq' : (applyOp (s.begin hint) op).NoMM :=
    applyOp_noMM _ op (Op.scriptNoMM_of_S hop) (begin_scriptsQ s hint hq)
  have hwork := applyOp_work_noMM (s.begin hint) op hop
  refine ⟨execOp_no_fuel_error fuel s op hint he hq' (hwork.imp_right fun h => Nat.le_trans h hw),
    execOp_noMM fuel s op hint hq (Op.scriptNoMM_of_S hop), ?_⟩
  unfold execOp
  split
  · rename_i e hse
    intro h
    rw [hse] at h; cases h
  · rw [endOp_err, endOp_work]
    intro hd
    have ha := drain_err_none _ _ hd
    rcases hwork with h | h
    · exact absurd ha h
    · rcases drain_finishes fuel _ hq' ha (Nat.le_trans h hw) with ⟨_, _, h3⟩ | ⟨h1, _⟩
      · exact Nat.le_trans h3 h
      · exact absurd hd h1

theorem foldl_execOp_no_fuel (fuel : Nat) (ops : List (Op × List Nat)) (s : State)
    (he : s.err ≠ some .fuel) (hq : s.NoMM) (hops : ∀ oh ∈ ops, oh.1.S Act.notMakeMut)
    (hw : s.err = none → s.work + 6 * ops.length + 7 * (ops.map (·.1.scriptLen)).sum ≤ fuel) :
    (ops.foldl (fun s oh => execOp fuel s oh.1 oh.2) s).err ≠ some .fuel := by
  induction ops generalizing s with
  | nil => exact he
  | cons oh ops ih =>
    rw [List.foldl_cons]
    have hops' := fun x hx => hops x (List.mem_cons_of_mem _ hx)
    cases hs : s.err with
    | some e =>
      -- an error: the rest of the history is skipped
      have : execOp fuel s oh.1 oh.2 = s := by unfold execOp; simp [hs]
      rw [this]
      exact ih s he hq hops' (fun h => by rw [hs] at h; cases h)
    | none =>
      have hw := hw hs
      simp only [List.length_cons, List.map_cons, List.sum_cons] at hw
      obtain ⟨h1, h2, h3⟩ := execOp_noMM_step fuel s oh.1 oh.2 he hq (hops oh List.mem_cons_self) (by omega)
      exact ih _ h1 h2 hops' (fun hd => by have := h3 hd; omega)

/-- **a static sufficient condition**: a history without `makeMut` (neither as an action nor in a
destructor script) with `6·#operations + 7·Σ script lengths ≤ defaultFuel` never reports `.fuel` -/
theorem run_no_fuel_error (ops : List (Op × List Nat)) (hops : ∀ oh ∈ ops, oh.1.S Act.notMakeMut)
    (hsize : 6 * ops.length + 7 * (ops.map (·.1.scriptLen)).sum ≤ defaultFuel) :
    (run ops).err ≠ some .fuel := by
  unfold run
  refine foldl_execOp_no_fuel defaultFuel ops {} (by simp) ScriptsQ_init hops fun _ => ?_
  have : ({} : State).work = 0 := rfl
  omega

def State.storedVals (s : State) : List Val := s.heap.filterMap (·.value) ++ s.vals

def State.storedHandles (s : State) : Nat := (s.storedVals.map (fun v => v.held.length + v.weaks.length)).sum

def State.scriptTotal (s : State) : Nat := (s.storedVals.map (fun v => v.script.length)).sum

theorem heapW_le (h : List Obj) :
    heapW h ≤ 6 * h.length + 3 * ((h.filterMap (·.value)).map (fun v => v.held.length + v.weaks.length)).sum
      + 7 * ((h.filterMap (·.value)).map (fun v => v.script.length)).sum := by
  induction h with
  | nil => simp
  | cons ob h ih =>
    cases hv : ob.value with
    | none => simp [hv]; omega
    | some v => simp [hv, Val.cost]; omega

theorem valsW_le (l : List Val) :
    valsW l ≤ 6 * l.length + 3 * (l.map (fun v => v.held.length + v.weaks.length)).sum
      + 7 * (l.map (fun v => v.script.length)).sum := by
  induction l with
  | nil => simp
  | cons v l ih => simp [Val.cost]; omega

/-- the measure of a state is bounded by the stack plus `6·(#allocations + #unwrapped values)
+ 3·#stored handles + 7·Σ script lengths` -/
theorem State.work_le_size (s : State) :
    s.work ≤ stackW s.stack + 6 * (s.heap.length + s.vals.length) + 3 * s.storedHandles + 7 * s.scriptTotal := by
  have h1 := heapW_le s.heap
  have h2 := valsW_le s.vals
  simp only [State.work, State.storedHandles, State.scriptTotal, State.storedVals, List.map_append,
    List.sum_append]
  omega

theorem execOp_no_fuel_of_size (fuel : Nat) (s : State) (op : Op) (hint : List Nat)
    (he : s.err ≠ some .fuel) (hst : s.stack = []) (hq : s.NoMM) (hop : op.scriptNoMM)
    (hw : 12 * (s.heap.length + s.vals.length) + 6 * s.storedHandles + 14 * s.scriptTotal + 6
      + 7 * op.scriptLen ≤ fuel) :
    (execOp fuel s op hint).err ≠ some .fuel := by
  refine execOp_no_fuel_of_work fuel s op hint he hq hop ?_
  have := s.work_le_size
  rw [hst] at this
  simp only [stackW_nil] at this
  omega

theorem ScriptsQ_mono {Q Q' : Act → Prop} (hQ : ∀ a, Q a → Q' a) {s : State} (h : s.ScriptsQ Q) :
    s.ScriptsQ Q' := by
  refine ⟨?_, ?_, ?_⟩
  · intro f hf
    have := h.1 f hf
    cases f <;> first | trivial | exact fun a ha => hQ a (this a ha)
  · intro o ob v hg hv a ha
    exact hQ a (h.2.1 o ob v hg hv a ha)
  · intro v hv a ha
    exact hQ a (h.2.2 v hv a ha)

/-- states in which every destructor script is empty (in particular: all values `quiet`) satisfy
`NoMM` -/
theorem NoMM_of_noScripts {s : State} (h : s.ScriptsQ (fun _ => False)) : s.NoMM :=
  ScriptsQ_mono (fun _ hf => hf.elim) h

theorem teardown_terminates_noScripts (s : State) (h : s.ScriptsQ (fun _ => False)) :
    ∃ k, k ≤ s.work ∧ ((runSteps k s).stack = [] ∨ (runSteps k s).err ≠ none) :=
  teardown_terminates s (NoMM_of_noScripts h)

end Cactus
