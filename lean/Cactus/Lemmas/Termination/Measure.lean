import Cactus.Lemmas.PayAsYouGo.Scripts
import Cactus.Lemmas.Depth.Step
/-!
# The measure `State.work` of the teardown

`State.work` is an upper bound on the number of machine steps the control stack still needs, *as
long as no destructor script executes the clone branch of `makeMut`* (see `Loop.lean` for the
counterexample).  It is a plain weighted sum:

* a value `v`, wherever it is, costs `v.cost = 3 + 7·|script| + 3·|held| + 2·|weaks|`: what its
  destruction pushes (`script` frame, `panic` frame, `dropFields` frame and, through `dropFields`, one
  `rcDrop` frame per strong handle and one `weakDrop` frame per Weak handle);
* frames: `rcDrop` 2, `weakDrop`/`panic`/`finishSingle`/`phase3` 1, `dropFields h w`
  `1 + 3|h| + 2|w|`, `script _ _ acts` `1 + 7|acts|`, `dropVal v` `v.cost + 1`;
* a value still in the heap costs `v.cost + 3` (the `dropVal` frame it becomes, plus the
  continuation `finishSingle`/`phase3` of the call that moves it out), an unwrapped value in
  `vals` costs `v.cost + 1`.

The weight 7 of a script action pays for whatever one action can add: `new` (a fresh value with
empty script and no handles, `3 + 3 = 6`), `drop`/`decStrong` (a `rcDrop` frame, 2), `store`/`link`
(one more stored handle, 3), `storeWeak` (2), `dropWeak` (1).
-/
namespace Cactus
open State

/-- what the destruction of a value costs, once its `dropVal` frame has been popped -/
def Val.cost (v : Val) : Nat := 3 + 7 * v.script.length + 3 * v.held.length + 2 * v.weaks.length

def Frame.work : Frame → Nat
  | .rcDrop _ => 2
  | .weakDrop _ => 1
  | .dropVal v => v.cost + 1
  | .script _ _ acts => 1 + 7 * acts.length
  | .panic => 1
  | .dropFields h w => 1 + 3 * h.length + 2 * w.length
  | .finishSingle _ => 1
  | .phase3 _ => 1

def stackW (l : List Frame) : Nat := (l.map Frame.work).sum

/-- weight of a heap slot: a value in place costs its `dropVal` frame plus 2 -/
def optW : Option Val → Nat
  | some v => v.cost + 3
  | none => 0

@[simp] theorem optW_none : optW none = 0 := rfl
@[simp] theorem optW_some (v : Val) : optW (some v) = v.cost + 3 := rfl

def hv (h : List Obj) : List (Option Val) := h.map (·.value)

def heapW (h : List Obj) : Nat := ((hv h).map optW).sum

/-- weight of a list of values that are not in the heap (`vals`, or a block of `dropVal` frames) -/
def valsW (vs : List Val) : Nat := (vs.map (fun v => v.cost + 1)).sum

def State.work (s : State) : Nat := stackW s.stack + heapW s.heap + valsW s.vals

@[simp] theorem stackW_nil : stackW [] = 0 := rfl
@[simp] theorem stackW_cons (f : Frame) (l : List Frame) : stackW (f :: l) = f.work + stackW l := by
  simp [stackW]
@[simp] theorem stackW_append (a b : List Frame) : stackW (a ++ b) = stackW a + stackW b := by
  simp [stackW]

@[simp] theorem valsW_nil : valsW [] = 0 := rfl
@[simp] theorem valsW_cons (v : Val) (l : List Val) : valsW (v :: l) = (v.cost + 1) + valsW l := by
  simp [valsW]
@[simp] theorem valsW_append (a b : List Val) : valsW (a ++ b) = valsW a + valsW b := by
  simp [valsW]

theorem valsW_perm {a b : List Val} (h : a.Perm b) : valsW a = valsW b :=
  (h.map _).sum_nat

@[simp] theorem stackW_map_dropVal (vs : List Val) : stackW (vs.map Frame.dropVal) = valsW vs := by
  induction vs with
  | nil => rfl
  | cons v vs ih => simp [ih, Frame.work]

theorem stackW_filter_le (p : Frame → Bool) (l : List Frame) : stackW (l.filter p) ≤ stackW l := by
  induction l with
  | nil => exact Nat.le_refl _
  | cons f l ih =>
    rw [List.filter_cons]
    split
    · exact Nat.add_le_add_left ih _
    · exact Nat.le_trans ih (Nat.le_add_left _ _)

theorem valsW_eraseIdx {l : List Val} {j : Nat} {v : Val} (h : l[j]? = some v) :
    valsW (l.eraseIdx j) + (v.cost + 1) = valsW l := by
  induction l generalizing j with
  | nil => cases h
  | cons a l ih =>
    cases j with
    | zero => cases h; exact Nat.add_comm _ _
    | succ j => exact (Nat.add_assoc _ _ _).trans (congrArg _ (ih h))

@[simp] theorem hv_nil : hv [] = [] := rfl
@[simp] theorem hv_cons (ob : Obj) (h : List Obj) : hv (ob :: h) = ob.value :: hv h := rfl
@[simp] theorem hv_append (a b : List Obj) : hv (a ++ b) = hv a ++ hv b := by simp [hv]

theorem hv_set (h : List Obj) (o : Nat) (ob : Obj) : hv (h.set o ob) = (hv h).set o ob.value := by
  simp [hv, List.map_set]

theorem hv_set_same {h : List Obj} {o : Nat} {ob ob' : Obj} (hg : h[o]? = some ob)
    (hval : ob'.value = ob.value) : hv (h.set o ob') = hv h := by
  rw [hv_set, hval]
  apply List.ext_getElem?
  intro i
  by_cases hi : o = i
  · subst hi
    have hlt : o < (hv h).length := by simpa [hv] using (List.getElem?_eq_some_iff.mp hg).1
    rw [List.getElem?_set_self hlt]
    simp [hv, hg]
  · rw [List.getElem?_set_ne hi]

@[simp] theorem heapW_nil : heapW [] = 0 := rfl
@[simp] theorem heapW_cons (ob : Obj) (h : List Obj) : heapW (ob :: h) = optW ob.value + heapW h := by
  simp [heapW]
@[simp] theorem heapW_append (a b : List Obj) : heapW (a ++ b) = heapW a + heapW b := by
  simp [heapW]

theorem heapW_of_hv {a b : List Obj} (h : hv a = hv b) : heapW a = heapW b := by
  unfold heapW; rw [h]

theorem heapW_set {h : List Obj} {o : Nat} {ob : Obj} (ob' : Obj) (hg : h[o]? = some ob) :
    heapW (h.set o ob') + optW ob.value = heapW h + optW ob'.value := by
  induction h generalizing o with
  | nil => cases hg
  | cons a h ih =>
    cases o with
    | zero => cases hg; simp only [List.set_cons_zero, heapW_cons]; omega
    | succ o => exact (Nat.add_assoc _ _ _).trans ((congrArg _ (ih hg)).trans (Nat.add_assoc _ _ _).symm)

theorem optW_le_heapW {h : List Obj} {o : Nat} {ob : Obj} (hg : h[o]? = some ob) :
    optW ob.value ≤ heapW h :=
  Nat.le.intro ((Nat.add_comm _ _).trans (heapW_set { ob with value := none } hg))

end Cactus
