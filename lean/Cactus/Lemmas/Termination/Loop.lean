import Cactus.Lemmas.Termination.Main
/-!
# Termination of the teardown: the general statement is false (`makeMut` in a destructor)

A destructor script may call `make_mut` on a *shared* handle to an object whose value carries the
same script: the clone branch copies the value **with its script** into a fresh allocation; the
script then drops the fresh handle, which destroys the copy, whose destructor runs the same
script again…  In Rust terms: `impl Drop for Node { fn drop(&mut self) { let mut h =
PROTOTYPE.clone(); Rc::make_mut(&mut h); drop(h) } }` where `Node: Clone` — an unbounded
recursion of `drop`.

History: `new; setScript 0 [clone 0, makeMut 1, drop 1]; clone 0; makeMut 1; drop 1`.
The last operation never returns: `makeMut_loop_never_returns` (for **every** step budget the
operation ends with `err = some .fuel`), by the loop invariant `loop_six_steps` (six machine steps
lead from `loopState n` to `loopState (n + 1)`); `loop_work` shows the measure growing by 3 per
round (the `makeMut` step adds 22, the other five steps remove 19).
-/
namespace Cactus.TerminationLoop
open Cactus State

def loopScript : List Act := [.clone 0, .makeMut 1, .drop 1]

def loopVal (k : Nat) : Val := { vid := k, held := [], weaks := [], script := loopScript, panics := false }

/-- the prototype: object 0, one program handle, carries the script -/
def proto (n : Nat) : Obj :=
  { strong := .cnt n, weak := 1, links := some [], value := some (loopVal 0), freed := false }

/-- an allocation whose value has been moved out by `drop_unreachable` and whose destructor is
still running -/
def husk : Obj := { strong := .uninit, weak := 1, links := some [], value := none, freed := false }

def fresh (k : Nat) : Obj :=
  { strong := .cnt 1, weak := 1, links := some [], value := some (loopVal k), freed := false }

/-- the shape of the state every sixth step -/
def loopShape (tl : List Obj) (rest : List Frame) (lg : List Ev) (j nv : Nat) : State :=
  { heap := proto 1 :: tl, roots := [0], stack := .dropVal (loopVal j) :: rest, log := lg, nextVid := nv }

theorem get_last {α : Type} (a x : α) (tl : List α) : (a :: (tl ++ [x]))[tl.length + 1]? = some x := by
  simp

theorem set_last {α : Type} (a x y : α) (tl : List α) :
    (a :: (tl ++ [x])).set (tl.length + 1) y = a :: (tl ++ [y]) := by
  simp

/-- after step 1: the destructor body has been entered -/
def mid1 (tl : List Obj) (rest : List Frame) (lg : List Ev) (j nv : Nat) : State :=
  { heap := proto 1 :: tl, roots := [0],
    stack := .script [] [] loopScript :: .dropFields [] [] :: rest,
    log := lg ++ [.destroyed j], nextVid := nv }

/-- after step 2: `clone 0`, the prototype is shared -/
def mid2 (tl : List Obj) (rest : List Frame) (lg : List Ev) (j nv : Nat) : State :=
  { heap := proto 2 :: tl, roots := [0, 0],
    stack := .script [] [] [.makeMut 1, .drop 1] :: .dropFields [] [] :: rest,
    log := lg ++ [.destroyed j], nextVid := nv }

/-- after step 3: `makeMut 1` has cloned the prototype's value, script included, into a fresh
allocation and scheduled the drop of the handle it replaced -/
def mid3 (tl : List Obj) (rest : List Frame) (lg : List Ev) (j nv : Nat) : State :=
  { heap := proto 2 :: (tl ++ [fresh nv]), roots := [0, tl.length + 1],
    stack := .rcDrop 0 :: .script [] [] [.drop 1] :: .dropFields [] [] :: rest,
    log := lg ++ [.destroyed j, .ret 2], nextVid := nv + 1 }

/-- after step 4: the old handle has been dropped; the script is about to drop the fresh handle -/
def mid4 (tl : List Obj) (rest : List Frame) (lg : List Ev) (j nv : Nat) : State :=
  { heap := proto 1 :: (tl ++ [fresh nv]), roots := [0, tl.length + 1],
    stack := .script [] [] [.drop 1] :: .dropFields [] [] :: rest,
    log := lg ++ [.destroyed j, .ret 2], nextVid := nv + 1 }

/-- after step 5: `drop 1` has pushed the `rcDrop` of the fresh handle -/
def mid5 (tl : List Obj) (rest : List Frame) (lg : List Ev) (j nv : Nat) : State :=
  { heap := proto 1 :: (tl ++ [fresh nv]), roots := [0],
    stack := .rcDrop (tl.length + 1) :: .script [] [] [] :: .dropFields [] [] :: rest,
    log := lg ++ [.destroyed j, .ret 2], nextVid := nv + 1 }

theorem step_1 (tl : List Obj) (rest : List Frame) (lg : List Ev) (j nv : Nat) :
    step (loopShape tl rest lg j nv) = mid1 tl rest lg j nv := rfl

theorem step_2 (tl : List Obj) (rest : List Frame) (lg : List Ev) (j nv : Nat) :
    step (mid1 tl rest lg j nv) = mid2 tl rest lg j nv := rfl

theorem step_3 (tl : List Obj) (rest : List Frame) (lg : List Ev) (j nv : Nat) :
    step (mid2 tl rest lg j nv) = mid3 tl rest lg j nv := by
  simp [mid2, mid3, step, applyAct, State.useRoot, nthMod, idxMod, State.isLive, State.push,
    State.cell, State.alloc, State.emit, State.cloneHandles, proto, fresh, loopVal, Strong.isDead]

theorem step_4 (tl : List Obj) (rest : List Frame) (lg : List Ev) (j nv : Nat) :
    step (mid3 tl rest lg j nv) = mid4 tl rest lg j nv := rfl

theorem step_5 (tl : List Obj) (rest : List Frame) (lg : List Ev) (j nv : Nat) :
    step (mid4 tl rest lg j nv) = mid5 tl rest lg j nv := by
  simp [mid4, mid5, step, applyAct, State.useRoot, nthMod, idxMod, State.isLive, State.push, fresh,
    Strong.isDead]

/-- step 6: the count of the fresh allocation reaches zero: its value (a copy of the prototype's,
script included) is moved out and its destructor scheduled -/
theorem step_6 (tl : List Obj) (rest : List Frame) (lg : List Ev) (j nv : Nat) :
    step (mid5 tl rest lg j nv)
      = loopShape (tl ++ [husk])
          (.finishSingle (tl.length + 1) :: .script [] [] [] :: .dropFields [] [] :: rest)
          (lg ++ [.destroyed j, .ret 2]) nv (nv + 1) := by
  simp [mid5, step, State.rcDrop, State.cell, State.beginSingle, State.setObj, State.push, fresh, husk,
    loopShape]

theorem six_steps (tl : List Obj) (rest : List Frame) (lg : List Ev) (j nv : Nat) :
    runSteps 6 (loopShape tl rest lg j nv)
      = loopShape (tl ++ [husk])
          (.finishSingle (tl.length + 1) :: .script [] [] [] :: .dropFields [] [] :: rest)
          (lg ++ [.destroyed j, .ret 2]) nv (nv + 1) := by
  simp only [runSteps, step_1, step_2, step_3, step_4, step_5, step_6]

def restN : Nat → List Frame
  | 0 => [.finishSingle 1]
  | n + 1 => .finishSingle (n + 2) :: .script [] [] [] :: .dropFields [] [] :: restN n

def logN : Nat → List Ev
  | 0 => [.ret 2]
  | n + 1 => logN n ++ [.destroyed (n + 1), .ret 2]

/-- the state at the beginning of round `n`: the prototype, `n + 1` husks whose destructors are all
still running (nested), the copy number `n + 1` about to be destroyed -/
def loopState (n : Nat) : State :=
  loopShape (List.replicate (n + 1) husk) (restN n) (logN n) (n + 1) (n + 2)

/-- **loop invariant**: six machine steps lead from round `n` to round `n + 1` -/
theorem loop_six_steps (n : Nat) : runSteps 6 (loopState n) = loopState (n + 1) := by
  unfold loopState
  rw [six_steps, ← List.replicate_succ', List.length_replicate]
  rfl

theorem loop_rounds (n : Nat) : runSteps (6 * n) (loopState 0) = loopState n := by
  induction n with
  | zero => rfl
  | succ n ih =>
    have : 6 * (n + 1) = 6 * n + 6 := by omega
    rw [this, runSteps_add, ih, loop_six_steps]

/-- the history: build the prototype, share it, `makeMut` one handle (first copy), … -/
def loopPre : List (Op × List Nat) :=
  [(.act .new, []), (.setScript 0 loopScript, []), (.act (.clone 0), []), (.act (.makeMut 1), [])]

/-- … and drop the copy: the state in which `drop 1` has pushed its `rcDrop` frame -/
def loopStart : State := applyOp ((run loopPre).begin []) (.act (.drop 1))

theorem loopPre_ok : (run loopPre).err = none ∧ (run loopPre).stack = [] := by decide +kernel

theorem loopStart_step : step loopStart = loopState 0 := by
  rfl

def Running (s : State) : Prop := s.err = none ∧ s.stack ≠ []

theorem step_of_not_running {s : State} (h : ¬ Running s) : step s = s := by
  rcases step_cases s with h' | ⟨f, r, he, hs⟩
  · exact h'
  · exact absurd ⟨he, by rw [hs]; simp⟩ h

theorem runSteps_of_not_running (k : Nat) {s : State} (h : ¬ Running s) : runSteps k s = s := by
  induction k with
  | zero => rfl
  | succ k ih => rw [runSteps, step_of_not_running h, ih]

theorem running_of_later {s : State} {m k : Nat} (h : Running (runSteps (m + k) s)) :
    Running (runSteps m s) := by
  apply Classical.byContradiction
  intro hn
  rw [runSteps_add, runSteps_of_not_running k hn] at h
  exact hn h

theorem loopState_running (n : Nat) : Running (loopState n) := ⟨rfl, by simp [loopState, loopShape]⟩

theorem loop_running (m : Nat) : Running (runSteps m loopStart) := by
  have h : Running (runSteps (m + (5 * m + 1)) loopStart) := by
    have e : m + (5 * m + 1) = 1 + 6 * m := by omega
    rw [e, runSteps_add]
    show Running (runSteps (6 * m) (step loopStart))
    rw [loopStart_step, loop_rounds]
    exact loopState_running m
  exact running_of_later h

theorem drain_fuel_of_running (f : Nat) (s : State) (h : ∀ m, m ≤ f → Running (runSteps m s)) :
    (drain f s).err = some .fuel := by
  induction f generalizing s with
  | zero =>
    have h0 : Running s := h 0 (Nat.le_refl _)
    obtain ⟨he, hst⟩ := h0
    cases hs : s.stack with
    | nil => exact absurd hs hst
    | cons a r =>
      simp only [drain, hs]
      exact fail_err_of_none s _ he
  | succ f ih =>
    have h0 : Running s := h 0 (Nat.zero_le _)
    rw [Run.drain_succ h0.1 h0.2]
    apply ih
    intro m hm
    have := h (m + 1) (by omega)
    rw [Nat.add_comm, runSteps_add] at this
    exact this

/-- **counterexample to unconditional termination**: whatever the step budget, the last operation
of the history `new; setScript 0 [clone 0, makeMut 1, drop 1]; clone 0; makeMut 1; drop 1` ends with
the `fuel` error: the teardown it starts runs forever -/
theorem makeMut_loop_never_returns (f : Nat) :
    (execOp f (run loopPre) (.act (.drop 1)) []).err = some .fuel := by
  unfold execOp
  rw [loopPre_ok.1]
  show (endOp (drain f loopStart)).err = some .fuel
  rw [endOp_err]
  exact drain_fuel_of_running f loopStart (fun m _ => loop_running m)

/-- the same as a statement about machine steps: after any number of steps there is no error and
the control stack is not empty -/
theorem makeMut_loop_runs_forever (m : Nat) :
    (runSteps m loopStart).err = none ∧ (runSteps m loopStart).stack ≠ [] := loop_running m

/-- `loopStart` is outside the hypothesis `NoMM` of `teardown_terminates`: that theorem would
contradict `loop_running` -/
theorem loopStart_not_noMM : ¬ loopStart.NoMM := by
  intro h
  obtain ⟨k, _, hk⟩ := teardown_terminates loopStart h
  have := loop_running k
  rcases hk with hk | hk
  · exact this.2 hk
  · exact hk this.1

theorem stackW_restN (n : Nat) : stackW (restN n) = 1 + 3 * n := by
  induction n with
  | zero => rfl
  | succ n ih => simp [restN, Frame.work, ih]; omega

theorem heapW_husks (k : Nat) : heapW (List.replicate k husk) = 0 := by
  induction k with
  | zero => rfl
  | succ k ih =>
    rw [List.replicate_succ, heapW_cons, ih]; rfl

/-- the measure along the loop: it grows by 3 per round (the `makeMut` step adds 22, the other five
steps of a round remove 19) -/
theorem loop_work (n : Nat) : (loopState n).work = 53 + 3 * n := by
  simp [loopState, loopShape, State.work, stackW_restN, heapW_husks, Frame.work, Val.cost, proto,
    loopVal, loopScript]
  omega

end Cactus.TerminationLoop
