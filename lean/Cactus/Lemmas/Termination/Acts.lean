import Cactus.Lemmas.Termination.Prims
import Cactus.Lemmas.Outcome
/-!
# One user-level action and the measure `State.work`

Every action other than `makeMut` adds at most 6 to `State.work` (`applyAct_work`); `makeMut` takes
it to `2·work + 5` at most (`applyAct_work_makeMut`: the clone branch copies a value that, script
included, is already counted once in the heap).  Both are read off `ActOutcome.work`.
-/
namespace Cactus
open State

def Act.isMakeMut : Act → Bool
  | .makeMut _ => true
  | _ => false

theorem cost_held_push (t : Nat) (v : Val) : ({ v with held := v.held ++ [t] } : Val).cost ≤ v.cost + 3 := by
  simp only [Val.cost, List.length_append, List.length_cons, List.length_nil]; omega

theorem cost_held_erase (k : Nat) (v : Val) : ({ v with held := v.held.eraseIdx k } : Val).cost ≤ v.cost + 0 := by
  have := List.length_eraseIdx_le v.held k
  simp only [Val.cost]; omega

theorem edit_work {s t u : State} {o : Nat} {f : Val → Val} {d k : Nat} (h2 : (t.modVal o f).Same u)
    (hf : ∀ v, (f v).cost ≤ v.cost + d) (h1 : s.Same t) (hk : d ≤ k) : u.work ≤ s.work + k := by
  have := modVal_work_le t o f d hf
  rw [h2.work, ← h1.work]
  omega

theorem push_one_work {s u : State} (h : s.Same u) (d : Frame) (hd : d.work ≤ 6) :
    (u.push [d]).work ≤ s.work + 6 := by
  rw [push_work, h.work, stackW_cons, stackW_nil]
  omega

theorem le_workBound {b : Bool} {x w : Nat} (h : x ≤ w + 2) : x ≤ bif b then 2 * w + 5 else w + 6 := by
  cases b
  · exact Nat.le_trans h (Nat.add_le_add_left (by decide) w)
  · show x ≤ 2 * w + 5
    omega

/-- the work after an action, by the kind of its outcome.  Only `make_mut` can more than add a
constant: its clone branch copies a value that is counted in the heap, so the work at most doubles;
its other branches move the value or do nothing. -/
theorem ActOutcome.work {s t : State} {fh fw : List Nat} {a : Act} (hout : ActOutcome s fh fw a t) :
    t.err ≠ none ∨ t.work ≤ bif a.isMakeMut then 2 * s.work + 5 else s.work + 6 := by
  induction hout with
  | stay => exact .inr (le_workBound (Nat.le_add_right _ _))
  | fails t e h _ => exact .inl (h ▸ fail_err_ne_none s e)
  | ret n _ ih => exact ih
  | gainRoot o _ => exact .inr (le_workBound (((Same.incStrong s o).trans (.of_eq rfl rfl rfl)).work_le 2))
  | gainRaw o _ _ => exact .inr (((Same.incStrong s o).trans (.of_eq rfl rfl rfl)).work_le 6)
  | gainWeak o _ => exact .inr (le_workBound (((Same.incWeak s o).trans (.of_eq rfl rfl rfl)).work_le 2))
  | intoRaw i o _ _ => exact .inr ((Same.of_eq (s := s) rfl rfl rfl).work_le 6)
  | fromRaw i o _ => exact .inr ((Same.of_eq (s := s) rfl rfl rfl).work_le 6)
  | dropRoot i o _ _ => exact .inr (push_one_work (.of_eq rfl rfl rfl) _ (show 2 ≤ 6 by decide))
  | dropRaw i o _ _ => exact .inr (push_one_work (.of_eq rfl rfl rfl) _ (show 2 ≤ 6 by decide))
  | dropWeak i o _ => exact .inr (push_one_work (.of_eq rfl rfl rfl) _ (show 1 ≤ 6 by decide))
  | dropValue i v hi =>
    have := valsW_eraseIdx hi
    right
    show _ ≤ s.work + 6
    rw [push_work]
    simp only [State.work, stackW_cons, stackW_nil, Frame.work]
    omega
  | edit o f _ hf hk _ =>
    refine .inr (le_workBound (modVal_work_le s o f 2 fun v => ?_))
    simp only [Val.cost, (hf v).1, (hf v).2, (hk v).2.1]
    omega
  | storeWeak i t o _ _ =>
    refine .inr (edit_work (d := 2) (.refl _) ?_ (.of_eq rfl rfl rfl) (by decide))
    intro v; simp only [Val.cost, List.length_append, List.length_cons, List.length_nil]; omega
  | store i t o _ _ _ => exact .inr (edit_work (.refl _) (cost_held_push _) (.of_eq rfl rfl rfl) (by decide))
  | link i t o _ _ _ =>
    exact .inr (edit_work (.refl _) (cost_held_push _) ((Same.adopt s _ _ false).trans (.of_eq rfl rfl rfl))
      (by decide))
  | take o k t v _ _ _ =>
    exact .inr (edit_work (.of_eq rfl rfl rfl) (fun v => cost_held_erase _ v) (.refl s) (Nat.zero_le _))
  | unlink o k t v _ _ _ _ =>
    exact .inr (edit_work ((Same.unadopt _ _ _ false).trans (.of_eq rfl rfl rfl)) (fun v => cost_held_erase _ v)
      (.refl s) (Nat.zero_le _))
  | adopt a b same _ _ => exact .inr ((Same.adopt s a b same).work_le 6)
  | unadopt a b same _ _ => exact .inr ((Same.unadopt s a b same).work_le 6)
  | new v hv =>
    subst hv
    exact .inr (Nat.le_of_eq (alloc_work s _))
  | unwrap i o ob v _ _ hc _ hv =>
    rcases giveUp_work ({ s with roots := s.roots.eraseIdx i, vals := s.vals ++ [v] } : State) o ob
      (cell_some_get s o ob hc).1 with h3 | h3
    · exact .inl h3
    · right
      show _ ≤ s.work + 6
      rw [hv, optW_some] at h3
      simp only [State.work, valsW_append, valsW_cons, valsW_nil] at h3 ⊢
      omega
  | cloneOut i o ob v v' sc _ _ hc hv _ hsc =>
    have hle := optW_le_heapW (cell_some_get s o ob hc).1
    rw [hv, optW_some] at hle
    right
    show _ ≤ 2 * s.work + 5
    rw [push_work]
    simp only [Val.cost] at hle
    rcases hsc with ⟨rfl, rfl⟩ | ⟨rfl, rfl⟩
    · simp only [State.work, tw_alloc_stack, tw_alloc_vals, tw_alloc_heap, stackW_cons, stackW_nil, Frame.work,
        Val.cost, List.length_nil]
      omega
    · simp only [State.work, tw_alloc_stack, tw_alloc_vals, tw_alloc_heap, (Same.cloneHandles s v).stack,
        (Same.cloneHandles s v).vals, (Same.cloneHandles s v).heapW, stackW_cons, stackW_nil, Frame.work, Val.cost]
      omega
  | steal i o ob v _ _ hc hv _ _ =>
    rcases giveUp_work ({ (s.alloc v) with roots := (s.alloc v).roots.set i s.heap.length } : State) o ob
      (get_alloc_of_get v (cell_some_get s o ob hc).1) with h3 | h3
    · exact .inl h3
    · right
      show _ ≤ 2 * s.work + 5
      rw [hv, optW_some] at h3
      simp only [State.work, tw_alloc_stack, tw_alloc_vals, tw_alloc_heap] at h3 ⊢
      omega

theorem applyAct_work (s : State) (fh fw : List Nat) (a : Act) (ha : a.isMakeMut = false) :
    (applyAct s fh fw a).err ≠ none ∨ (applyAct s fh fw a).work ≤ s.work + 6 := by
  have h := (applyAct_outcome s fh fw a).work
  rw [ha] at h
  exact h

theorem applyAct_work_makeMut (s : State) (fh fw : List Nat) (r : Nat) :
    (applyAct s fh fw (.makeMut r)).err ≠ none ∨ (applyAct s fh fw (.makeMut r)).work ≤ 2 * s.work + 5 :=
  (applyAct_outcome s fh fw (.makeMut r)).work

theorem applyAct_work_any (s : State) (fh fw : List Nat) (a : Act) :
    (applyAct s fh fw a).err ≠ none ∨ (applyAct s fh fw a).work ≤ 2 * s.work + 6 := by
  cases h : a.isMakeMut with
  | false => exact (applyAct_work s fh fw a h).imp id (fun h => by omega)
  | true =>
    cases a with
    | makeMut r => exact (applyAct_work_makeMut s fh fw r).imp id Nat.le_succ_of_le
    | _ => cases h

/-- installing a script: 7 per action -/
theorem setScript_work (s : State) (q : Nat) (acts : List Act) :
    (applyOp s (.setScript q acts)).work ≤ s.work + 7 * acts.length := by
  simp only [applyOp]
  split
  · exact modVal_work_le s _ _ _ (fun v => by simp only [Val.cost]; omega)
  · exact (Same.badRoot s q).work_le _

theorem shuffle_work (s : State) (q i : Nat) : (applyOp s (.shuffle q i)).work = s.work := by
  simp only [applyOp]
  split
  · exact (Same.setLinks s _ _).work
  · exact (Same.badRoot s q).work

end Cactus
