import Cactus.Lemmas.Termination.Measure
/-!
# The library primitives and the measure `State.work`

* `State.Same s t`: `t` has the stack, the unwrapped values and, slot by slot, the heap values of
  `s` (so the same `work`); holds for every primitive that only touches counters and link tables.
* the primitives that move values: `beginSingle` (`work` does not grow), `dropCycle`/`rcDrop`
  (`+ 1` at most: the `phase3` frame of a collection that finds no dead member), `dropVal`,
  `dropFields`, `panic`, `modVal`, `alloc`, `giveUp`.
-/
namespace Cactus
open State

namespace State

structure Same (s t : State) : Prop where
  stack : t.stack = s.stack
  vals : t.vals = s.vals
  hv : hv t.heap = hv s.heap

namespace Same

theorem refl (s : State) : s.Same s := ⟨rfl, rfl, rfl⟩
theorem trans {a b c : State} (h1 : a.Same b) (h2 : b.Same c) : a.Same c :=
  ⟨h2.stack.trans h1.stack, h2.vals.trans h1.vals, h2.hv.trans h1.hv⟩

theorem heapW {s t : State} (h : s.Same t) : heapW t.heap = Cactus.heapW s.heap := heapW_of_hv h.hv
theorem work {s t : State} (h : s.Same t) : t.work = s.work := by
  unfold State.work; rw [h.stack, h.vals, h.heapW]

theorem work_le {s t : State} (h : s.Same t) (d : Nat) : t.work ≤ s.work + d := by
  rw [h.work]; exact Nat.le_add_right _ _

theorem of_eq {s t : State} (hs : t.stack = s.stack) (hv : t.vals = s.vals) (hh : t.heap = s.heap) :
    s.Same t := ⟨hs, hv, by rw [hh]⟩

theorem fail (s : State) (e : Err) : s.Same (s.fail e) := of_eq (fail_stack s e) (fail_vals s e) (fail_heap s e)
theorem emit (s : State) (e : Ev) : s.Same (s.emit e) := of_eq rfl rfl rfl

theorem setObj {s : State} {o : Nat} {ob : Obj} (ob' : Obj) (hc : s.cell o = some ob)
    (hval : ob'.value = ob.value) : s.Same (s.setObj o ob') :=
  ⟨rfl, rfl, hv_set_same (cell_some_get s o ob hc).1 hval⟩

theorem setLinks (s : State) (o : Nat) (f : Table → Table) : s.Same (s.setLinks o f) := by
  rcases setLinks_cases s o f with ⟨e, h⟩ | ⟨ob, t, hc, -, h⟩ <;> rw [h]
  · exact fail s e
  · exact setObj _ hc rfl

theorem incStrong (s : State) (o : Nat) : s.Same (s.incStrong o) := by
  rcases incStrong_cases s o with ⟨e, h⟩ | ⟨ob, n, hc, -, h⟩ <;> rw [h]
  · exact fail s e
  · exact setObj _ hc rfl

theorem incWeak (s : State) (o : Nat) : s.Same (s.incWeak o) := by
  rcases incWeak_cases s o with ⟨e, h⟩ | ⟨ob, hc, -, h⟩ <;> rw [h]
  · exact fail s e
  · exact setObj _ hc rfl

theorem decWeakFree (s : State) (o : Nat) (imp : Bool) : s.Same (s.decWeakFree o imp) := by
  rcases decWeakFree_cases s o imp with ⟨e, h⟩ | ⟨ob, hc, -, h⟩ | ⟨ob, w, hc, -, h⟩ <;> rw [h]
  · exact fail s e
  · refine .trans (setObj _ hc ?_) (emit _ _)
    rfl
  · exact setObj _ hc rfl

theorem adopt (s : State) (a b : Nat) (same : Bool) : s.Same (s.adopt a b same) :=
  adopt_rel (R := Same) trans setLinks s a b same

theorem unadopt (s : State) (a b : Nat) (same : Bool) : s.Same (s.unadopt a b same) :=
  unadopt_rel (R := Same) trans (fun s o f _ => setLinks s o f) s a b same

theorem purgePeers (s : State) (x : Nat) : s.Same (s.purgePeers x) :=
  purgePeers_rel refl trans (fun s o f _ => setLinks s o f) (fun s e _ => fail s e) s x

theorem finishSingle (s : State) (o : Nat) : s.Same (s.finishSingle o) := by
  unfold State.finishSingle
  split
  · split
    · exact (setObj _ ‹_› (by rfl)).trans (decWeakFree _ _ _)
    · exact fail _ _
  · exact fail _ _

theorem phase1One (keys : List Nat) (s : State) (e : Nat × Nat) : s.Same (State.phase1One keys s e) := by
  unfold State.phase1One
  split
  · split
    · exact setObj _ ‹_› (by rfl)
    · exact fail _ _
    · exact fail _ _
  · exact fail _ _

theorem phase3One (s : State) (k : Nat) : s.Same (s.phase3One k) := by
  unfold State.phase3One
  split
  · split
    · exact decWeakFree _ _ _
    · exact refl s
  · exact fail _ _

theorem weakDrop (s : State) (o : Nat) : s.Same (s.weakDrop o) := decWeakFree _ _ _

theorem cloneHandles (s : State) (v : Val) : s.Same (s.cloneHandles v) :=
  cloneHandles_rel refl trans incStrong incWeak s v

theorem badRoot (s : State) (r : Nat) : s.Same (s.badRoot r) := by
  rcases badRoot_cases s r with h | ⟨e, h⟩ <;> rw [h]
  · exact refl s
  · exact fail s e

theorem of_prim {a : Act} {t u : State} (hm : ¬ a.movesValue) (he : ¬ a.editsValue) (p : Prim a t u) :
    t.Same u := by
  cases p with
  | fail e => exact fail _ e
  | ret => exact emit _ _
  | incStrong => exact incStrong _ _
  | incWeak => exact incWeak _ _
  | setLinks => exact setLinks _ _ _
  | handles => exact of_eq rfl rfl rfl
  | modVal _ _ _ h => exact absurd h he
  | valsPush _ h => exact absurd h hm
  | valsErase _ h => exact absurd h hm
  | nextVid _ h => exact absurd h hm
  | alloc _ h => exact absurd h hm
  | giveUp _ h => exact absurd h hm

end Same
end State

section simps
variable (s : State)

@[simp] theorem tw_emit_stack (e : Ev) : stackW (s.emit e).stack = stackW s.stack := rfl
@[simp] theorem tw_emit_vals (e : Ev) : valsW (s.emit e).vals = valsW s.vals := rfl
@[simp] theorem tw_emit_heap (e : Ev) : heapW (s.emit e).heap = heapW s.heap := rfl
@[simp] theorem tw_push_stack (fs : List Frame) : stackW (s.push fs).stack = stackW fs + stackW s.stack := by
  simp [push_stack]
@[simp] theorem tw_push_vals (fs : List Frame) : valsW (s.push fs).vals = valsW s.vals := rfl
@[simp] theorem tw_push_heap (fs : List Frame) : heapW (s.push fs).heap = heapW s.heap := rfl
@[simp] theorem tw_alloc_stack (v : Val) : stackW (s.alloc v).stack = stackW s.stack := rfl
@[simp] theorem tw_alloc_vals (v : Val) : valsW (s.alloc v).vals = valsW s.vals := rfl
@[simp] theorem tw_alloc_heap (v : Val) : heapW (s.alloc v).heap = heapW s.heap + (v.cost + 3) :=
  heapW_append s.heap [Obj.fresh v]

end simps

theorem push_work (s : State) (fs : List Frame) : (s.push fs).work = stackW fs + s.work := by
  simp only [State.work, tw_push_stack, tw_push_vals, tw_push_heap, Nat.add_assoc]

theorem emit_work (s : State) (e : Ev) : (s.emit e).work = s.work := rfl

theorem alloc_work (s : State) (v : Val) : (s.alloc v).work = s.work + (v.cost + 3) := by
  simp only [State.work, tw_alloc_stack, tw_alloc_vals, tw_alloc_heap]; omega

theorem heapW_set_none {h : List Obj} {o : Nat} {ob : Obj} {v : Val} (ob' : Obj) (hg : h[o]? = some ob)
    (hv : ob.value = some v) (hn : ob'.value = none) : heapW (h.set o ob') + (v.cost + 3) = heapW h := by
  have h := heapW_set ob' hg
  rw [hv, hn] at h
  exact h

/-- the zero-count path: the value leaves the heap (`cost + 3`) and becomes a `dropVal` frame
(`cost + 1`) followed by `finishSingle` (1) -/
theorem beginSingle_work (s : State) (o : Nat) : (s.beginSingle o).work ≤ s.work := by
  rcases State.beginSingle_cases s o with ⟨e, h⟩ | h | ⟨ob, v, hc, hv, h⟩ <;> rw [h]
  · exact Nat.le_of_eq (Same.fail s e).work
  · exact Nat.le_of_eq (Same.decWeakFree s o true).work
  · have h := heapW_set_none { ob with strong := .uninit, value := none } (cell_some_get s o ob hc).1 hv rfl
    rw [push_work]
    simp only [State.work, stackW_cons, stackW_nil, Frame.work, State.setObj]
    omega

def Phase2Same (a b : State × List Val) : Prop :=
  b.1.stack = a.1.stack ∧ b.1.vals = a.1.vals ∧
    heapW b.1.heap + valsW b.2 + 2 * b.2.length = heapW a.1.heap + valsW a.2 + 2 * a.2.length

theorem phase2One_work (acc : State × List Val) (k : Nat) : Phase2Same acc (State.phase2One acc k) := by
  unfold State.phase2One
  split
  · rename_i ob hc
    split
    · split
      · rename_i v hv
        have h := heapW_set_none { ob with strong := .uninit, value := none, links := none }
          (cell_some_get acc.1 k ob hc).1 hv rfl
        refine ⟨rfl, rfl, ?_⟩
        simp only [State.setObj, valsW_append, valsW_cons, valsW_nil, List.length_append,
          List.length_cons, List.length_nil]
        omega
      · exact ⟨fail_stack _ _, fail_vals _ _, by rw [(Same.fail _ _).heapW]⟩
    · exact ⟨rfl, rfl, rfl⟩
  · exact ⟨fail_stack _ _, fail_vals _ _, by rw [(Same.fail _ _).heapW]⟩

/-- a collection: the dead members' values become `dropVal` frames, one `phase3` frame is pushed -/
theorem dropCycle_work (s : State) (c : CMap) : (s.dropCycle c).work ≤ s.work + 1 := by
  have h1 := foldl_lift Same.refl Same.trans (Same.phase1One c.keys) c s
  obtain ⟨a1, a2, a3⟩ := foldl_lift (fun _ => ⟨rfl, rfl, rfl⟩)
    (fun ⟨a1, a2, a3⟩ ⟨b1, b2, b3⟩ => ⟨b1.trans a1, b2.trans a2, b3.trans a3⟩) phase2One_work c.keys
    (c.foldl (State.phase1One c.keys) s, [])
  have hp := valsW_perm (reorder_perm s.hint (c.keys.foldl State.phase2One (c.foldl (State.phase1One c.keys) s, [])).2)
  unfold State.dropCycle
  rw [push_work]
  simp only [State.work, stackW_append, stackW_map_dropVal, stackW_cons, stackW_nil, Frame.work]
  rw [hp, a1, a2, h1.stack, h1.vals]
  have := h1.heapW
  simp only [valsW_nil, List.length_nil] at a3
  omega

theorem traceBranch_work (s : State) (o : Nat) : (s.traceBranch o).work ≤ s.work + 1 := by
  rcases State.traceBranch_cases s o with ⟨e, h⟩ | h | h <;> rw [h]
  · exact (Same.fail _ e).work_le 1
  · exact Nat.le_succ _
  · exact dropCycle_work _ _

/-- `Rc::drop`: the work grows by one at most (so the popped `rcDrop` frame, weight 2, pays) -/
theorem rcDrop_work (s : State) (o : Nat) : (s.rcDrop o).work ≤ s.work + 1 := by
  rcases State.rcDrop_cases s o with ⟨e, h⟩ | h | ⟨ob, n, t, hc, -, -, h⟩
  · rw [h]; exact (Same.fail s e).work_le 1
  · rw [h]; exact Nat.le_succ _
  · have h1 := Same.setObj { ob with strong := .cnt n } hc rfl
    rcases h with ⟨-, -, h⟩ | ⟨-, -, h⟩ | ⟨-, -, h⟩ | ⟨-, -, h⟩ <;> rw [h]
    · exact h1.work_le 1
    · exact Nat.le_trans (beginSingle_work _ o) (h1.work_le 1)
    · exact Nat.le_trans (beginSingle_work _ o) ((h1.trans (Same.purgePeers _ o)).work_le 1)
    · exact Nat.le_trans (traceBranch_work _ o) (Nat.add_le_add_right (Nat.le_of_eq h1.work) 1)

/-- entering a destructor: the `dropVal` frame (popped by the caller) is worth one more than what
it pushes -/
theorem dropVal_work (s : State) (v : Val) : (s.dropVal v).work ≤ s.work + v.cost := by
  unfold State.dropVal
  rw [push_work, emit_work]
  split <;> simp only [stackW_append, stackW_cons, stackW_nil, Frame.work, Val.cost] <;> omega

theorem panic_work (s : State) : s.panic.work ≤ s.work := by
  unfold State.panic
  split
  · exact Nat.le_of_eq (Same.fail s _).work
  · exact Nat.add_le_add_right (Nat.add_le_add_right (stackW_filter_le _ _) _) _

theorem dropFields_work (s : State) (h w : List Nat) :
    (s.dropFields h w).work ≤ s.work + 3 * h.length + 2 * w.length := by
  unfold State.dropFields
  split
  · rw [push_work]; simp only [stackW_cons, stackW_nil, Frame.work, List.length_cons]; omega
  · rw [push_work]; simp only [stackW_cons, stackW_nil, Frame.work, List.length_cons, List.length_nil]; omega
  · exact Nat.le_add_right _ _

theorem modVal_work_le (s : State) (o : Nat) (f : Val → Val) (d : Nat) (hf : ∀ v, (f v).cost ≤ v.cost + d) :
    (s.modVal o f).work ≤ s.work + d := by
  rcases modVal_cases s o f with ⟨e, he⟩ | ⟨ob, v, hc, hv, he⟩ <;> rw [he]
  · exact (Same.fail s e).work_le d
  · have h := heapW_set { ob with value := some (f v) } (cell_some_get s o ob hc).1
    rw [hv] at h
    have := hf v
    simp only [optW_some] at h
    simp only [State.work, State.setObj]
    omega

theorem giveUp_work (s : State) (o : Nat) (ob : Obj) (hg : s.heap[o]? = some ob) :
    (s.giveUp o).err ≠ none ∨ (s.giveUp o).work + optW ob.value = s.work := by
  have hp := Same.purgePeers s o
  unfold State.giveUp
  split
  · rename_i ob' hc'
    have hg' := (cell_some_get _ o ob' hc').1
    -- purging the peers has not touched the value
    have hv' : ob'.value = ob.value := by
      have h1 : (hv (s.purgePeers o).heap)[o]? = (hv s.heap)[o]? := by rw [hp.hv]
      simp only [hv, List.getElem?_map, hg', hg, Option.map_some] at h1
      exact Option.some.inj h1
    have h := heapW_set { ob' with strong := .cnt 0, value := none, links := none } hg'
    rw [hv'] at h
    right
    rw [(Same.decWeakFree _ o true).work, ← hp.work]
    simp only [optW_none] at h
    simp only [State.work, State.setObj]
    omega
  · left
    have := fail_err_isSome (s.purgePeers o) (.uaf o)
    intro h; rw [h] at this; cases this

end Cactus
