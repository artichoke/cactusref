import Cactus.Lemmas.Termination.Acts
/-!
# Every machine step decreases `State.work`

…except the step that executes a `makeMut` action of a destructor script (`step_work_lt`: the state
is only assumed to be running, i.e. without error and with a non-empty stack).  `State.NoMM`: no destructor script anywhere in the state
(running, pending, in the heap, among the unwrapped values) contains `makeMut`; it is preserved by
every step (`step_scriptsQ`) and excludes that case (`step_work_lt_of_noMM`).
-/
namespace Cactus
open State

def Act.notMakeMut (a : Act) : Prop := a.isMakeMut = false

instance : DecidablePred Act.notMakeMut := fun a => inferInstanceAs (Decidable (a.isMakeMut = false))

/-- no destructor script in the state contains `makeMut` -/
abbrev State.NoMM (s : State) : Prop := s.ScriptsQ Act.notMakeMut

theorem Frame.work_pos (f : Frame) : 0 < f.work := by
  cases f with
  | script _ _ acts => exact Nat.add_pos_left Nat.one_pos _
  | dropFields h w => exact Nat.add_pos_left (Nat.add_pos_left Nat.one_pos _) _
  | _ => exact Nat.succ_pos _

theorem work_of_stack {s : State} {f : Frame} {rest : List Frame} (hst : s.stack = f :: rest) :
    s.work = f.work + ({ s with stack := rest } : State).work := by
  simp only [State.work, hst, stackW_cons]; omega

theorem work_pos_of_stack {s : State} (hst : s.stack ≠ []) : 0 < s.work := by
  cases h : s.stack with
  | nil => exact absurd h hst
  | cons f rest => rw [work_of_stack h]; exact Nat.add_pos_left f.work_pos _

/-- **the measure decreases**: one machine step from a running state either raises an error or
strictly decreases `work`, unless it executes a `makeMut` action of a destructor script -/
theorem step_work_lt (s : State) (he : s.err = none) (hst : s.stack ≠ [])
    (hmm : ∀ h w r as rest, s.stack ≠ .script h w (.makeMut r :: as) :: rest) :
    (step s).err ≠ none ∨ (step s).work < s.work := by
  cases hs : s.stack with
  | nil => exact absurd hs hst
  | cons f rest =>
    rw [step_eq_frame he hs, work_of_stack hs, Nat.add_comm f.work]
    cases f with
    | rcDrop o => exact .inr (Nat.lt_succ_of_le (rcDrop_work _ o))
    | weakDrop o => exact .inr (Nat.lt_succ_of_le ((Same.weakDrop _ o).work_le 0))
    | dropVal v => exact .inr (Nat.lt_succ_of_le (dropVal_work _ v))
    | script h w acts =>
      cases acts with
      | nil => exact .inr (Nat.lt_succ_self _)
      | cons a as =>
        have ha : a.isMakeMut = false := by
          cases a <;> first | rfl | exact absurd hs (hmm _ _ _ _ _)
        have hp : (({ s with stack := rest } : State).push [.script h w as]).work
            = ({ s with stack := rest } : State).work + (1 + 7 * as.length) :=
          (push_work _ _).trans (Nat.add_comm _ _)
        rcases applyAct_work (({ s with stack := rest } : State).push [.script h w as]) h w a ha with h1 | h1
        · left; exact h1
        · right; simp only [Frame.work, List.length_cons]; omega
    | panic => exact .inr (Nat.lt_succ_of_le (panic_work _))
    | dropFields h w =>
      have := dropFields_work ({ s with stack := rest } : State) h w
      right; simp only [Frame.work]; omega
    | finishSingle o => exact .inr (Nat.lt_succ_of_le ((Same.finishSingle _ o).work_le 0))
    | phase3 ks =>
      exact .inr (Nat.lt_succ_of_le ((foldl_lift Same.refl Same.trans Same.phase3One ks _).work_le 0))

theorem step_work_lt_of_noMM (s : State) (hq : s.NoMM) (he : s.err = none) (hst : s.stack ≠ []) :
    (step s).err ≠ none ∨ (step s).work < s.work := by
  refine step_work_lt s he hst ?_
  intro h w r as rest hs
  have := hq.1 (.script h w (.makeMut r :: as)) (by rw [hs]; exact List.mem_cons_self)
  cases this (.makeMut r) List.mem_cons_self

theorem step_noMM (s : State) (hq : s.NoMM) : (step s).NoMM := step_scriptsQ s hq

theorem runSteps_noMM (k : Nat) (s : State) (hq : s.NoMM) : (runSteps k s).NoMM := by
  induction k generalizing s with
  | zero => exact hq
  | succ k ih => exact ih _ (step_noMM s hq)

end Cactus
