import Cactus.Lemmas.NoRevive
import Cactus.Lemmas.Trace
/-!
# No machine step raises the `fuel` error

The only place inside `step` that can set `err := some .fuel` is the trace of `Rc::drop` running
out of its own budget, and `cycleRefs_fuel` says it never does.  So `.fuel` comes from `drain`
alone: `step_err_fuel`, `applyOp_err_fuel`.
-/
namespace Cactus
open State

def NFE (e0 e : Option Err) : Prop := e = some .fuel → e0 = some .fuel

def State.NF (s t : State) : Prop := NFE s.err t.err

namespace NFE
variable {x : Option Err}

theorem refl (x : Option Err) : NFE x x := id
theorem trans {a b c : Option Err} (h1 : NFE a b) (h2 : NFE b c) : NFE a c := fun h => h1 (h2 h)

theorem fail (t : State) (e : Err) (he : e ≠ .fuel) (a : NFE x t.err) : NFE x (t.fail e).err := by
  intro h
  apply a
  cases ht : t.err with
  | none => rw [fail_err_of_none t e ht] at h; cases h; exact absurd rfl he
  | some e0 => rw [fail_err_of_some t e e0 ht] at h; exact h

theorem setObj (t : State) (o : Nat) (ob : Obj) (a : NFE x t.err) : NFE x (t.setObj o ob).err := a

end NFE

namespace State
namespace NF

theorem refl (s : State) : s.NF s := NFE.refl _
theorem trans {a b c : State} (h1 : a.NF b) (h2 : b.NF c) : a.NF c := NFE.trans h1 h2
theorem of_eq {s t : State} (h : t.err = s.err) : s.NF t := by unfold NF; rw [h]; exact NFE.refl _

theorem fail (s : State) (e : Err) (he : e ≠ .fuel) : s.NF (s.fail e) := NFE.fail s e he (NFE.refl _)

theorem setLinks (s : State) (o : Nat) (f : Table → Table) : s.NF (s.setLinks o f) := by
  unfold State.setLinks
  split
  · split
    · exact refl _
    · exact fail _ _ nofun
  · exact fail _ _ nofun

theorem incStrong (s : State) (o : Nat) : s.NF (s.incStrong o) := by
  unfold State.incStrong
  split
  · split
    · exact refl _
    · exact fail _ _ nofun
  · exact fail _ _ nofun

theorem incWeak (s : State) (o : Nat) : s.NF (s.incWeak o) := by
  unfold State.incWeak
  split
  · split
    · exact fail _ _ nofun
    · exact refl _
  · exact fail _ _ nofun

theorem decWeakFree (s : State) (o : Nat) (imp : Bool) : s.NF (s.decWeakFree o imp) := by
  unfold State.decWeakFree
  split
  · split
    · exact fail _ _ nofun
    · exact refl _
    · exact refl _
  · exact fail _ _ nofun

theorem unadopt (s : State) (a b : Nat) (same : Bool) : s.NF (s.unadopt a b same) :=
  unadopt_rel (R := NF) trans (fun s o f _ => setLinks s o f) s a b same

theorem purgePeers (s : State) (x : Nat) : s.NF (s.purgePeers x) :=
  purgePeers_rel refl trans (fun s o f _ => setLinks s o f) fail s x

theorem beginSingle (s : State) (o : Nat) : s.NF (s.beginSingle o) := by
  unfold State.beginSingle
  split
  · split
    · exact decWeakFree _ _ _
    · split
      · exact refl _
      · exact fail _ _ nofun
  · exact fail _ _ nofun

theorem finishSingle (s : State) (o : Nat) : s.NF (s.finishSingle o) := by
  unfold State.finishSingle
  split
  · split
    · exact decWeakFree _ _ _
    · exact fail _ _ nofun
  · exact fail _ _ nofun

theorem phase1One (keys : List Nat) (s : State) (e : Nat × Nat) : s.NF (State.phase1One keys s e) := by
  unfold State.phase1One
  split
  · split
    · exact refl _
    · exact fail _ _ nofun
    · exact fail _ _ nofun
  · exact fail _ _ nofun

theorem phase2One (acc : State × List Val) (k : Nat) : acc.1.NF (State.phase2One acc k).1 := by
  unfold State.phase2One
  split
  · split
    · split
      · exact refl _
      · exact fail _ _ nofun
    · exact refl _
  · exact fail _ _ nofun

theorem phase3One (s : State) (k : Nat) : s.NF (s.phase3One k) := by
  unfold State.phase3One
  split
  · split
    · exact decWeakFree _ _ _
    · exact refl s
  · exact fail _ _ nofun

theorem dropCycle (s : State) (c : CMap) : s.NF (s.dropCycle c) := by
  unfold State.dropCycle
  exact NFE.trans (foldl_lift refl trans (phase1One c.keys) c s)
    (foldl_lift (Q := fun a b : State × List Val => a.1.NF b.1) (fun a => refl a.1) trans phase2One c.keys (_, []))

/-- the trace never runs out of its budget (`cycleRefs_fuel`), so its `fuel` branch is dead -/
theorem traceBranch (s : State) (o : Nat) : s.NF (s.traceBranch o) := by
  unfold State.traceBranch
  dsimp only
  split
  · exact fail (s.emit _) _ (linksErr_ne_fuel _ _)
  · split
    · rename_i hf
      rw [cycleRefs_fuel] at hf
      cases hf
    · split
      · exact refl s
      · split
        · exact fail (s.emit _) _ nofun
        · split
          · exact refl s
          · exact dropCycle (s.emit _) _

theorem rcDrop (s : State) (o : Nat) : s.NF (s.rcDrop o) := by
  unfold State.rcDrop
  split
  · exact fail _ _ nofun
  · rename_i ob _
    split
    · exact refl s
    · exact refl s
    · rename_i n _
      split
      · exact fail _ _ nofun
      · rename_i t _
        -- the decrement leaves the error cell alone
        refine (of_eq rfl : s.NF (s.setObj o { ob with strong := .cnt n })).trans ?_
        cases t.isEmpty <;> cases n
        · exact (purgePeers _ _).trans (beginSingle _ _)
        · exact traceBranch _ o
        · exact beginSingle _ _
        · exact refl _

theorem dropVal (s : State) (v : Val) : s.NF (s.dropVal v) := of_eq rfl

theorem panic (s : State) : s.NF s.panic := by
  unfold State.panic
  split
  · exact fail _ _ nofun
  · exact of_eq rfl

theorem dropFields (s : State) (hs ws : List Nat) : s.NF (s.dropFields hs ws) := by
  unfold State.dropFields
  split <;> exact of_eq rfl

theorem weakDrop (s : State) (o : Nat) : s.NF (s.weakDrop o) := decWeakFree _ _ _

theorem modVal (s : State) (o : Nat) (f : Val → Val) : s.NF (s.modVal o f) := by
  unfold State.modVal
  split
  · split
    · exact refl _
    · exact fail _ _ nofun
  · exact fail _ _ nofun

theorem giveUp (s : State) (o : Nat) : s.NF (s.giveUp o) := by
  unfold State.giveUp
  split
  · exact NFE.trans (purgePeers s o) (decWeakFree _ _ _)
  · exact (purgePeers s o).trans (fail _ _ nofun)

theorem badRoot (s : State) (r : Nat) : s.NF (s.badRoot r) := by
  unfold State.badRoot
  split
  · split
    · exact refl s
    · exact fail _ _ nofun
  · exact refl s

end NF
end State

namespace NFE
variable {x : Option Err}

theorem incStrong (t : State) (o : Nat) (a : NFE x t.err) : NFE x (t.incStrong o).err := a.trans (NF.incStrong t o)
theorem unadopt (t : State) (p q : Nat) (b : Bool) (a : NFE x t.err) : NFE x (t.unadopt p q b).err :=
  a.trans (NF.unadopt t p q b)
theorem giveUp (t : State) (o : Nat) (a : NFE x t.err) : NFE x (t.giveUp o).err := a.trans (NF.giveUp t o)

end NFE

namespace State
namespace NF

theorem of_prim {a : Act} {t u : State} (p : Prim a t u) : t.NF u := by
  cases p with
  | fail e he => exact fail _ e he
  | incStrong => exact incStrong _ _
  | incWeak => exact incWeak _ _
  | setLinks => exact setLinks _ _ _
  | modVal => exact modVal _ _ _
  | giveUp => exact giveUp _ _
  | _ => exact of_eq rfl

/-- no action fails with `fuel` (`Prim.fail`) -/
theorem applyAct (s : State) (fh fw : List Nat) (a : Act) : s.NF (Cactus.applyAct s fh fw a) :=
  (applyAct_shape s fh fw a).lift refl trans of_prim (fun _ _ _ _ => of_eq rfl)

theorem applyOp (s : State) (op : Op) : s.NF (Cactus.applyOp s op) := by
  cases op with
  | act a => exact applyAct s [] [] a
  | setScript q acts =>
    simp only [Cactus.applyOp]
    split
    · exact modVal _ _ _
    · exact badRoot _ _
  | shuffle q i =>
    simp only [Cactus.applyOp]
    split
    · exact setLinks _ _ _
    · exact badRoot _ _

theorem step (s : State) : s.NF (Cactus.step s) := by
  unfold Cactus.step
  split
  · exact refl s
  · split
    · exact refl s
    · rename_i f rest _
      have h0 : s.NF { s with stack := rest } := of_eq rfl
      cases f with
      | rcDrop o => exact h0.trans (rcDrop _ o)
      | weakDrop o => exact h0.trans (weakDrop _ o)
      | dropVal v => exact h0.trans (dropVal _ v)
      | script hs ws acts =>
        cases acts with
        | nil => exact h0
        | cons a as => exact (h0.trans (of_eq rfl)).trans (applyAct _ hs ws a)
      | panic => exact h0.trans (panic _)
      | dropFields hs ws => exact h0.trans (dropFields _ hs ws)
      | finishSingle o => exact h0.trans (finishSingle _ o)
      | phase3 ks => exact h0.trans (foldl_lift refl trans phase3One ks _)

end NF
end State

/-- **no machine step raises the `fuel` error** -/
theorem step_err_fuel (s : State) (h : (step s).err = some .fuel) : s.err = some .fuel :=
  State.NF.step s h

theorem applyOp_err_fuel (s : State) (op : Op) (h : (applyOp s op).err = some .fuel) : s.err = some .fuel :=
  State.NF.applyOp s op h

end Cactus
