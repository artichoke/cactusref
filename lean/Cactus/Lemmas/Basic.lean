import Cactus.Model.Step
/-!
# Frame lemmas for the state primitives

Every model function is written through `fail`, `emit`, `push`, `setObj`; these lemmas say which
fields each of them leaves alone.  `foldl_lift`, `foldl_pres` and the `_rel` lemmas carry a relation or
predicate on states across the loops of the model.
-/
namespace Cactus

theorem foldl_lift {σ α : Type} {Q : σ → σ → Prop} (hr : ∀ s, Q s s) (ht : ∀ {s t u}, Q s t → Q t u → Q s u)
    {f : σ → α → σ} (h : ∀ s a, Q s (f s a)) (l : List α) (s : σ) : Q s (l.foldl f s) := by
  induction l generalizing s with
  | nil => exact hr s
  | cons a l ih => exact ht (h s a) (ih _)

theorem foldl_pres {α β : Type} {I : β → Prop} (f : β → α → β) (hf : ∀ b a, I b → I (f b a))
    (l : List α) {b : β} (h : I b) : I (l.foldl f b) :=
  foldl_lift (Q := fun b c => I b → I c) (fun _ h => h) (fun h1 h2 h => h2 (h1 h)) hf l b h

theorem linksErr_ne_fuel (s : State) (o : Nat) : s.linksErr o ≠ .fuel := by
  unfold State.linksErr; split <;> nofun

namespace State

theorem fail_eq (s : State) (e : Err) : s.fail e = { s with err := some (s.err.getD e) } := by
  unfold fail
  cases h : s.err with
  | none => rfl
  | some e0 => cases s; cases h; rfl

@[simp] theorem fail_log (s : State) (e : Err) : (s.fail e).log = s.log := by
  rw [fail_eq]
@[simp] theorem fail_heap (s : State) (e : Err) : (s.fail e).heap = s.heap := by
  rw [fail_eq]
@[simp] theorem fail_roots (s : State) (e : Err) : (s.fail e).roots = s.roots := by
  rw [fail_eq]
@[simp] theorem fail_wroots (s : State) (e : Err) : (s.fail e).wroots = s.wroots := by
  rw [fail_eq]
@[simp] theorem fail_vals (s : State) (e : Err) : (s.fail e).vals = s.vals := by
  rw [fail_eq]
@[simp] theorem fail_raws (s : State) (e : Err) : (s.fail e).raws = s.raws := by
  rw [fail_eq]
@[simp] theorem fail_stack (s : State) (e : Err) : (s.fail e).stack = s.stack := by
  rw [fail_eq]
@[simp] theorem fail_unwinding (s : State) (e : Err) : (s.fail e).unwinding = s.unwinding := by
  rw [fail_eq]
theorem fail_err_isSome (s : State) (e : Err) : (s.fail e).err.isSome = true := by
  rw [fail_eq]; rfl
theorem fail_err_of_none (s : State) (e : Err) (h : s.err = none) : (s.fail e).err = some e := by
  rw [fail_eq, h]; rfl
theorem fail_err_of_some (s : State) (e : Err) (e0 : Err) (h : s.err = some e0) : (s.fail e).err = some e0 := by
  rw [fail_eq, h]; rfl

@[simp] theorem emit_heap (s : State) (e : Ev) : (s.emit e).heap = s.heap := rfl
@[simp] theorem emit_err (s : State) (e : Ev) : (s.emit e).err = s.err := rfl
@[simp] theorem emit_roots (s : State) (e : Ev) : (s.emit e).roots = s.roots := rfl
@[simp] theorem emit_stack (s : State) (e : Ev) : (s.emit e).stack = s.stack := rfl
@[simp] theorem emit_log (s : State) (e : Ev) : (s.emit e).log = s.log ++ [e] := rfl

@[simp] theorem push_heap (s : State) (fs : List Frame) : (s.push fs).heap = s.heap := rfl
@[simp] theorem push_err (s : State) (fs : List Frame) : (s.push fs).err = s.err := rfl
@[simp] theorem push_log (s : State) (fs : List Frame) : (s.push fs).log = s.log := rfl
@[simp] theorem push_roots (s : State) (fs : List Frame) : (s.push fs).roots = s.roots := rfl
@[simp] theorem push_stack (s : State) (fs : List Frame) : (s.push fs).stack = fs ++ s.stack := rfl

@[simp] theorem setObj_err (s : State) (o : Nat) (ob : Obj) : (s.setObj o ob).err = s.err := rfl
@[simp] theorem setObj_log (s : State) (o : Nat) (ob : Obj) : (s.setObj o ob).log = s.log := rfl
@[simp] theorem setObj_roots (s : State) (o : Nat) (ob : Obj) : (s.setObj o ob).roots = s.roots := rfl
@[simp] theorem setObj_stack (s : State) (o : Nat) (ob : Obj) : (s.setObj o ob).stack = s.stack := rfl
@[simp] theorem setObj_heap_length (s : State) (o : Nat) (ob : Obj) :
    (s.setObj o ob).heap.length = s.heap.length := by simp [setObj]
theorem setObj_get_same (s : State) (o : Nat) (ob : Obj) (h : o < s.heap.length) :
    (s.setObj o ob).heap[o]? = some ob := by simp [setObj, h]
theorem setObj_get_other (s : State) (o o' : Nat) (ob : Obj) (h : o ≠ o') :
    (s.setObj o ob).heap[o']? = s.heap[o']? := by simp [setObj, List.getElem?_set_ne h]

theorem cell_some_lt (s : State) (o : Nat) (ob : Obj) (h : s.cell o = some ob) : o < s.heap.length := by
  unfold cell at h
  split at h
  · rename_i ob' hget
    exact (List.getElem?_eq_some_iff.mp hget).1
  · cases h

theorem cell_some_get (s : State) (o : Nat) (ob : Obj) (h : s.cell o = some ob) :
    s.heap[o]? = some ob ∧ ob.freed = false := by
  unfold cell at h
  split at h
  · rename_i ob' hget
    split at h
    · cases h
    · rename_i hf
      cases h
      exact ⟨hget, by simpa using hf⟩
  · cases h

theorem cell_setObj_same (s : State) (o : Nat) (ob ob' : Obj) (h : s.cell o = some ob) :
    (s.setObj o ob').cell o = if ob'.freed then none else some ob' := by
  have hlt := cell_some_lt s o ob h
  unfold cell
  rw [setObj_get_same s o ob' hlt]

theorem cell_setObj_other (s : State) (o o' : Nat) (ob' : Obj) (h : o ≠ o') :
    (s.setObj o ob').cell o' = s.cell o' := by
  unfold cell
  rw [setObj_get_other s o o' ob' h]

theorem tableOf_eq_some (s : State) (o : Nat) (t : Table) (h : s.tableOf o = some t) :
    ∃ ob, s.cell o = some ob ∧ ob.links = some t := by
  unfold tableOf at h
  split at h
  · rename_i ob hc; exact ⟨ob, hc, h⟩
  · cases h

theorem tableOf_setLinks_same (s : State) (o : Nat) (f : Table → Table) (t : Table)
    (h : s.tableOf o = some t) : (s.setLinks o f).tableOf o = some (f t) := by
  obtain ⟨ob, hc, hl⟩ := tableOf_eq_some s o t h
  unfold setLinks
  simp only [hc, hl]
  unfold tableOf
  rw [cell_setObj_same s o ob _ hc]
  simp [(cell_some_get s o ob hc).2]

theorem tableOf_setLinks_other (s : State) (o o' : Nat) (f : Table → Table) (h : o ≠ o') :
    (s.setLinks o f).tableOf o' = s.tableOf o' := by
  have hf : ∀ e, (s.fail e).tableOf o' = s.tableOf o' := fun e => by unfold tableOf cell; rw [fail_heap]
  unfold setLinks
  split
  · split
    · unfold tableOf; rw [cell_setObj_other _ _ _ _ h]
    · exact hf _
  · exact hf _

theorem setLinks_err_of_some (s : State) (o : Nat) (f : Table → Table) (t : Table)
    (h : s.tableOf o = some t) : (s.setLinks o f).err = s.err := by
  obtain ⟨ob, hc, hl⟩ := tableOf_eq_some s o t h
  unfold setLinks
  simp [hc, hl]

@[simp] theorem decWeakFree_stack (s : State) (o : Nat) : (s.decWeakFree o).stack = s.stack := by
  unfold decWeakFree; split <;> (try split) <;> simp [emit]

theorem cloneHandles_rel {R : State → State → Prop} (hr : ∀ s, R s s)
    (ht : ∀ {s t u}, R s t → R t u → R s u) (hs : ∀ s o, R s (s.incStrong o))
    (hw : ∀ s o, R s (s.incWeak o)) (s : State) (v : Val) : R s (s.cloneHandles v) :=
  ht (foldl_lift hr ht hs v.held s) (foldl_lift hr ht hw v.weaks _)

theorem foldl_incStrong_invariant {α : Sort _} (g : State → α) (hg : ∀ s o, g (s.incStrong o) = g s)
    (l : List Nat) (s : State) : g (l.foldl incStrong s) = g s :=
  foldl_lift (Q := fun s s' => g s' = g s) (fun _ => rfl) (fun h1 h2 => h2.trans h1) hg l s

theorem cloneHandles_invariant {α : Sort _} (g : State → α) (hg : ∀ s o, g (s.incStrong o) = g s)
    (hg' : ∀ s o, g (s.incWeak o) = g s) (s : State) (v : Val) : g (s.cloneHandles v) = g s :=
  cloneHandles_rel (R := fun s s' => g s' = g s) (fun _ => rfl) (fun h1 h2 => h2.trans h1) hg hg' s v

theorem adopt_rel {R : State → State → Prop} (ht : ∀ {s t u}, R s t → R t u → R s u)
    (hl : ∀ s o f, R s (s.setLinks o f)) (s : State) (a b : Nat) (same : Bool) : R s (s.adopt a b same) := by
  cases same
  · exact ht (hl _ _ _) (hl _ _ _)
  · exact hl _ _ _

theorem unadopt_rel {R : State → State → Prop} (ht : ∀ {s t u}, R s t → R t u → R s u)
    (hl : ∀ s o f, f [] = [] → R s (s.setLinks o f)) (s : State) (a b : Nat) (same : Bool) :
    R s (s.unadopt a b same) := by
  cases same
  · exact ht (hl _ _ _ rfl) (hl _ _ _ rfl)
  · exact hl _ _ _ rfl

end State
end Cactus
