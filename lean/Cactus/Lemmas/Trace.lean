import Cactus.Spec.Defs
/-!
# Specification of the reachability trace (`cycleRefs`)
-/
namespace Cactus


/-- recorded adoptions of `k` in table `t`: sum over Forward entries (no distinct-keys assumption) -/
def fwdCount (t : Table) (k : Nat) : Nat := match t with
  | [] => 0
  | (l, c) :: r => (if l.kind = .fwd ∧ l.ptr = k then c else 0) + fwdCount r k

def sumOver (vis : List Nat) (g : Nat → Nat) : Nat := (vis.map g).sum

theorem sumOver_perm {l l' : List Nat} (hp : l.Perm l') (g : Nat → Nat) :
    sumOver l g = sumOver l' g :=
  (hp.map g).sum_nat

theorem sumOver_congr (l : List Nat) {g g' : Nat → Nat} (hg : ∀ n ∈ l, g n = g' n) :
    sumOver l g = sumOver l g' := by
  unfold sumOver
  rw [List.map_congr_left hg]

/-- `j` is named by a Forward or a Backward entry of table `t` -/
def named (t : Table) (j : Nat) : Prop := (∃ c, (⟨j, .fwd⟩, c) ∈ t) ∨ (∃ c, (⟨j, .bwd⟩, c) ∈ t)

/-- reachability along Forward entries of readable tables -/
inductive FwdReach (s : State) : Nat → Nat → Prop
  | refl (x : Nat) : FwdReach s x x
  | step {x n j : Nat} {c : Nat} : FwdReach s x n → (⟨j, .fwd⟩, c) ∈ s.tbl n → FwdReach s x j

theorem CMap.get_add (m : CMap) (k n j : Nat) :
    (m.add k n).get j = m.get j + (if j = k then n else 0) := by
  induction m with
  | nil => by_cases h : k = j <;> simp [CMap.add, CMap.get, h, eq_comm]
  | cons hd r ih =>
    obtain ⟨k', c⟩ := hd
    unfold CMap.add
    by_cases hk : k' = k
    · subst hk
      by_cases hj : k' = j
      · subst hj; simp [CMap.get]
      · simp [CMap.get, hj, Ne.symm hj]
    · by_cases hj : k' = j
      · subst hj; simp [CMap.get, hk]
      · simp [CMap.get, hk, hj, ih]

theorem CMap.has_add (m : CMap) (k n j : Nat) :
    (m.add k n).has j = (m.has j || decide (j = k)) := by
  induction m with
  | nil => simp [CMap.add, CMap.has, eq_comm]
  | cons hd r ih =>
    obtain ⟨k', c⟩ := hd
    unfold CMap.add
    by_cases hk : k' = k
    · subst hk
      by_cases hj : k' = j
      · subst hj; simp [CMap.has]
      · simp [CMap.has, hj, Ne.symm hj]
    · simp [CMap.has, hk, ih, Bool.or_assoc]

theorem CMap.has_iff_mem_keys (m : CMap) (j : Nat) : m.has j = true ↔ j ∈ m.keys := by
  induction m with
  | nil => simp [CMap.has, CMap.keys]
  | cons hd r ih =>
    obtain ⟨k', c⟩ := hd
    simp only [CMap.keys] at ih
    simp only [CMap.has, CMap.keys, List.map_cons, List.mem_cons, Bool.or_eq_true,
      decide_eq_true_eq, ih]
    constructor
    · rintro (h | h)
      · exact Or.inl h.symm
      · exact Or.inr h
    · rintro (h | h)
      · exact Or.inl h.symm
      · exact Or.inr h

theorem CMap.keys_add (m : CMap) (k n : Nat) :
    (m.add k n).keys = if m.has k then m.keys else m.keys ++ [k] := by
  induction m with
  | nil => simp [CMap.add, CMap.has, CMap.keys]
  | cons hd r ih =>
    obtain ⟨k', c⟩ := hd
    unfold CMap.add
    simp only [CMap.keys] at ih
    by_cases hk : k' = k
    · simp [CMap.has, CMap.keys, hk]
    · simp only [CMap.has, CMap.keys, hk, if_false, List.map_cons, ih, decide_false,
        Bool.false_or]
      split <;> simp

theorem CMap.keys_nodup_add (m : CMap) (k n : Nat) (h : m.keys.Nodup) :
    (m.add k n).keys.Nodup := by
  rw [CMap.keys_add]
  split
  · exact h
  · rename_i hk
    have : k ∉ m.keys := fun hm => hk ((CMap.has_iff_mem_keys m k).mpr hm)
    rw [List.nodup_append]
    refine ⟨h, by simp, ?_⟩
    intro a ha b hb
    simp at hb
    subst hb
    intro hab
    subst hab
    exact this ha

/-! ## one table scan -/

theorem scan_nil (acc : CMap × List Nat) : scan [] acc = acc := rfl

theorem scan_cons (e : Link × Nat) (r : Table) (acc : CMap × List Nat) :
    scan (e :: r) acc = scan r (scanStep acc e) := rfl

/-! the three components of one loop iteration -/

theorem scanStep_get (acc : CMap × List Nat) (e : Link × Nat) (j : Nat) :
    (scanStep acc e).1.get j = acc.1.get j + (if e.1.kind = .fwd ∧ e.1.ptr = j then e.2 else 0) := by
  obtain ⟨⟨p, k⟩, c⟩ := e
  cases k <;> simp [scanStep, CMap.get_add, eq_comm]

theorem scanStep_has (acc : CMap × List Nat) (e : Link × Nat) (j : Nat) :
    (scanStep acc e).1.has j = true ↔ acc.1.has j = true ∨ ((e.1.kind = .fwd ∨ e.1.kind = .bwd) ∧ j = e.1.ptr) := by
  obtain ⟨⟨p, k⟩, c⟩ := e
  cases k <;> simp [scanStep, CMap.has_add]

theorem scanStep_wl (acc : CMap × List Nat) (e : Link × Nat) :
    (scanStep acc e).2 = if e.1.kind = .fwd then e.1.ptr :: acc.2 else acc.2 := by
  unfold scanStep
  cases hk : e.1.kind <;> rfl

theorem named_cons (e : Link × Nat) (r : Table) (j : Nat) :
    named (e :: r) j ↔ ((e.1.kind = .fwd ∨ e.1.kind = .bwd) ∧ j = e.1.ptr) ∨ named r j := by
  obtain ⟨⟨p, k⟩, c⟩ := e
  unfold named
  simp only [List.mem_cons, Prod.mk.injEq, Link.mk.injEq]
  constructor
  · rintro (⟨c', ⟨⟨rfl, rfl⟩, -⟩ | h⟩ | ⟨c', ⟨⟨rfl, rfl⟩, -⟩ | h⟩)
    · exact .inl ⟨.inl rfl, rfl⟩
    · exact .inr (.inl ⟨c', h⟩)
    · exact .inl ⟨.inr rfl, rfl⟩
    · exact .inr (.inr ⟨c', h⟩)
  · rintro (⟨rfl | rfl, rfl⟩ | ⟨c', h⟩ | ⟨c', h⟩)
    · exact .inl ⟨c, .inl ⟨⟨rfl, rfl⟩, rfl⟩⟩
    · exact .inr ⟨c, .inl ⟨⟨rfl, rfl⟩, rfl⟩⟩
    · exact .inl ⟨c', .inr h⟩
    · exact .inr ⟨c', .inr h⟩

theorem exists_fwd_mem_cons (e : Link × Nat) (r : Table) (j : Nat) :
    (∃ c, (⟨j, .fwd⟩, c) ∈ e :: r) ↔ (e.1.kind = .fwd ∧ j = e.1.ptr) ∨ ∃ c, (⟨j, .fwd⟩, c) ∈ r := by
  obtain ⟨⟨p, k⟩, c⟩ := e
  simp only [List.mem_cons, Prod.mk.injEq, Link.mk.injEq]
  constructor
  · rintro ⟨c', ⟨⟨rfl, rfl⟩, -⟩ | h⟩
    · exact .inl ⟨rfl, rfl⟩
    · exact .inr ⟨c', h⟩
  · rintro (⟨rfl, rfl⟩ | ⟨c', h⟩)
    · exact ⟨c, .inl ⟨⟨rfl, rfl⟩, rfl⟩⟩
    · exact ⟨c', .inr h⟩

theorem scan_get (t : Table) (acc : CMap × List Nat) (j : Nat) :
    (scan t acc).1.get j = acc.1.get j + fwdCount t j := by
  induction t generalizing acc with
  | nil => rfl
  | cons e r ih => rw [scan_cons, ih, scanStep_get, Nat.add_assoc]; rfl

theorem scan_has (t : Table) (acc : CMap × List Nat) (j : Nat) :
    (scan t acc).1.has j = true ↔ (acc.1.has j = true ∨ named t j) := by
  induction t generalizing acc with
  | nil => exact ⟨.inl, fun h => h.elim id (fun h => h.elim (fun ⟨_, h⟩ => nomatch h) (fun ⟨_, h⟩ => nomatch h))⟩
  | cons e r ih => rw [scan_cons, ih, scanStep_has, named_cons, or_assoc]

theorem scan_wl (t : Table) (acc : CMap × List Nat) (j : Nat) :
    j ∈ (scan t acc).2 ↔ j ∈ acc.2 ∨ ∃ c, (⟨j, .fwd⟩, c) ∈ t := by
  induction t generalizing acc with
  | nil => exact ⟨.inl, fun h => h.elim id (fun ⟨_, h⟩ => nomatch h)⟩
  | cons e r ih =>
    rw [scan_cons, ih, scanStep_wl, exists_fwd_mem_cons]
    by_cases hk : e.1.kind = .fwd
    · rw [if_pos hk, List.mem_cons, or_comm (a := j = e.1.ptr), or_assoc]
      simp only [hk, true_and]
    · rw [if_neg hk]; simp only [hk, false_and, false_or]

theorem scan_keys_nodup (t : Table) (acc : CMap × List Nat) (h : acc.1.keys.Nodup) :
    (scan t acc).1.keys.Nodup := by
  induction t generalizing acc with
  | nil => simpa [scan] using h
  | cons e r ih =>
    obtain ⟨l, c⟩ := e
    rw [scan_cons]
    apply ih
    cases hk : l.kind <;> simp only [scanStep, hk] <;>
      first | exact h | exact CMap.keys_nodup_add _ _ _ h

/-- number of Forward entries of a table -/
def fwdLen (t : Table) : Nat := (t.filter (fun e => e.1.kind == .fwd)).length

theorem scan_wl_length (t : Table) (acc : CMap × List Nat) :
    (scan t acc).2.length = acc.2.length + (t.filter (fun e => e.1.kind == .fwd)).length := by
  induction t generalizing acc with
  | nil => rfl
  | cons e r ih =>
    rw [scan_cons, ih, scanStep_wl, List.filter_cons]
    by_cases hk : e.1.kind = .fwd
    · simp only [hk, if_true, List.length_cons, beq_self_eq_true]; omega
    · have : (e.1.kind == Kind.fwd) = false := by simpa using hk
      simp only [hk, if_false, this, Bool.false_eq_true]

/-! ## `fwdCount` versus `Table.get` -/

theorem fwdCount_eq_zero (t : Table) (k : Nat) (h : (⟨k, .fwd⟩ : Link) ∉ t.map (·.1)) :
    fwdCount t k = 0 := by
  induction t with
  | nil => rfl
  | cons e r ih =>
    obtain ⟨⟨p, kd⟩, c⟩ := e
    simp only [List.map_cons, List.mem_cons, not_or] at h
    simp only [fwdCount, ih h.2, Nat.add_zero]
    split
    · rename_i hc
      obtain ⟨h1, h2⟩ := hc
      subst h1 h2
      exact absurd rfl h.1
    · rfl

theorem fwdCount_eq_get (t : Table) (hw : t.WF) (k : Nat) :
    fwdCount t k = t.get ⟨k, .fwd⟩ := by
  obtain ⟨hnd, -⟩ := hw
  induction t with
  | nil => rfl
  | cons e r ih =>
    obtain ⟨⟨p, kd⟩, c⟩ := e
    simp only [List.map_cons, List.nodup_cons] at hnd
    simp only [fwdCount, Table.get]
    by_cases hc : (⟨p, kd⟩ : Link) = ⟨k, .fwd⟩
    · rw [if_pos hc]
      rw [hc] at hnd
      rw [fwdCount_eq_zero r k hnd.1]
      simp only [Link.mk.injEq] at hc
      simp [hc.1, hc.2]
    · rw [if_neg hc, ← ih hnd.2]
      simp only [Link.mk.injEq] at hc
      rw [if_neg (by intro h; exact hc ⟨h.2, h.1⟩)]
      omega

/-! ## the worklist loop -/

theorem traceLoop_zero (s : State) (wl vis : List Nat) (m : CMap) (p : Nat) :
    traceLoop s 0 wl vis m p = ⟨m, vis, p, none, true⟩ := by
  cases wl <;> rfl

theorem traceLoop_nil (s : State) (f : Nat) (vis : List Nat) (m : CMap) (p : Nat) :
    traceLoop s (f + 1) [] vis m p = ⟨m, vis, p, none, false⟩ := rfl

theorem traceLoop_skip (s : State) (f n : Nat) (wl vis : List Nat) (m : CMap) (p : Nat)
    (h : n ∈ vis) :
    traceLoop s (f + 1) (n :: wl) vis m p = traceLoop s f wl vis m (p + 1) := by
  simp [traceLoop, h]

theorem traceLoop_bad (s : State) (f n : Nat) (wl vis : List Nat) (m : CMap) (p : Nat)
    (h : n ∉ vis) (ht : s.tableOf n = none) :
    traceLoop s (f + 1) (n :: wl) vis m p = ⟨m, vis, p + 1, some n, false⟩ := by
  simp [traceLoop, h, ht]

theorem traceLoop_scan (s : State) (f n : Nat) (wl vis : List Nat) (m : CMap) (p : Nat) (t : Table)
    (h : n ∉ vis) (ht : s.tableOf n = some t) :
    traceLoop s (f + 1) (n :: wl) vis m p
      = traceLoop s f (scan t (m, wl)).2 (n :: vis) (scan t (m, wl)).1 (p + 1) := by
  simp [traceLoop, h, ht]

theorem State.tbl_of_some {s : State} {n : Nat} {t : Table} (h : s.tableOf n = some t) :
    s.tbl n = t := by simp [State.tbl, h]

/-- Induction along a run of the worklist loop: the five arms of `traceLoop`. -/
theorem traceLoop_induct (s : State) {P : Nat → List Nat → List Nat → CMap → Nat → TraceResult → Prop}
    (zero : ∀ wl vis m p, P 0 wl vis m p ⟨m, vis, p, none, true⟩)
    (nil : ∀ f vis m p, P (f + 1) [] vis m p ⟨m, vis, p, none, false⟩)
    (skip : ∀ f n wl vis m p r, n ∈ vis → P f wl vis m (p + 1) r → P (f + 1) (n :: wl) vis m p r)
    (bad : ∀ f n wl vis m p, n ∉ vis → s.tableOf n = none →
      P (f + 1) (n :: wl) vis m p ⟨m, vis, p + 1, some n, false⟩)
    (scan : ∀ f n wl vis m p t r, n ∉ vis → s.tableOf n = some t →
      P f (scan t (m, wl)).2 (n :: vis) (scan t (m, wl)).1 (p + 1) r → P (f + 1) (n :: wl) vis m p r)
    (f : Nat) (wl vis : List Nat) (m : CMap) (p : Nat) : P f wl vis m p (traceLoop s f wl vis m p) := by
  induction f generalizing wl vis m p with
  | zero => rw [traceLoop_zero]; exact zero wl vis m p
  | succ f ih =>
    cases wl with
    | nil => exact nil f vis m p
    | cons n wl =>
      by_cases hn : n ∈ vis
      · rw [traceLoop_skip s f n wl vis m p hn]; exact skip f n wl vis m p _ hn (ih _ _ _ _)
      · cases ht : s.tableOf n with
        | none => rw [traceLoop_bad s f n wl vis m p hn ht]; exact bad f n wl vis m p hn ht
        | some t => rw [traceLoop_scan s f n wl vis m p t hn ht]; exact scan f n wl vis m p t _ hn ht (ih _ _ _ _)

/-- Invariant principle for runs that finished normally: an invariant of (worklist, visited, map,
pop counter) preserved by both kinds of iteration holds at the end with an empty worklist. -/
theorem traceLoop_inv (s : State) (I : List Nat → List Nat → CMap → Nat → Prop)
    (hskip : ∀ n wl vis m p, I (n :: wl) vis m p → n ∈ vis → I wl vis m (p + 1))
    (hscan : ∀ n wl vis m p t, I (n :: wl) vis m p → n ∉ vis → s.tableOf n = some t →
      I (scan t (m, wl)).2 (n :: vis) (scan t (m, wl)).1 (p + 1))
    (f : Nat) (wl vis : List Nat) (m : CMap) (p : Nat)
    (hb : (traceLoop s f wl vis m p).bad = none)
    (hf : (traceLoop s f wl vis m p).outOfFuel = false)
    (h : I wl vis m p) :
    I [] (traceLoop s f wl vis m p).visited (traceLoop s f wl vis m p).cmap
      (traceLoop s f wl vis m p).popped :=
  traceLoop_induct s (P := fun _ wl vis m p r => r.bad = none → r.outOfFuel = false → I wl vis m p →
      I [] r.visited r.cmap r.popped)
    (fun _ _ _ _ _ hf => nomatch hf) (fun _ _ _ _ _ _ h => h)
    (fun _ n wl vis m p _ hn ih hb hf h => ih hb hf (hskip n wl vis m p h hn))
    (fun _ _ _ _ _ _ _ _ hb => nomatch hb)
    (fun _ n wl vis m p t _ hn ht ih hb hf h => ih hb hf (hscan n wl vis m p t h hn ht))
    f wl vis m p hb hf h

section Loop
variable (s : State) (f : Nat) (wl vis : List Nat) (m : CMap) (p : Nat)
variable (hb : (traceLoop s f wl vis m p).bad = none)
variable (hf : (traceLoop s f wl vis m p).outOfFuel = false)
include hb hf

/-- `c[j] = Σ_{n ∈ visited} fwdCount (tbl n) j` -/
theorem traceLoop_counts
    (h : ∀ j, m.get j = sumOver vis (fun n => fwdCount (s.tbl n) j)) :
    ∀ j, (traceLoop s f wl vis m p).cmap.get j
      = sumOver (traceLoop s f wl vis m p).visited (fun n => fwdCount (s.tbl n) j) := by
  refine traceLoop_inv s
    (fun _ vis m _ => ∀ j, m.get j = sumOver vis (fun n => fwdCount (s.tbl n) j))
    ?_ ?_ f wl vis m p hb hf h
  · intro n wl vis m p h _; exact h
  · intro n wl vis m p t h _ ht j
    rw [scan_get]
    have := h j
    simp only [sumOver, List.map_cons, List.sum_cons, State.tbl_of_some ht] at this ⊢
    omega

/-- the visited set is closed under Forward entries -/
theorem traceLoop_closed
    (h : ∀ n ∈ vis, ∀ j c, (⟨j, .fwd⟩, c) ∈ s.tbl n → j ∈ vis ∨ j ∈ wl) :
    ∀ n ∈ (traceLoop s f wl vis m p).visited, ∀ j c, (⟨j, .fwd⟩, c) ∈ s.tbl n →
      j ∈ (traceLoop s f wl vis m p).visited := by
  have := traceLoop_inv s
    (fun wl vis _ _ => ∀ n ∈ vis, ∀ j c, (⟨j, .fwd⟩, c) ∈ s.tbl n → j ∈ vis ∨ j ∈ wl)
    ?_ ?_ f wl vis m p hb hf h
  · intro n hn j c hj
    simpa using this n hn j c hj
  · intro n wl vis m p h hn a ha j c hj
    rcases h a ha j c hj with h1 | h1
    · exact Or.inl h1
    · rcases List.mem_cons.mp h1 with h2 | h2
      · subst h2; exact Or.inl hn
      · exact Or.inr h2
  · intro n wl vis m p t h _ ht a ha j c hj
    rcases List.mem_cons.mp ha with h2 | h2
    · subst h2
      rw [State.tbl_of_some ht] at hj
      exact Or.inr ((scan_wl _ _ _).mpr (Or.inr ⟨c, hj⟩))
    · rcases h a h2 j c hj with h1 | h1
      · exact Or.inl (List.mem_cons_of_mem _ h1)
      · rcases List.mem_cons.mp h1 with h3 | h3
        · subst h3; exact Or.inl List.mem_cons_self
        · exact Or.inr ((scan_wl _ _ _).mpr (Or.inl h3))

/-- keys of the map = objects named by a Forward or Backward entry of a visited object -/
theorem traceLoop_keys
    (h : ∀ j, m.has j = true ↔ ∃ n ∈ vis, named (s.tbl n) j) :
    ∀ j, (traceLoop s f wl vis m p).cmap.has j = true
      ↔ ∃ n ∈ (traceLoop s f wl vis m p).visited, named (s.tbl n) j := by
  refine traceLoop_inv s
    (fun _ vis m _ => ∀ j, m.has j = true ↔ ∃ n ∈ vis, named (s.tbl n) j)
    ?_ ?_ f wl vis m p hb hf h
  · intro n wl vis m p h _; exact h
  · intro n wl vis m p t h _ ht j
    rw [scan_has, h j]
    simp only [List.mem_cons, exists_eq_or_imp, State.tbl_of_some ht]
    exact Or.comm

theorem traceLoop_keys_nodup (h : m.keys.Nodup) :
    (traceLoop s f wl vis m p).cmap.keys.Nodup := by
  refine traceLoop_inv s (fun _ _ m _ => m.keys.Nodup) ?_ ?_ f wl vis m p hb hf h
  · intro n wl vis m p h _; exact h
  · intro n wl vis m p t h _ _
    exact scan_keys_nodup t (m, wl) h

theorem traceLoop_visited_nodup (h : vis.Nodup) :
    (traceLoop s f wl vis m p).visited.Nodup := by
  refine traceLoop_inv s (fun _ vis _ _ => vis.Nodup) ?_ ?_ f wl vis m p hb hf h
  · intro n wl vis m p h _; exact h
  · intro n wl vis m p t h hn _
    exact List.nodup_cons.mpr ⟨hn, h⟩

theorem traceLoop_visited_mono : ∀ n ∈ vis, n ∈ (traceLoop s f wl vis m p).visited := by
  refine traceLoop_inv s (fun _ vis' _ _ => ∀ n ∈ vis, n ∈ vis') ?_ ?_ f wl vis m p hb hf
    (fun _ h => h)
  · intro n wl vis m p h _; exact h
  · intro n wl vis' m p t h _ _ a ha
    exact List.mem_cons_of_mem _ (h a ha)

theorem traceLoop_visited_readable (h : ∀ n ∈ vis, (s.tableOf n).isSome) :
    ∀ n ∈ (traceLoop s f wl vis m p).visited, (s.tableOf n).isSome := by
  refine traceLoop_inv s (fun _ vis _ _ => ∀ n ∈ vis, (s.tableOf n).isSome) ?_ ?_
    f wl vis m p hb hf h
  · intro n wl vis m p h _; exact h
  · intro n wl vis m p t h _ ht a ha
    rcases List.mem_cons.mp ha with h2 | h2
    · subst h2; simp [ht]
    · exact h a h2

/-- every element of the worklist ends up visited -/
theorem traceLoop_visited_wl : ∀ n ∈ wl, n ∈ (traceLoop s f wl vis m p).visited := by
  have := traceLoop_inv s (fun wl' vis' _ _ => ∀ n ∈ wl, n ∈ vis' ∨ n ∈ wl') ?_ ?_
    f wl vis m p hb hf (fun _ h => Or.inr h)
  · intro n hn; simpa using this n hn
  · intro n wl' vis' m p h hn a ha
    rcases h a ha with h1 | h1
    · exact Or.inl h1
    · rcases List.mem_cons.mp h1 with h2 | h2
      · subst h2; exact Or.inl hn
      · exact Or.inr h2
  · intro n wl' vis' m p t h _ _ a ha
    rcases h a ha with h1 | h1
    · exact Or.inl (List.mem_cons_of_mem _ h1)
    · rcases List.mem_cons.mp h1 with h2 | h2
      · subst h2; exact Or.inl List.mem_cons_self
      · exact Or.inr ((scan_wl _ _ _).mpr (Or.inl h2))

/-- everything visited is Forward-reachable from the start -/
theorem traceLoop_reach (x : Nat)
    (hv : ∀ n ∈ vis, FwdReach s x n) (hw : ∀ n ∈ wl, FwdReach s x n) :
    ∀ n ∈ (traceLoop s f wl vis m p).visited, FwdReach s x n := by
  have := traceLoop_inv s
    (fun wl vis _ _ => (∀ n ∈ vis, FwdReach s x n) ∧ (∀ n ∈ wl, FwdReach s x n)) ?_ ?_
    f wl vis m p hb hf ⟨hv, hw⟩
  · exact this.1
  · intro n wl vis m p h _
    exact ⟨h.1, fun a ha => h.2 a (List.mem_cons_of_mem _ ha)⟩
  · intro n wl vis m p t h _ ht
    have hn : FwdReach s x n := h.2 n List.mem_cons_self
    refine ⟨?_, ?_⟩
    · intro a ha
      rcases List.mem_cons.mp ha with h2 | h2
      · subst h2; exact hn
      · exact h.1 a h2
    · intro a ha
      rcases (scan_wl _ _ _).mp ha with h2 | ⟨c, hc⟩
      · exact h.2 a (List.mem_cons_of_mem _ h2)
      · rw [← State.tbl_of_some ht] at hc
        exact FwdReach.step hn hc

end Loop

theorem cycleRefs_spec (s : State) (x : Nat)
    (hb : (cycleRefs s x).bad = none) (hf : (cycleRefs s x).outOfFuel = false) :
    x ∈ (cycleRefs s x).visited ∧
    (cycleRefs s x).visited.Nodup ∧
    (cycleRefs s x).cmap.keys.Nodup ∧
    (∀ n ∈ (cycleRefs s x).visited, (s.tableOf n).isSome) ∧
    (∀ n ∈ (cycleRefs s x).visited, FwdReach s x n) ∧
    (∀ n ∈ (cycleRefs s x).visited, ∀ j c, (⟨j, .fwd⟩, c) ∈ s.tbl n →
      j ∈ (cycleRefs s x).visited) ∧
    (∀ j, FwdReach s x j → j ∈ (cycleRefs s x).visited) ∧
    (∀ j, (cycleRefs s x).cmap.get j
      = sumOver (cycleRefs s x).visited (fun n => fwdCount (s.tbl n) j)) ∧
    (∀ j, (cycleRefs s x).cmap.has j = true
      ↔ ∃ n ∈ (cycleRefs s x).visited, named (s.tbl n) j) := by
  unfold cycleRefs at hb hf ⊢
  have hx := traceLoop_visited_wl s _ [x] [] [] 0 hb hf x List.mem_cons_self
  have hcl := traceLoop_closed s _ [x] [] [] 0 hb hf (by intro n hn; cases hn)
  refine ⟨hx, ?_, ?_, ?_, ?_, hcl, ?_, ?_, ?_⟩
  · exact traceLoop_visited_nodup s _ [x] [] [] 0 hb hf List.nodup_nil
  · exact traceLoop_keys_nodup s _ [x] [] [] 0 hb hf (by simp [CMap.keys])
  · exact traceLoop_visited_readable s _ [x] [] [] 0 hb hf (by intro n hn; cases hn)
  · apply traceLoop_reach s _ [x] [] [] 0 hb hf x (by intro n hn; cases hn)
    intro n hn
    simp only [List.mem_singleton] at hn
    subst hn
    exact FwdReach.refl n
  · intro j hj
    induction hj with
    | refl => exact hx
    | step _ hc ih => exact hcl _ ih _ _ hc
  · exact traceLoop_counts s _ [x] [] [] 0 hb hf (by intro j; simp [CMap.get, sumOver])
  · exact traceLoop_keys s _ [x] [] [] 0 hb hf (by intro j; simp [CMap.has])

/-! ## pop bound and fuel adequacy -/

theorem traceLoop_popped_le (s : State) (f : Nat) (wl vis : List Nat) (m : CMap) (p c : Nat)
    (h : p + wl.length ≤ c + sumOver vis (fun n => fwdLen (s.tbl n))) :
    (traceLoop s f wl vis m p).popped
      ≤ c + sumOver (traceLoop s f wl vis m p).visited (fun n => fwdLen (s.tbl n)) := by
  refine traceLoop_induct s (P := fun _ wl vis _ p r => p + wl.length ≤ c + sumOver vis (fun n => fwdLen (s.tbl n)) →
      r.popped ≤ c + sumOver r.visited (fun n => fwdLen (s.tbl n))) ?_ ?_ ?_ ?_ ?_ f wl vis m p h
  · intro wl vis m p h; exact Nat.le_trans (Nat.le_add_right _ _) h
  · intro f vis m p h; exact h
  · intro f n wl vis m p r _ ih h; exact ih (by rw [List.length_cons] at h; omega)
  · intro f n wl vis m p _ _ h; rw [List.length_cons] at h
    show p + 1 ≤ c + sumOver vis _; omega
  · intro f n wl vis m p t r _ ht ih h
    apply ih
    rw [scan_wl_length]
    simp only [sumOver, List.map_cons, List.sum_cons, State.tbl_of_some ht, fwdLen, List.length_cons] at h ⊢
    omega

/-- pops of a normally finished run: the start plus one per Forward entry of a visited object -/
theorem traceLoop_popped_eq (s : State) (f : Nat) (wl vis : List Nat) (m : CMap) (p c : Nat)
    (hb : (traceLoop s f wl vis m p).bad = none)
    (hf : (traceLoop s f wl vis m p).outOfFuel = false)
    (h : p + wl.length = c + sumOver vis (fun n => fwdLen (s.tbl n))) :
    (traceLoop s f wl vis m p).popped
      = c + sumOver (traceLoop s f wl vis m p).visited (fun n => fwdLen (s.tbl n)) := by
  have := traceLoop_inv s
    (fun wl vis _ p => p + wl.length = c + sumOver vis (fun n => fwdLen (s.tbl n))) ?_ ?_
    f wl vis m p hb hf h
  · simpa using this
  · intro n wl vis m p h _
    simp only [List.length_cons] at h
    omega
  · intro n wl vis m p t h _ ht
    rw [scan_wl_length]
    simp only [sumOver, List.map_cons, List.sum_cons, State.tbl_of_some ht, fwdLen,
      List.length_cons] at h ⊢
    omega

theorem cycleRefs_popped_le (s : State) (x : Nat) :
    (cycleRefs s x).popped
      ≤ 1 + sumOver (cycleRefs s x).visited (fun n => fwdLen (s.tbl n)) := by
  unfold cycleRefs
  apply traceLoop_popped_le
  simp [sumOver]

theorem cycleRefs_popped_eq (s : State) (x : Nat)
    (hb : (cycleRefs s x).bad = none) (hf : (cycleRefs s x).outOfFuel = false) :
    (cycleRefs s x).popped
      = 1 + sumOver (cycleRefs s x).visited (fun n => fwdLen (s.tbl n)) := by
  unfold cycleRefs at hb hf ⊢
  apply traceLoop_popped_eq _ _ _ _ _ _ _ hb hf
  simp [sumOver]

/-- Forward entries of the objects of `L` that are not in `vis` -/
def restOf (g : Nat → Nat) (L vis : List Nat) : Nat :=
  ((L.filter (fun n => !vis.contains n)).map g).sum

theorem restOf_cons_head (g : Nat → Nat) (a : Nat) (L vis : List Nat) :
    restOf g (a :: L) vis = (if a ∈ vis then 0 else g a) + restOf g L vis := by
  unfold restOf
  rw [List.filter_cons]
  by_cases h : a ∈ vis
  · rw [if_pos h, if_neg (by simpa using h), Nat.zero_add]
  · rw [if_neg h, if_pos (by simpa using h)]; rfl

theorem restOf_cons_not_mem (g : Nat → Nat) (L vis : List Nat) (n : Nat) (hn : n ∉ L) :
    restOf g L (n :: vis) = restOf g L vis := by
  induction L with
  | nil => rfl
  | cons a L ih =>
    rw [List.mem_cons, not_or] at hn
    have ha : ¬ a = n := fun h => hn.1 h.symm
    rw [restOf_cons_head, restOf_cons_head, ih hn.2]
    simp only [List.mem_cons, ha, false_or]

theorem restOf_cons (g : Nat → Nat) (L vis : List Nat) (n : Nat) (hL : L.Nodup) (hn : n ∈ L)
    (hv : n ∉ vis) : restOf g L vis = restOf g L (n :: vis) + g n := by
  induction L with
  | nil => cases hn
  | cons a L ih =>
    rw [List.nodup_cons] at hL
    rw [restOf_cons_head, restOf_cons_head]
    by_cases ha : a = n
    · subst ha
      rw [if_neg hv, if_pos List.mem_cons_self, restOf_cons_not_mem g L vis a hL.1, Nat.zero_add, Nat.add_comm]
    · have hn' : n ∈ L := (List.mem_cons.mp hn).resolve_left (fun h => ha h.symm)
      rw [ih hL.2 hn', ← Nat.add_assoc]
      simp only [List.mem_cons, ha, false_or]

theorem State.tableOf_some {s : State} {n : Nat} {t : Table} (h : s.tableOf n = some t) :
    n < s.heap.length := by
  unfold State.tableOf State.cell at h
  cases hh : s.heap[n]? with
  | none => simp [hh] at h
  | some ob =>
    have := List.getElem?_eq_some_iff.mp hh
    exact this.1

theorem traceLoop_fuel (s : State) (f : Nat) (wl vis : List Nat) (m : CMap) (p : Nat)
    (h : wl.length + restOf (fun n => fwdLen (s.tbl n)) (List.range s.heap.length) vis < f) :
    (traceLoop s f wl vis m p).outOfFuel = false := by
  refine traceLoop_induct s (P := fun f wl vis _ _ r =>
      wl.length + restOf (fun n => fwdLen (s.tbl n)) (List.range s.heap.length) vis < f → r.outOfFuel = false)
    ?_ ?_ ?_ ?_ ?_ f wl vis m p h
  · intro wl vis m p h; exact absurd h (Nat.not_lt_zero _)
  · intro f vis m p _; rfl
  · intro f n wl vis m p r _ ih h; exact ih (by rw [List.length_cons] at h; omega)
  · intro f n wl vis m p _ _ _; rfl
  · intro f n wl vis m p t r hn ht ih h
    apply ih
    rw [scan_wl_length]
    have hr := restOf_cons (fun n => fwdLen (s.tbl n)) (List.range s.heap.length) vis n
      List.nodup_range (List.mem_range.mpr (State.tableOf_some ht)) hn
    have e : fwdLen (s.tbl n) = (List.filter (fun e => e.1.kind == .fwd) t).length := by
      rw [State.tbl_of_some ht]; rfl
    rw [List.length_cons] at h
    simp only at h ⊢
    omega

theorem sum_range_le {α : Type} (l : List α) (k : Nat) (g : Nat → Nat) (h : α → Nat)
    (hle : ∀ i (hi : i < l.length), g (k + i) ≤ h l[i]) :
    ((List.range l.length).map (fun i => g (k + i))).sum ≤ (l.map h).sum := by
  induction l generalizing k with
  | nil => simp
  | cons a l ih =>
    have h0 := hle 0 (by simp)
    have := ih (k + 1) (by
      intro i hi
      have := hle (i + 1) (by simpa using hi)
      simpa [Nat.add_assoc, Nat.add_comm 1 i] using this)
    simp only [List.length_cons, List.range_succ_eq_map, List.map_cons, List.sum_cons,
      List.map_map, List.getElem_cons_zero, Nat.add_zero] at h0 this ⊢
    have e : ((fun i => g (k + i)) ∘ Nat.succ) = (fun i => g (k + 1 + i)) := by
      funext i; simp [Nat.add_assoc, Nat.add_comm 1 i]
    rw [e]
    omega

theorem State.fwdLen_tbl_le (s : State) (n : Nat) (hn : n < s.heap.length) :
    fwdLen (s.tbl n) ≤ (s.heap[n].links.getD []).length := by
  have hh : s.heap[n]? = some s.heap[n] := List.getElem?_eq_getElem hn
  unfold State.tbl State.tableOf State.cell
  rw [hh]
  simp only
  by_cases hfr : s.heap[n].freed = true
  · simp [hfr, fwdLen]
  · simp only [hfr, Bool.false_eq_true, if_false, fwdLen]
    exact List.length_filter_le _ _

theorem restOf_le_traceFuel (s : State) :
    1 + restOf (fun n => fwdLen (s.tbl n)) (List.range s.heap.length) [] + 1 ≤ traceFuel s := by
  have h1 : restOf (fun n => fwdLen (s.tbl n)) (List.range s.heap.length) []
      = ((List.range s.heap.length).map (fun i => fwdLen (s.tbl (0 + i)))).sum := by
    have : ∀ L : List Nat, L.filter (fun _ => true) = L := fun L =>
      List.filter_eq_self.mpr (fun _ _ => rfl)
    simp [restOf, this]
  have h2 := sum_range_le s.heap 0 (fun n => fwdLen (s.tbl n))
    (fun ob => (ob.links.getD []).length) (by
      intro i hi
      simpa using s.fwdLen_tbl_le i hi)
  unfold traceFuel
  omega

/-- fuel adequacy: the trace never runs out of fuel -/
theorem cycleRefs_fuel (s : State) (x : Nat) : (cycleRefs s x).outOfFuel = false := by
  unfold cycleRefs
  apply traceLoop_fuel
  have := restOf_le_traceFuel s
  simp only [List.length_cons, List.length_nil]
  omega

/-! ## the result of a trace, by name -/

/-- What `cycleRefs s x` has computed when it met no unreadable object: the visited list is the set
reachable from `x` through Forward entries, without repetition; the map counts, for each object
named by a visited one, the Forward entries that visited objects hold to it. -/
structure Traced (s : State) (x : Nat) : Prop where
  nodup : (cycleRefs s x).visited.Nodup
  keysNodup : (cycleRefs s x).cmap.keys.Nodup
  reach : ∀ n, n ∈ (cycleRefs s x).visited ↔ FwdReach s x n
  get : ∀ j, (cycleRefs s x).cmap.get j
    = sumOver (cycleRefs s x).visited (fun n => fwdCount (s.tbl n) j)
  key : ∀ j, j ∈ (cycleRefs s x).cmap.keys ↔ ∃ n ∈ (cycleRefs s x).visited, named (s.tbl n) j

theorem cycleRefs_traced {s : State} {x : Nat} (hb : (cycleRefs s x).bad = none) : Traced s x := by
  obtain ⟨-, hnd, hknd, -, hreach, -, hcomp, hget, hkey⟩ := cycleRefs_spec s x hb (cycleRefs_fuel s x)
  exact ⟨hnd, hknd, fun n => ⟨hreach n, hcomp n⟩, hget,
    fun j => by rw [← CMap.has_iff_mem_keys]; exact hkey j⟩

theorem Traced.start {s : State} {x : Nat} (h : Traced s x) : x ∈ (cycleRefs s x).visited :=
  (h.reach x).mpr (.refl x)

theorem Traced.closed {s : State} {x : Nat} (h : Traced s x) {n j c : Nat}
    (hn : n ∈ (cycleRefs s x).visited) (hc : (⟨j, .fwd⟩, c) ∈ s.tbl n) :
    j ∈ (cycleRefs s x).visited :=
  (h.reach j).mpr (((h.reach n).mp hn).step hc)

end Cactus
