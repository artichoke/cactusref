import Cactus.Lemmas.Depth.Defs
/-!
# C15, nesting depth: one machine step, frame by frame

Which steps push or pop an activation record:

| top frame                 | `depth`            | `libDepth`         |
|---------------------------|--------------------|--------------------|
| `rcDrop o`                | `+0` or `+1`       | `+0` or `+1` (same)|
| `weakDrop o`              | `+0`               | `+0`               |
| `dropVal v`               | `+1` (the body)    | `+0`               |
| `script _ _ []`           | `-1` (body returns)| `+0`               |
| `script _ _ (a :: as)`    | `+0`               | `+0`               |
| `panic`                   | `+0` (abort) or `=0` (unwinding) | same |
| `dropFields _ _`          | `+0`               | `+0`               |
| `finishSingle o`          | `-1`               | `-1`               |
| `phase3 ks`               | `-1`               | `-1`               |

Consequences: `step_depth_le` (a step pushes at most one activation record),
`step_depth_ge` (and pops at most one, unless a panic unwinds).
-/
namespace Cactus
open State

theorem depth_of_stack {s : State} {l : List Frame} (h : s.stack = l) : s.depth = contCount l := by
  rw [State.depth_eq, h]

theorem libDepth_of_stack {s : State} {l : List Frame} (h : s.stack = l) : s.libDepth = libCount l := by
  rw [State.libDepth_eq, h]

theorem runSteps_of_stack_nil (n : Nat) {s : State} (h : s.stack = []) : runSteps n s = s := by
  induction n with
  | zero => rfl
  | succ n ih => rw [runSteps, step_of_stack_nil h, ih]

section frames
variable {s : State} {rest : List Frame}

theorem step_rcDrop_depth (he : s.err = none) {o : Nat} (hst : s.stack = .rcDrop o :: rest) :
    ((step s).depth = s.depth ∧ (step s).libDepth = s.libDepth)
    ∨ ((step s).depth = s.depth + 1 ∧ (step s).libDepth = s.libDepth + 1) := by
  have e : step s = ({ s with stack := rest } : State).rcDrop o := step_eq_frame he hst
  rw [depth_of_stack hst, libDepth_of_stack hst, e]
  rcases rcDrop_stack_cases ({ s with stack := rest } : State) o with h | ⟨v, h⟩ | ⟨vs, ks, h⟩
  · left; rw [depth_of_stack h, libDepth_of_stack h]; simp
  · right; rw [depth_of_stack h, libDepth_of_stack h]; simp
  · right; rw [depth_of_stack h, libDepth_of_stack h]; simp

theorem step_weakDrop_depth (he : s.err = none) {o : Nat} (hst : s.stack = .weakDrop o :: rest) :
    (step s).depth = s.depth ∧ (step s).libDepth = s.libDepth := by
  have e : step s = ({ s with stack := rest } : State).weakDrop o := step_eq_frame he hst
  have h : (step s).stack = rest := by rw [e]; simp [State.weakDrop]
  rw [depth_of_stack hst, libDepth_of_stack hst, depth_of_stack h, libDepth_of_stack h]; simp

theorem step_dropVal_depth (he : s.err = none) {v : Val} (hst : s.stack = .dropVal v :: rest) :
    (step s).depth = s.depth + 1 ∧ (step s).libDepth = s.libDepth := by
  have e : step s = ({ s with stack := rest } : State).dropVal v := step_eq_frame he hst
  have h : (step s).stack = [.script v.held v.weaks v.script] ++ (if v.panics then [.panic] else [])
      ++ [.dropFields v.held v.weaks] ++ rest := by rw [e]; simp [State.dropVal]
  rw [depth_of_stack hst, libDepth_of_stack hst, depth_of_stack h, libDepth_of_stack h]
  cases v.panics <;> simp <;> omega

theorem step_script_nil_depth (he : s.err = none) {h w : List Nat}
    (hst : s.stack = .script h w [] :: rest) :
    (step s).depth + 1 = s.depth ∧ (step s).libDepth = s.libDepth := by
  have e : step s = ({ s with stack := rest } : State) := step_eq_frame he hst
  have h' : (step s).stack = rest := by rw [e]
  rw [depth_of_stack hst, libDepth_of_stack hst, depth_of_stack h', libDepth_of_stack h']; simp

theorem step_script_cons_depth (he : s.err = none) {h w : List Nat} {a : Act} {as : List Act}
    (hst : s.stack = .script h w (a :: as) :: rest) :
    (step s).depth = s.depth ∧ (step s).libDepth = s.libDepth := by
  have e : step s = applyAct (({ s with stack := rest } : State).push [.script h w as]) h w a :=
    step_eq_frame he hst
  rw [depth_of_stack hst, libDepth_of_stack hst, e]
  rcases applyAct_stack_cases (({ s with stack := rest } : State).push [.script h w as]) h w a with
    h' | ⟨d, hd, h'⟩
  · rw [depth_of_stack h', libDepth_of_stack h']; simp
  · rw [depth_of_stack h', libDepth_of_stack h', contCount_cons_data hd, libCount_cons_data hd]; simp

theorem step_panic_depth (he : s.err = none) (hst : s.stack = .panic :: rest) :
    ((step s).depth = s.depth ∧ (step s).libDepth = s.libDepth ∧ (step s).err ≠ none)
    ∨ ((step s).depth = 0 ∧ (step s).libDepth = 0) := by
  have e : step s = ({ s with stack := rest } : State).panic := step_eq_frame he hst
  rw [depth_of_stack hst, libDepth_of_stack hst, e]
  unfold State.panic
  split
  · left
    have h' : (({ s with stack := rest } : State).fail .abort).stack = rest := by simp
    rw [depth_of_stack h', libDepth_of_stack h']
    refine ⟨by simp, by simp, ?_⟩
    rw [fail_err_of_none _ _ (show ({ s with stack := rest } : State).err = none from he)]; simp
  · right
    exact ⟨contCount_filter_isCleanup rest, libCount_filter_isCleanup rest⟩

theorem dropFields_stack_cases (u : State) (h w : List Nat) :
    (u.dropFields h w).stack = u.stack
    ∨ ∃ d h' w', d.isData = true ∧ (u.dropFields h w).stack = d :: .dropFields h' w' :: u.stack := by
  cases h with
  | cons x xs => exact Or.inr ⟨.rcDrop x, xs, w, rfl, rfl⟩
  | nil =>
    cases w with
    | cons x xs => exact Or.inr ⟨.weakDrop x, [], xs, rfl, rfl⟩
    | nil => exact Or.inl rfl

theorem step_dropFields_depth (he : s.err = none) {h w : List Nat}
    (hst : s.stack = .dropFields h w :: rest) :
    (step s).depth = s.depth ∧ (step s).libDepth = s.libDepth := by
  have e : step s = ({ s with stack := rest } : State).dropFields h w := step_eq_frame he hst
  rw [depth_of_stack hst, libDepth_of_stack hst, e]
  rcases dropFields_stack_cases ({ s with stack := rest } : State) h w with h' | ⟨d, x, y, hd, h'⟩
  · rw [depth_of_stack h', libDepth_of_stack h']; simp
  · rw [depth_of_stack h', libDepth_of_stack h', contCount_cons_data hd, libCount_cons_data hd]; simp

theorem step_finishSingle_depth (he : s.err = none) {o : Nat}
    (hst : s.stack = .finishSingle o :: rest) :
    (step s).depth + 1 = s.depth ∧ (step s).libDepth + 1 = s.libDepth := by
  have e : step s = ({ s with stack := rest } : State).finishSingle o := step_eq_frame he hst
  have h' : (step s).stack = rest := by rw [e, finishSingle_stack]
  rw [depth_of_stack hst, libDepth_of_stack hst, depth_of_stack h', libDepth_of_stack h']; simp

theorem step_phase3_depth (he : s.err = none) {ks : List Nat}
    (hst : s.stack = .phase3 ks :: rest) :
    (step s).depth + 1 = s.depth ∧ (step s).libDepth + 1 = s.libDepth := by
  have e : step s = ks.foldl State.phase3One ({ s with stack := rest } : State) :=
    step_eq_frame he hst
  have h' : (step s).stack = rest := by rw [e, foldl_phase3One_stack]
  rw [depth_of_stack hst, libDepth_of_stack hst, depth_of_stack h', libDepth_of_stack h']; simp

end frames

/-- one case analysis for both directions: what a step does to the two counters -/
theorem step_depth_cases (s : State) :
    ((step s).depth ≤ s.depth + 1 ∧ (step s).libDepth ≤ s.libDepth + 1)
    ∧ (s.stack.head? = some .panic
      ∨ (s.depth ≤ (step s).depth + 1 ∧ s.libDepth ≤ (step s).libDepth + 1)) := by
  cases he : s.err with
  | some e => rw [step_of_err he]; exact ⟨by omega, .inr (by omega)⟩
  | none =>
    cases hst : s.stack with
    | nil => rw [step_of_stack_nil hst]; exact ⟨by omega, .inr (by omega)⟩
    | cons f rest =>
      cases f with
      | rcDrop o =>
        rcases step_rcDrop_depth he hst with h | h <;> exact ⟨by omega, .inr (by omega)⟩
      | weakDrop o => have := step_weakDrop_depth he hst; exact ⟨by omega, .inr (by omega)⟩
      | dropVal v => have := step_dropVal_depth he hst; exact ⟨by omega, .inr (by omega)⟩
      | script h w acts =>
        cases acts with
        | nil => have := step_script_nil_depth he hst; exact ⟨by omega, .inr (by omega)⟩
        | cons a as => have := step_script_cons_depth he hst; exact ⟨by omega, .inr (by omega)⟩
      | panic => rcases step_panic_depth he hst with h | h <;> exact ⟨by omega, .inl rfl⟩
      | dropFields h w => have := step_dropFields_depth he hst; exact ⟨by omega, .inr (by omega)⟩
      | finishSingle o => have := step_finishSingle_depth he hst; exact ⟨by omega, .inr (by omega)⟩
      | phase3 ks => have := step_phase3_depth he hst; exact ⟨by omega, .inr (by omega)⟩

/-- **one machine step pushes at most one activation record** (any state whatsoever) -/
theorem step_depth_le (s : State) :
    (step s).depth ≤ s.depth + 1 ∧ (step s).libDepth ≤ s.libDepth + 1 :=
  (step_depth_cases s).1

/-- **one machine step pops at most one activation record**, unless it is a panic that starts
unwinding -/
theorem step_depth_ge (s : State) (hp : s.stack.head? ≠ some .panic) :
    s.depth ≤ (step s).depth + 1 ∧ s.libDepth ≤ (step s).libDepth + 1 :=
  (step_depth_cases s).2.resolve_left hp

theorem runSteps_depth_le (j : Nat) (s : State) :
    (runSteps j s).depth ≤ s.depth + j ∧ (runSteps j s).libDepth ≤ s.libDepth + j := by
  induction j generalizing s with
  | zero => exact ⟨Nat.le_refl _, Nat.le_refl _⟩
  | succ j ih =>
    have h1 := ih (step s)
    have h2 := step_depth_le s
    rw [runSteps]
    omega

end Cactus
