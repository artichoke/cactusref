import Cactus.Lemmas.Depth.Collect
import Cactus.Lemmas.History.Main
/-!
# C15, nesting depth along whole histories of fully recorded, quiet programs

Outside collections the depth legitimately grows: the zero-count path of `Rc::drop` nests
(`finishSingle` frames) along an acyclic chain.  So the statements are relative to the stable
points (`Good`) the run passes through.  From a stable point the next one is reached either by one
step, which changes `depth` and `libDepth` by at most one, or by a collection, which comes back to
the depth at which it started and in between adds at most `2` to `depth` and `1` to `libDepth`
(`Good.bigStepD`).  Hence every state of a run is within `+2` / `+1` of a stable point passed
earlier (`Good.depth_profile`), a bound on the stable points bounds the whole run, and an operation
whose whole effect is one collection runs within 2 activation records, 1 of them in the library,
whatever the size of the group (`single_collection_depth`).  `history_depth_profile` says this for
every operation of a `fullQuiet` history that ends without error.
-/
namespace Cactus
open State

theorem Good.sim_self {s : State} (hg : Good s) : Sim s s := ⟨LayoutEqL.refl s, hg, hg⟩

theorem Good.step_cases {s : State} (hg : Good s) (hne : s.stack ≠ []) :
    Good (step s) ∨ ∃ o rest ob n, Collects s o rest ob n := by
  cases hst : s.stack with
  | nil => exact absurd hst hne
  | cons f rest =>
    by_cases hf : ∃ o, f = .rcDrop o
    · obtain ⟨o, rfl⟩ := hf
      rcases hg.sim_self.step_rcDrop hst with h | ⟨ob, _, n, hc, -, -⟩
      · exact Or.inl h.good
      · exact Or.inr ⟨o, rest, ob, n, hc⟩
    · exact Or.inl (hg.step_simple hst (fun o e => hf ⟨o, e⟩))

theorem Good.no_panic_top {s : State} (hg : Good s) : s.stack.head? ≠ some .panic := by
  cases hst : s.stack with
  | nil => simp
  | cons f rest =>
    intro h
    simp only [List.head?_cons, Option.some.injEq] at h
    subst h
    exact hg.ctl.stack .panic (by rw [hst]; exact List.mem_cons_self)

/-- **the big step with the accounting**: from a stable point with a non-empty stack, either one
simple step to the next stable point (depth changes by at most one), or a whole collection (back
to the starting depth; in between at most `+2` activation records, `+1` library continuation) -/
theorem Good.bigStepD {s : State} (hg : Good s) (hne : s.stack ≠ []) :
    (Good (step s)
      ∧ (step s).depth ≤ s.depth + 1 ∧ s.depth ≤ (step s).depth + 1
      ∧ (step s).libDepth ≤ s.libDepth + 1 ∧ s.libDepth ≤ (step s).libDepth + 1)
    ∨ ∃ o rest ob n k t, Collects s o rest ob n ∧ Run (k + 1) s t ∧ Good t ∧ t.stack = rest
        ∧ t.depth = s.depth ∧ t.libDepth = s.libDepth
        ∧ ∀ j, j ≤ k + 1 → (runSteps j s).depth ≤ s.depth + 2
            ∧ (runSteps j s).libDepth ≤ s.libDepth + 1 := by
  rcases hg.step_cases hne with h | ⟨o, rest, ob, n, hc⟩
  · have h1 := step_depth_le s
    have h2 := step_depth_ge s hg.no_panic_top
    exact Or.inl ⟨h, h1.1, h2.1, h1.2, h2.2⟩
  · obtain ⟨k, t, hr, hgt, hst, hd, hl, hall⟩ := collection_depth_bounded hg hc
    refine Or.inr ⟨o, rest, ob, n, k, t, hc, .succ hg.err hne hr, hgt, hst, hd, hl, ?_⟩
    intro j hj
    cases j with
    | zero => exact ⟨Nat.le_add_right _ _, Nat.le_add_right _ _⟩
    | succ j => exact hall j (Nat.le_of_succ_le_succ hj)

/-- **every state of a run from a stable point is close to a stable point of that run**: within
`+2` activation records and `+1` library continuation of a stable point passed earlier, and if it
is not itself that stable point then a collection started there is in progress.  (No fuel: the
run is `runSteps`, which idles once the stack is empty.) -/
theorem Good.depth_profile {s : State} (hg : Good s) (j : Nat) :
    ∃ i, i ≤ j ∧ Good (runSteps i s)
      ∧ (runSteps j s).depth ≤ (runSteps i s).depth + 2
      ∧ (runSteps j s).libDepth ≤ (runSteps i s).libDepth + 1
      ∧ (i = j ∨ ∃ o rest ob n, Collects (runSteps i s) o rest ob n) := by
  induction j using Nat.strongRecOn generalizing s with
  | _ j ih =>
    cases j with
    | zero => exact ⟨0, Nat.le_refl _, hg, Nat.le_add_right _ _, Nat.le_add_right _ _, Or.inl rfl⟩
    | succ j =>
      by_cases hne : s.stack = []
      · -- the run idles: every index is a stable point
        have e := runSteps_of_stack_nil (j + 1) hne
        exact ⟨j + 1, Nat.le_refl _, by rw [e]; exact hg, Nat.le_add_right _ _, Nat.le_add_right _ _,
          Or.inl rfl⟩
      · rcases hg.bigStepD hne with ⟨h, -⟩ | ⟨o, rest, ob, n, k, t, hc, hr, hgt, -, -, -, hall⟩
        · obtain ⟨i, hi, g, b1, b2, b3⟩ := ih j (Nat.lt_succ_self _) h
          refine ⟨i + 1, Nat.succ_le_succ hi, g, b1, b2, ?_⟩
          rcases b3 with rfl | b3
          · exact Or.inl rfl
          · exact Or.inr b3
        · by_cases hjk : j + 1 ≤ k + 1
          · exact ⟨0, Nat.zero_le _, hg, (hall _ hjk).1, (hall _ hjk).2, Or.inr ⟨o, rest, ob, n, hc⟩⟩
          · have ht : runSteps (k + 1) s = t := hr.runSteps_eq
            have hsplit : ∀ i, runSteps (k + 1 + i) s = runSteps i t := by
              intro i; rw [runSteps_add, ht]
            obtain ⟨i, hi, g, b1, b2, b3⟩ := ih (j + 1 - (k + 1)) (by omega) hgt
            have hj : j + 1 = k + 1 + (j + 1 - (k + 1)) := by omega
            rw [← hsplit] at g b1 b2 b3
            rw [← hsplit, ← hj] at b1 b2
            refine ⟨k + 1 + i, by omega, g, b1, b2, ?_⟩
            rcases b3 with h | b3
            · exact Or.inl (by omega)
            · exact Or.inr b3

theorem Good.depth_le_of_stable {s : State} (hg : Good s) (d e : Nat)
    (hb : ∀ i, Good (runSteps i s) → (runSteps i s).depth ≤ d ∧ (runSteps i s).libDepth ≤ e) (j : Nat) :
    (runSteps j s).depth ≤ d + 2 ∧ (runSteps j s).libDepth ≤ e + 1 := by
  obtain ⟨i, -, g, b1, b2, -⟩ := hg.depth_profile j
  have := hb i g
  omega

theorem drain_eq_runSteps (f : Nat) (s : State) (h : (drain f s).err = none) :
    drain f s = runSteps f s := by
  induction f generalizing s with
  | zero =>
    by_cases hst : s.stack = []
    · exact drain_of_stack_nil 0 s hst
    · exact absurd h ((Run.one (drain_err_none 0 s h) hst).drain_err 0 Nat.one_pos)
  | succ f ih =>
    by_cases hst : s.stack = []
    · rw [drain_of_stack_nil _ s hst, runSteps_of_stack_nil _ hst]
    · have he := drain_err_none _ s h
      rw [Run.drain_succ he hst] at h ⊢
      exact ih (step s) h

theorem Good.drain {s : State} (hg : Good s) (f : Nat) (he : (drain f s).err = none) :
    drain f s = runSteps f s ∧ Good (drain f s) ∧ (drain f s).stack = [] :=
  ⟨drain_eq_runSteps f s he, (drain_sim f s s hg.sim_self he).2.good, drain_quiescent f s he⟩

/-- the stack of a stable point holds nothing but the `rcDrop` that starts a collection: the whole
run stays within 2 activation records, 1 of them in the library — for a group of any size -/
theorem single_collection_depth {s : State} (hg : Good s) {o : Nat} {ob : Obj} {n : Nat}
    (hc : Collects s o [] ob n) :
    ∃ k t, Run (k + 1) s t ∧ Good t ∧ t.stack = []
      ∧ (∀ j, (runSteps j s).depth ≤ 2 ∧ (runSteps j s).libDepth ≤ 1)
      ∧ ∀ f, k + 1 ≤ f → drain f s = t := by
  obtain ⟨k, t, hr, hgt, hst, -, -, hall⟩ := collection_depth_bounded hg hc
  have hd : s.depth = 0 := by rw [depth_of_stack hc.stack]; simp
  have hl : s.libDepth = 0 := by rw [libDepth_of_stack hc.stack]; simp
  have hne : s.stack ≠ [] := by rw [hc.stack]; simp
  have hrun : Run (k + 1) s t := .succ hg.err hne hr
  refine ⟨k, t, hrun, hgt, hst, ?_, ?_⟩
  · intro j
    by_cases hj : j ≤ k + 1
    · cases j with
      | zero => show s.depth ≤ 2 ∧ s.libDepth ≤ 1; omega
      | succ j =>
        have := hall j (Nat.le_of_succ_le_succ hj)
        rw [hd, hl] at this
        exact this
    · have e : runSteps j s = t := by
        have : j = k + 1 + (j - (k + 1)) := by omega
        rw [this, runSteps_add, hrun.runSteps_eq, runSteps_of_stack_nil _ hst]
      rw [e, depth_of_stack hst, libDepth_of_stack hst]
      simp
  · intro f hf
    rw [hrun.drain_eq f hf, drain_of_stack_nil _ _ hst]

/-- the same for one operation of a history: a `fullQuiet` operation applied at a quiescent stable
point that leaves exactly the `rcDrop` starting a collection on the stack (dropping the last
program handle of an orphaned group) -/
theorem execOp_single_collection_depth {u : State} (hg : Good u) (hq : u.stack = []) (op : Op)
    (hop : op.fullQuiet) (hint : List Nat) {o : Nat} {ob : Obj} {n : Nat}
    (he : (applyOp { u with hint := hint } op).err = none)
    (hc : Collects (applyOp { u with hint := hint } op) o [] ob n) :
    (∀ j, (runSteps j (applyOp { u with hint := hint } op)).depth ≤ 2
        ∧ (runSteps j (applyOp { u with hint := hint } op)).libDepth ≤ 1)
    ∧ ∃ k, ∀ fuel, k + 1 ≤ fuel →
        execOp fuel u op hint = runSteps (k + 1) (applyOp { u with hint := hint } op)
        ∧ Good (execOp fuel u op hint) ∧ (execOp fuel u op hint).stack = [] := by
  have hga := hg.applyOp hq op hop hint he
  obtain ⟨k, t, hr, hgt, hst, hall, hdr⟩ := single_collection_depth hga hc
  refine ⟨hall, k, fun fuel hf => ?_⟩
  have e : execOp fuel u op hint = t := by
    have : execOp fuel u op hint = endOp (drain fuel (applyOp { u with hint := hint } op)) := by
      simp [execOp, hg.err]
    rw [this, hdr fuel hf, endOp_of_not_unwinding _ hgt.ctl.unw]
  rw [e]
  exact ⟨hr.runSteps_eq.symm, hgt, hst⟩

theorem runFrom_good (fuel : Nat) (ops : List (Op × List Nat)) :
    ∀ s : State, Good s → s.stack = [] → (∀ oh ∈ ops, oh.1.fullQuiet) →
      (runFrom fuel s ops).err = none → Good (runFrom fuel s ops) ∧ (runFrom fuel s ops).stack = [] := by
  induction ops with
  | nil => intro s hg hq _ _; exact ⟨hg, hq⟩
  | cons oh ops ih =>
    intro s hg hq hfq he
    rw [runFrom_cons] at he ⊢
    have he1 := runFrom_err_none fuel ops _ he
    obtain ⟨-, hsim, hq1⟩ :=
      execOp_sim fuel hg.sim_self hq oh.1 (hfq oh List.mem_cons_self) oh.2 oh.2 he1
    exact ih _ hsim.good hq1 (fun x hx => hfq x (List.mem_cons_of_mem _ hx)) he

theorem runFrom_append (fuel : Nat) (s : State) (a b : List (Op × List Nat)) :
    runFrom fuel s (a ++ b) = runFrom fuel (runFrom fuel s a) b := by
  unfold runFrom; rw [List.foldl_append]

/-- **C15 along whole histories.**  In a history of `fullQuiet` operations that ends without
error, take any operation `oh` (after the prefix `pre`) and let `s0` be the state in which its
`drain` starts.  Then `s0` is a stable point, the `drain` is `runSteps` with the fuel, and every
state it passes through is within `+2` activation records / `+1` library continuation of a stable
point passed earlier in the same operation, at which — unless it is that stable point itself — a
collection is in progress.  The remaining nesting is that of the stable points: the
zero-count path of `Rc::drop` along acyclic chains (`Good.bigStepD`: `±1` per step). -/
theorem history_depth_profile (ops : List (Op × List Nat)) (hfq : ∀ oh ∈ ops, oh.1.fullQuiet)
    (he : (run ops).err = none) (pre : List (Op × List Nat)) (oh : Op × List Nat)
    (post : List (Op × List Nat)) (hops : ops = pre ++ oh :: post) :
    Good (run pre) ∧ (run pre).stack = []
    ∧ Good (applyOp { run pre with hint := oh.2 } oh.1)
    ∧ execOp defaultFuel (run pre) oh.1 oh.2
        = runSteps defaultFuel (applyOp { run pre with hint := oh.2 } oh.1)
    ∧ ∀ j, ∃ i, i ≤ j ∧ Good (runSteps i (applyOp { run pre with hint := oh.2 } oh.1))
        ∧ (runSteps j (applyOp { run pre with hint := oh.2 } oh.1)).depth
            ≤ (runSteps i (applyOp { run pre with hint := oh.2 } oh.1)).depth + 2
        ∧ (runSteps j (applyOp { run pre with hint := oh.2 } oh.1)).libDepth
            ≤ (runSteps i (applyOp { run pre with hint := oh.2 } oh.1)).libDepth + 1
        ∧ (i = j ∨ ∃ o rest ob n,
            Collects (runSteps i (applyOp { run pre with hint := oh.2 } oh.1)) o rest ob n) := by
  subst hops
  rw [run_eq_runFrom, runFrom_append, runFrom_cons] at he
  have he1 := runFrom_err_none _ post _ he
  have hpre : (run pre).err = none := by
    cases hx : (run pre).err with
    | none => rfl
    | some e =>
      have : execOp defaultFuel (run pre) oh.1 oh.2 = run pre := by simp [execOp, hx]
      rw [← run_eq_runFrom, this, hx] at he1; cases he1
  obtain ⟨hgp, hqp⟩ := runFrom_good defaultFuel pre {} Good.init rfl
    (fun x hx => hfq x (List.mem_append_left _ hx)) hpre
  rw [← run_eq_runFrom] at hgp hqp he1
  have hop : oh.1.fullQuiet := hfq oh (List.mem_append_right _ List.mem_cons_self)
  have e1 : execOp defaultFuel (run pre) oh.1 oh.2
      = endOp (drain defaultFuel (applyOp { run pre with hint := oh.2 } oh.1)) := by
    simp [execOp, hpre]
  rw [e1, endOp_err] at he1
  have hga := hgp.applyOp hqp oh.1 hop oh.2 (drain_err_none _ _ he1)
  obtain ⟨d1, d2, -⟩ := hga.drain defaultFuel he1
  refine ⟨hgp, hqp, hga, ?_, hga.depth_profile⟩
  rw [e1, endOp_of_not_unwinding _ d2.ctl.unw, d1]

end Cactus
