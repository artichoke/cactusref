import Cactus.Lemmas.Depth.Block
/-!
# C15, nesting depth: a whole collection runs at constant depth

`collection_depth_bounded`: from a stable point (`Good s`) whose top frame `rcDrop o` starts a
collection (`Collects`), the machine comes back to a stable point `t` (`Good t`, stack = the rest
of `s.stack`) and **every** state passed through has

* `depth ≤ s.depth + 2`: the `phase3` frame (rest of `drop_cycle`) and the body of the one
  destructor that is currently running;
* `libDepth ≤ s.libDepth + 1`: the `phase3` frame — no library call nests inside `drop_cycle`;

whatever the number of objects in the group.  Both bounds are attained (`Example.lean`), so `+ 1`
is not a bound for `depth` when `script` frames are counted; it is one for the library
continuations.
-/
namespace Cactus
open State

/-- the block of destructors of a collection followed by the `phase3` frame, with the accounting -/
theorem runP_block_phase3 {u t : State} {rest : List Frame} {ks : List Nat} {vs : List Val}
    (he : u.err = none) (hst : u.stack = vs.map Frame.dropVal ++ ([Frame.phase3 ks] ++ rest))
    (hq : ∀ v ∈ vs, v.quiet) (hr : Ready u.heap (blockHeld vs) (blockWeaks vs))
    (hrun : Run (blockSteps vs + 1) u t) :
    t.stack = rest
      ∧ RunP (Bounded (contCount rest + 2) (libCount rest + 1)) (blockSteps vs + 1) u t := by
  have hB := (runP_block vs u ([Frame.phase3 ks] ++ rest) he hst hq hr).mono
    (Q := Bounded (contCount rest + 2) (libCount rest + 1)) (fun w hw => hw.mono (by simp) (by simp))
  obtain ⟨k1, -, -⟩ :=
    blockResult_spec ({ u with stack := [Frame.phase3 ks] ++ rest } : State) vs hr.1
  generalize blockResult _ vs = B at hB k1
  have hstB : B.stack = .phase3 ks :: rest := by rw [k1]; rfl
  have herB : B.err = none := by rw [k1]; exact he
  -- the last step: the `phase3` frame
  obtain rfl : t = step B := by
    rw [← hrun.runSteps_eq, runSteps_add, hB.toRun.runSteps_eq]
    rfl
  have hstt : (step B).stack = rest := by
    rw [step_eq_frame herB hstB]
    exact foldl_phase3One_stack _ _
  exact ⟨hstt, hB.trans (RunP.one herB (by rw [hstB]; simp) hB.last
    (bounded_of_stack hstt (Nat.le_add_right _ _) (Nat.le_add_right _ _)))⟩

/-- **C15, group teardown at constant depth.**  From a stable point `s` whose top frame
`rcDrop o` starts a collection, the machine is back at a stable point `t` after `k` further steps
(`k` = the steps of the block of destructors + 1), the stack of `t` is the rest of the stack of
`s`, and every state passed through — for a group of any size — has at most `s.depth + 2`
activation records (the `phase3` frame and the running destructor body), of which at most
`s.libDepth + 1` are library continuations (the `phase3` frame). -/
theorem collection_depth_bounded {s : State} (hg : Good s) {o : Nat} {rest : List Frame} {ob : Obj}
    {n : Nat} (hc : Collects s o rest ob n) :
    ∃ k t, Run k (step s) t ∧ Good t ∧ t.stack = rest
      ∧ t.depth = s.depth ∧ t.libDepth = s.libDepth
      ∧ ∀ j, j ≤ k → (runSteps j (step s)).depth ≤ s.depth + 2
          ∧ (runSteps j (step s)).libDepth ≤ s.libDepth + 1 := by
  obtain ⟨t, cr, he1, hst1, hq, hr⟩ := collect_core hg hc.stack (decState s o rest ob n)
    (hg.decFacts hc.stack hc.cell hc.strong) _ rfl rfl rfl rfl hc.hne hc.hext hc.step_eq
  have hrun := cr.run
  rw [← blockSteps_perm (reorder_perm s.hint _)] at hrun
  obtain ⟨hstt, hP⟩ := runP_block_phase3 he1 hst1 hq hr hrun
  have hd : s.depth = contCount rest := by rw [depth_of_stack hc.stack]; simp
  have hl : s.libDepth = libCount rest := by rw [libDepth_of_stack hc.stack]; simp
  refine ⟨_, t, hrun, cr.good, hstt, ?_, ?_, ?_⟩
  · rw [hd, depth_of_stack hstt]
  · rw [hl, libDepth_of_stack hstt]
  · rw [hd, hl]
    exact hP.forall_runSteps

/-- the same as a `RunP` (the form that composes) -/
theorem collection_runP {s : State} (hg : Good s) {o : Nat} {rest : List Frame} {ob : Obj}
    {n : Nat} (hc : Collects s o rest ob n) :
    ∃ k t, RunP (Bounded (s.depth + 2) (s.libDepth + 1)) k (step s) t ∧ Good t ∧ t.stack = rest := by
  obtain ⟨k, t, hr, hgt, hst, -, -, hall⟩ := collection_depth_bounded hg hc
  exact ⟨k, t, RunP.of_run hr hall, hgt, hst⟩

/-- the library part alone, where the bound is `+ 1`: during the collection of a
group of any size at most one library call (`drop_cycle` itself) is added to those that were
waiting when it started -/
theorem collection_libDepth_bounded {s : State} (hg : Good s) {o : Nat} {rest : List Frame}
    {ob : Obj} {n : Nat} (hc : Collects s o rest ob n) :
    ∃ k t, Run k (step s) t ∧ Good t ∧ t.stack = rest
      ∧ ∀ j, j ≤ k → (runSteps j (step s)).libDepth ≤ s.libDepth + 1 := by
  obtain ⟨k, t, hr, hgt, hst, -, -, hall⟩ := collection_depth_bounded hg hc
  exact ⟨k, t, hr, hgt, hst, fun j hj => (hall j hj).2⟩

end Cactus
