import Cactus.Lemmas.Depth.Step
import Cactus.Lemmas.History.Drain
/-!
# C15, nesting depth: runs with a bound on every state passed through

* `RunP P k s t`: `Run k s t` all of whose `k + 1` states (both ends included) satisfy `P`;
* `Bounded d e u`: `u.depth ≤ d ∧ u.libDepth ≤ e`;
* the block of destructors of a collected group (`run_block'` in `GroupOrder.lean`) with the
  accounting: over a stack `rest` the whole block runs within `contCount rest + 1` activation records (the
  `+ 1` is the body of the destructor currently running) and within `libCount rest` library
  continuations — **whatever the number of values in the block** (`runP_block`).
-/
namespace Cactus
open State

inductive RunP (P : State → Prop) : Nat → State → State → Prop
  | zero (s : State) : P s → RunP P 0 s s
  | succ {k : Nat} {s t : State} : s.err = none → s.stack ≠ [] → P s → RunP P k (step s) t →
      RunP P (k + 1) s t

namespace RunP
variable {P Q : State → Prop}

theorem toRun {k : Nat} {s t : State} (h : RunP P k s t) : Run k s t := by
  induction h with
  | zero s _ => exact .zero s
  | succ he hst _ _ ih => exact .succ he hst ih

theorem head {k : Nat} {s t : State} (h : RunP P k s t) : P s := by
  cases h with
  | zero _ hp => exact hp
  | succ _ _ hp _ => exact hp

theorem last {k : Nat} {s t : State} (h : RunP P k s t) : P t := by
  induction h with
  | zero _ hp => exact hp
  | succ _ _ _ _ ih => exact ih

theorem one {s : State} (he : s.err = none) (hst : s.stack ≠ []) (h0 : P s) (h1 : P (step s)) :
    RunP P 1 s (step s) :=
  .succ he hst h0 (.zero _ h1)

theorem frame {s u t : State} {f : Frame} {rest : List Frame} {k : Nat} (he : s.err = none)
    (hp : P { s with stack := f :: rest }) (hu : step { s with stack := f :: rest } = u)
    (h : RunP P k u t) : RunP P (k + 1) { s with stack := f :: rest } t :=
  .succ he (List.cons_ne_nil _ _) hp (hu ▸ h)

theorem trans {k j : Nat} {s t u : State} (h1 : RunP P k s t) (h2 : RunP P j t u) :
    RunP P (k + j) s u := by
  induction h1 with
  | zero s _ => rw [Nat.zero_add]; exact h2
  | succ he hst hp _ ih =>
    rw [Nat.add_right_comm]
    exact .succ he hst hp (ih h2)

theorem cast {k j : Nat} {s t : State} (h : RunP P k s t) (hk : k = j) : RunP P j s t := hk ▸ h

theorem mono {k : Nat} {s t : State} (h : RunP P k s t) (hpq : ∀ u, P u → Q u) : RunP Q k s t := by
  induction h with
  | zero s hp => exact .zero s (hpq _ hp)
  | succ he hst hp _ ih => exact .succ he hst (hpq _ hp) ih

theorem forall_runSteps {k : Nat} {s t : State} (h : RunP P k s t) :
    ∀ j, j ≤ k → P (runSteps j s) := by
  induction h with
  | zero s hp =>
    intro j hj
    obtain rfl := Nat.le_zero.mp hj
    exact hp
  | succ _ _ hp _ ih =>
    intro j hj
    cases j with
    | zero => exact hp
    | succ j => exact ih j (Nat.le_of_succ_le_succ hj)

theorem of_run {k : Nat} {s t : State} (h : Run k s t) (hp : ∀ j, j ≤ k → P (runSteps j s)) :
    RunP P k s t := by
  induction h with
  | zero s => exact .zero s (hp 0 (Nat.le_refl _))
  | succ he hst _ ih =>
    exact .succ he hst (hp 0 (Nat.zero_le _)) (ih (fun j hj => hp (j + 1) (Nat.succ_le_succ hj)))

end RunP

def Bounded (d e : Nat) (u : State) : Prop := u.depth ≤ d ∧ u.libDepth ≤ e

theorem Bounded.mono {d e d' e' : Nat} {u : State} (h : Bounded d e u) (hd : d ≤ d') (he : e ≤ e') :
    Bounded d' e' u := ⟨Nat.le_trans h.1 hd, Nat.le_trans h.2 he⟩

theorem bounded_of_stack {u : State} {l : List Frame} {d e : Nat} (h : u.stack = l)
    (hd : contCount l ≤ d) (he : libCount l ≤ e) : Bounded d e u := by
  unfold Bounded
  rw [depth_of_stack h, libDepth_of_stack h]
  exact ⟨hd, he⟩

/-- dropping the strong fields of a collected value: every handle is dead, nothing nests -/
theorem runP_held (rest : List Frame) (ws : List Nat) (s : State) (he : s.err = none) (hs : List Nat)
    (hd : ∀ t ∈ hs, ∃ ob, s.cell t = some ob ∧ ob.strong.isDead = true) :
    RunP (Bounded (contCount rest) (libCount rest)) (2 * hs.length)
      { s with stack := .dropFields hs ws :: rest } { s with stack := .dropFields [] ws :: rest } := by
  induction hs with
  | nil => exact .zero _ (bounded_of_stack rfl (by simp) (by simp))
  | cons h hs ih =>
    obtain ⟨ob, hc, hdead⟩ := hd h (List.mem_cons_self ..)
    exact RunP.frame he (bounded_of_stack rfl (by simp) (by simp))
      (step_eq_frame (s := { s with stack := _ :: _ }) he rfl)
      (RunP.frame he (bounded_of_stack rfl (by simp) (by simp))
        ((step_eq_frame (s := { s with stack := _ :: _ }) he rfl).trans
          (rcDrop_dead_noop _ h ob hc hdead)) (ih (fun t ht => hd t (List.mem_cons_of_mem _ ht))))

theorem runP_weaks (rest : List Frame) (ws : List Nat) :
    ∀ s : State, s.err = none → GoodW s.heap ws →
      RunP (Bounded (contCount rest) (libCount rest)) (2 * ws.length + 1)
        { s with stack := .dropFields [] ws :: rest } (releaseWeaks { s with stack := rest } ws) := by
  induction ws with
  | nil =>
    intro s he _
    exact RunP.frame he (bounded_of_stack rfl (by simp) (by simp))
      (step_eq_frame (s := { s with stack := _ :: _ }) he rfl)
      (.zero _ (bounded_of_stack (l := rest) rfl (Nat.le_refl _) (Nat.le_refl _)))
  | cons w ws ih =>
    intro s he hgood
    obtain ⟨ob, hg, hf, hc⟩ := goodW_head _ _ _ hgood
    have hw := weakDrop_good s w ob hg hf (Nat.le_of_add_left_le hc)
    have hr := ih (s.weakDrop w) (by rw [hw]; exact he) (by rw [hw]; exact goodW_step _ _ _ _ hg hgood)
    rw [← weakDrop_setStack s rest w] at hr
    exact RunP.frame he (bounded_of_stack rfl (by simp) (by simp))
      (step_eq_frame (s := { s with stack := _ :: _ }) he rfl)
      (RunP.frame he (bounded_of_stack rfl (by simp) (by simp))
        ((step_eq_frame (s := { s with stack := _ :: _ }) he rfl).trans (weakDrop_setStack s _ w)) hr)

/-- destroying one quiet value whose handles are dead: one activation record (the destructor
body) on top of the stack, for one step; no library call nests -/
theorem runP_dropVal (s : State) (v : Val) (rest : List Frame) (he : s.err = none) (hq : v.quiet)
    (hr : Ready s.heap v.held v.weaks) :
    RunP (Bounded (contCount rest + 1) (libCount rest)) (valSteps v)
      { s with stack := .dropVal v :: rest } (dropValQuiet { s with stack := rest } v) := by
  have up : ∀ u, Bounded (contCount rest) (libCount rest) u →
      Bounded (contCount rest + 1) (libCount rest) u :=
    fun u hu => hu.mono (Nat.le_succ _) (Nat.le_refl _)
  have r3 := (runP_held rest v.weaks (s.emit (.destroyed v.vid)) he v.held (fun t ht => by
    obtain ⟨ob, hg, hf, hd, _⟩ := hr.2 t ht
    exact ⟨ob, cell_of_not_freed hg hf, hd⟩)).mono up
  have r4 := (runP_weaks rest v.weaks (s.emit (.destroyed v.vid)) he hr.1).mono up
  exact (RunP.frame he (bounded_of_stack rfl (by simp) (by simp))
    ((step_eq_frame (s := { s with stack := .dropVal v :: rest }) he rfl).trans (dropVal_quiet _ hq))
    (RunP.frame (s := s.emit (.destroyed v.vid)) he (bounded_of_stack rfl (by simp) (by simp))
      (step_eq_frame (s := { s.emit (.destroyed v.vid) with stack := _ :: _ }) he rfl)
      (r3.trans r4))).cast
    (by unfold valSteps; omega)

theorem runP_block_stack (vs : List Val) :
    ∀ (s : State) (rest : List Frame), s.err = none → (∀ v ∈ vs, v.quiet) →
      Ready s.heap (vs.map (·.held)).flatten (vs.map (·.weaks)).flatten →
      RunP (Bounded (contCount rest + 1) (libCount rest)) (blockSteps vs)
        { s with stack := vs.map Frame.dropVal ++ rest } (blockResult { s with stack := rest } vs) := by
  induction vs with
  | nil =>
    intro s rest _ _ _
    exact .zero _ (bounded_of_stack (l := rest) rfl (Nat.le_succ _) (Nat.le_refl _))
  | cons v vs ih =>
    intro s rest he hq hr
    simp only [List.map_cons, List.flatten_cons] at hr
    have hsp := dropValQuiet_spec s v hr.left.1
    have hn1 := (runP_dropVal s v (vs.map Frame.dropVal ++ rest) he (hq v (List.mem_cons_self ..))
      hr.left).mono (Q := Bounded (contCount rest + 1) (libCount rest))
      (fun u hu => hu.mono (by simp) (by simp))
    have hn2 := ih (dropValQuiet s v) rest (by rw [hsp.1]; exact he)
      (fun v hv => hq v (List.mem_cons_of_mem _ hv)) (hr.right hsp.2)
    rw [← dropValQuiet_setStack, ← dropValQuiet_setStack] at hn2
    exact (hn1.trans hn2).cast (by simp only [blockSteps, List.map_cons, List.sum_cons])

/-- **the block of destructors of a collected group runs at constant depth**: over the stack
`rest`, at most `contCount rest + 1` activation records and `libCount rest` library
continuations, whatever the length of `vs` -/
theorem runP_block (vs : List Val) (s : State) (rest : List Frame) (he : s.err = none)
    (hst : s.stack = vs.map Frame.dropVal ++ rest) (hq : ∀ v ∈ vs, v.quiet)
    (hr : Ready s.heap (vs.map (·.held)).flatten (vs.map (·.weaks)).flatten) :
    RunP (Bounded (contCount rest + 1) (libCount rest)) (blockSteps vs) s
      (blockResult { s with stack := rest } vs) := by
  have h := runP_block_stack vs s rest he hq hr
  rwa [← hst] at h

end Cactus
