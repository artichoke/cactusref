import Cactus.Lemmas.GroupOrder
import Cactus.Lemmas.NoErr
/-!
# C15, nesting depth: definitions and the per-frame accounting

In the Rust code the machine stack holds one activation record per call that is waiting for a
nested call to return.  In the model these are the *continuation frames* `finishSingle _` (rest of
`drop_unreachable*`), `phase3 _` (rest of `drop_cycle`) and `script _ _ _` (a running destructor
body); the other frames are data (pending handles / values that a loop or the drop glue gets to).

* `State.depth`: number of continuation frames on the control stack;
* `State.libDepth`: the same without the `script` frames (activation records of the *library*);
* `contCount`, `libCount`: the same on lists of frames;
* what `beginSingle`, `dropCycle`, `Rc::drop` and a user-level action push (`*_stack_cases`); the
  per-step facts that follow are in `Depth/Step.lean`.
-/
namespace Cactus
open State

/-- activation records of the real machine stack: the continuation frames `finishSingle`, `phase3`
(already singled out by `Frame.isCont` in `Inv/Transfer.lean`) and the running destructor bodies
`script` -/
def Frame.isActRec : Frame → Bool
  | .finishSingle _ => true
  | .phase3 _ => true
  | .script _ _ _ => true
  | _ => false

def State.depth (s : State) : Nat := (s.stack.filter Frame.isActRec).length

def State.libDepth (s : State) : Nat := (s.stack.filter Frame.isCont).length

/-- the activation records among the frames `l` (`State.depth` of a stack) -/
def contCount (l : List Frame) : Nat := (l.filter Frame.isActRec).length

/-- the library continuations `finishSingle`, `phase3` among the frames `l` (`State.libDepth`) -/
def libCount (l : List Frame) : Nat := (l.filter Frame.isCont).length

theorem State.depth_eq (s : State) : s.depth = contCount s.stack := rfl
theorem State.libDepth_eq (s : State) : s.libDepth = libCount s.stack := rfl

theorem Frame.isCont_le (f : Frame) : f.isCont = true → f.isActRec = true := by
  cases f <;> simp [Frame.isCont, Frame.isActRec]

@[simp] theorem contCount_nil : contCount [] = 0 := rfl
@[simp] theorem libCount_nil : libCount [] = 0 := rfl

theorem contCount_cons (f : Frame) (l : List Frame) :
    contCount (f :: l) = (if f.isActRec then 1 else 0) + contCount l := by
  unfold contCount
  rw [List.filter_cons]
  split <;> simp <;> omega

theorem libCount_cons (f : Frame) (l : List Frame) :
    libCount (f :: l) = (if f.isCont then 1 else 0) + libCount l := by
  unfold libCount
  rw [List.filter_cons]
  split <;> simp <;> omega

@[simp] theorem contCount_append (a b : List Frame) : contCount (a ++ b) = contCount a + contCount b := by
  simp [contCount]

@[simp] theorem libCount_append (a b : List Frame) : libCount (a ++ b) = libCount a + libCount b := by
  simp [libCount]

@[simp] theorem contCount_rcDrop (o : Nat) (l : List Frame) : contCount (.rcDrop o :: l) = contCount l := by
  simp [contCount_cons, Frame.isActRec]
@[simp] theorem contCount_weakDrop (o : Nat) (l : List Frame) : contCount (.weakDrop o :: l) = contCount l := by
  simp [contCount_cons, Frame.isActRec]
@[simp] theorem contCount_dropVal (v : Val) (l : List Frame) : contCount (.dropVal v :: l) = contCount l := by
  simp [contCount_cons, Frame.isActRec]
@[simp] theorem contCount_panic (l : List Frame) : contCount (.panic :: l) = contCount l := by
  simp [contCount_cons, Frame.isActRec]
@[simp] theorem contCount_dropFields (h w : List Nat) (l : List Frame) :
    contCount (.dropFields h w :: l) = contCount l := by
  simp [contCount_cons, Frame.isActRec]
@[simp] theorem contCount_script (h w : List Nat) (a : List Act) (l : List Frame) :
    contCount (.script h w a :: l) = contCount l + 1 := by
  simp [contCount_cons, Frame.isActRec, Nat.add_comm]
@[simp] theorem contCount_finishSingle (o : Nat) (l : List Frame) :
    contCount (.finishSingle o :: l) = contCount l + 1 := by
  simp [contCount_cons, Frame.isActRec, Nat.add_comm]
@[simp] theorem contCount_phase3 (ks : List Nat) (l : List Frame) :
    contCount (.phase3 ks :: l) = contCount l + 1 := by
  simp [contCount_cons, Frame.isActRec, Nat.add_comm]

@[simp] theorem libCount_rcDrop (o : Nat) (l : List Frame) : libCount (.rcDrop o :: l) = libCount l := by
  simp [libCount_cons, Frame.isCont]
@[simp] theorem libCount_weakDrop (o : Nat) (l : List Frame) : libCount (.weakDrop o :: l) = libCount l := by
  simp [libCount_cons, Frame.isCont]
@[simp] theorem libCount_dropVal (v : Val) (l : List Frame) : libCount (.dropVal v :: l) = libCount l := by
  simp [libCount_cons, Frame.isCont]
@[simp] theorem libCount_panic (l : List Frame) : libCount (.panic :: l) = libCount l := by
  simp [libCount_cons, Frame.isCont]
@[simp] theorem libCount_dropFields (h w : List Nat) (l : List Frame) :
    libCount (.dropFields h w :: l) = libCount l := by
  simp [libCount_cons, Frame.isCont]
@[simp] theorem libCount_script (h w : List Nat) (a : List Act) (l : List Frame) :
    libCount (.script h w a :: l) = libCount l := by
  simp [libCount_cons, Frame.isCont]
@[simp] theorem libCount_finishSingle (o : Nat) (l : List Frame) :
    libCount (.finishSingle o :: l) = libCount l + 1 := by
  simp [libCount_cons, Frame.isCont, Nat.add_comm]
@[simp] theorem libCount_phase3 (ks : List Nat) (l : List Frame) :
    libCount (.phase3 ks :: l) = libCount l + 1 := by
  simp [libCount_cons, Frame.isCont, Nat.add_comm]

@[simp] theorem contCount_map_dropVal (vs : List Val) : contCount (vs.map Frame.dropVal) = 0 := by
  induction vs with
  | nil => rfl
  | cons v vs ih => simp [ih]

@[simp] theorem libCount_map_dropVal (vs : List Val) : libCount (vs.map Frame.dropVal) = 0 := by
  induction vs with
  | nil => rfl
  | cons v vs ih => simp [ih]

theorem libCount_le_contCount (l : List Frame) : libCount l ≤ contCount l := by
  induction l with
  | nil => simp
  | cons f l ih =>
    rw [libCount_cons, contCount_cons]
    cases h1 : f.isCont with
    | false => simp only [Bool.false_eq_true, if_false]; split <;> omega
    | true => simp only [Frame.isCont_le f h1, if_true]; omega

theorem State.libDepth_le_depth (s : State) : s.libDepth ≤ s.depth := libCount_le_contCount _

/-- a panic unwinds through every continuation frame: none of them is a cleanup frame -/
theorem contCount_filter_isCleanup (l : List Frame) : contCount (l.filter Frame.isCleanup) = 0 := by
  induction l with
  | nil => rfl
  | cons f l ih =>
    rw [List.filter_cons]
    cases f <;> simp [Frame.isCleanup, ih]

theorem libCount_filter_isCleanup (l : List Frame) : libCount (l.filter Frame.isCleanup) = 0 := by
  have := libCount_le_contCount (l.filter Frame.isCleanup)
  rw [contCount_filter_isCleanup] at this
  omega

theorem beginSingle_stack_cases (s : State) (o : Nat) :
    (s.beginSingle o).stack = s.stack
    ∨ ∃ v, (s.beginSingle o).stack = .dropVal v :: .finishSingle o :: s.stack := by
  rcases State.beginSingle_cases s o with ⟨e, h⟩ | h | ⟨ob, v, -, -, h⟩ <;> rw [h]
  · exact .inl (fail_stack _ _)
  · exact .inl (decWeakFree_stack_imp _ _ _)
  · exact .inr ⟨v, rfl⟩

theorem dropCycle_stack (s : State) (c : CMap) :
    ∃ vs : List Val, (s.dropCycle c).stack = vs.map Frame.dropVal ++ .phase3 c.keys :: s.stack := by
  refine ⟨reorder s.hint (c.keys.foldl phase2One (c.foldl (phase1One c.keys) s, [])).2, ?_⟩
  unfold State.dropCycle
  simp only [push_stack, foldl_phase2One_stack, foldl_phase1One_stack, List.append_assoc,
    List.cons_append, List.nil_append]

/-- **`Rc::drop` pushes at most one continuation frame**: nothing (plain decrement, dead target,
failed orphan test), or `[dropVal v, finishSingle o]` (the zero-count path), or a block of values
followed by one `phase3` frame (a collection) -/
theorem rcDrop_stack_cases (s : State) (o : Nat) :
    (s.rcDrop o).stack = s.stack
    ∨ (∃ v, (s.rcDrop o).stack = .dropVal v :: .finishSingle o :: s.stack)
    ∨ ∃ (vs : List Val) (ks : List Nat), (s.rcDrop o).stack = vs.map Frame.dropVal ++ .phase3 ks :: s.stack := by
  have hb : ∀ u : State, u.stack = s.stack →
      (u.beginSingle o).stack = s.stack
      ∨ (∃ v, (u.beginSingle o).stack = .dropVal v :: .finishSingle o :: s.stack)
      ∨ ∃ (vs : List Val) (ks : List Nat), (u.beginSingle o).stack = vs.map Frame.dropVal ++ .phase3 ks :: s.stack := by
    intro u hu
    rcases beginSingle_stack_cases u o with h | ⟨v, h⟩
    · exact .inl (h.trans hu)
    · exact .inr (.inl ⟨v, by rw [h, hu]⟩)
  rcases State.rcDrop_cases s o with ⟨e, h⟩ | h | ⟨ob, n, t, -, -, -, h⟩
  · exact .inl (by rw [h, fail_stack])
  · exact .inl (by rw [h])
  · rcases h with ⟨-, -, h⟩ | ⟨-, -, h⟩ | ⟨-, -, h⟩ | ⟨-, -, h⟩ <;> rw [h]
    · exact .inl rfl
    · exact hb _ rfl
    · exact hb _ (purgePeers_stack _ _)
    · rcases State.traceBranch_cases (s.setObj o { ob with strong := .cnt n }) o with ⟨e, h⟩ | h | h <;> rw [h]
      · exact .inl (fail_stack _ _)
      · exact .inl rfl
      · obtain ⟨vs, h⟩ := dropCycle_stack ((s.setObj o { ob with strong := .cnt n }).emit
          (.traced o (cycleRefs (s.setObj o { ob with strong := .cnt n }) o).visited.length
            (cycleRefs (s.setObj o { ob with strong := .cnt n }) o).popped))
          (cycleRefs (s.setObj o { ob with strong := .cnt n }) o).cmap
        exact .inr (.inr ⟨vs, _, h⟩)

theorem contCount_cons_data {d : Frame} (h : d.isData = true) (l : List Frame) :
    contCount (d :: l) = contCount l := by
  cases d <;> simp [Frame.isData] at h <;> simp

theorem libCount_cons_data {d : Frame} (h : d.isData = true) (l : List Frame) :
    libCount (d :: l) = libCount l := by
  cases d <;> simp [Frame.isData] at h <;> simp

theorem Steps.stack_eq {a : Act} {s t : State} (h : Steps a s t) : t.stack = s.stack :=
  h.lift (Q := fun s t => t.stack = s.stack) (fun _ => rfl) (fun h1 h2 => h2.trans h1) Prim.stack_eq

theorem ActShape.stack_cases {a : Act} {s u : State} (h : ActShape a s u) :
    u.stack = s.stack ∨ ∃ d, d.isData = true ∧ u.stack = d :: s.stack := by
  cases h with
  | quiet h => exact .inl h.stack_eq
  | push d h hd _ => exact .inr ⟨d, hd, by rw [push_stack, h.stack_eq]; rfl⟩

/-- **a user-level action pushes no continuation frame**: it leaves the stack alone or pushes one
pending handle or value -/
theorem applyAct_stack_cases (s : State) (fh fw : List Nat) (a : Act) :
    (applyAct s fh fw a).stack = s.stack
    ∨ ∃ d, d.isData = true ∧ (applyAct s fh fw a).stack = d :: s.stack :=
  (applyAct_shape s fh fw a).stack_cases

end Cactus
