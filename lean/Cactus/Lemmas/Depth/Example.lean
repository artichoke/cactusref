import Cactus.Lemmas.Depth.Main
/-!
# C15, nesting depth: contrast and non-vacuity

* (a) a ring of `n` objects built with `link`, the last program handle dropped: one collection.
  The trace of depths is listed for `n = 4`; the maximum is `2` activation records (`phase3` + the
  running destructor body) and `1` library continuation, for `n = 4`, `8` and `16` alike.
  `collection_depth_bounded` applies (`ring4_collects`), and its `+ 2` is attained
  (`ring4_plus_one_fails`: `+ 1` is not a bound for `depth` when `script` frames are counted; it is
  `libDepth` that obeys `+ 1`).
* (b) a plain chain `0 → 1 → … → n-1` built with `store` (no adoption), dropped from the head:
  the zero-count path nests, `libDepth` reaches `n` (`4` for `n = 4`, `8` for `n = 8`) and `depth`
  reaches `n + 1`.  This is the recursion that the group teardown avoids.
* (c) the same chain built with `link` (adopted, acyclic): no trace happens at all (the head's
  count goes to zero: purge + zero-count path), and the nesting is the same as in (b).
-/
namespace Cactus.DepthExample
open Cactus

/-- `depth` of `s`, `step s`, …, `step^n s` -/
def depthTrace : Nat → State → List Nat
  | 0, s => [s.depth]
  | n + 1, s => s.depth :: depthTrace n (step s)

/-- `libDepth` of `s`, `step s`, …, `step^n s` -/
def libDepthTrace : Nat → State → List Nat
  | 0, s => [s.libDepth]
  | n + 1, s => s.libDepth :: libDepthTrace n (step s)

def maxOf (l : List Nat) : Nat := l.foldl max 0

theorem depthTrace_eq (n : Nat) (s : State) :
    depthTrace n s = (List.range (n + 1)).map (fun j => (runSteps j s).depth) := by
  induction n generalizing s with
  | zero => rfl
  | succ n ih =>
    rw [depthTrace, ih (step s), List.range_succ_eq_map (n := n + 1), List.map_cons, List.map_map]
    rfl

theorem libDepthTrace_eq (n : Nat) (s : State) :
    libDepthTrace n s = (List.range (n + 1)).map (fun j => (runSteps j s).libDepth) := by
  induction n generalizing s with
  | zero => rfl
  | succ n ih =>
    rw [libDepthTrace, ih (step s), List.range_succ_eq_map (n := n + 1), List.map_cons, List.map_map]
    rfl

def noHints (ops : List Op) : List (Op × List Nat) := ops.map (fun o => (o, []))

/-- `n` objects, `n-1 → 0` through a clone of the first handle, then `i → i+1` for
`i = n-2, …, 0`, each `link` moving the program's handle to `i+1` into object `i`; one program
handle (to object `0`) is left -/
def ringOps (n : Nat) : List Op :=
  List.replicate n (.act .new) ++ [.act (.clone 0), .act (.link n (n - 1))]
    ++ (List.range (n - 1)).reverse.map (fun i => .act (.link (i + 1) i))

/-- the state in which the `drain` of the final `drop 0` starts -/
def ringStart (n : Nat) : State :=
  applyOp { run (noHints (ringOps n)) with hint := [] } (.act (.drop 0))

/-- the facts about the collection of the 4-ring that are established by evaluation -/
theorem ring4_eval :
    ((ringStart 4).stack = [.rcDrop 0] ∧ (ringStart 4).err = none)
    ∧ Frame.phase3 [3, 1, 2, 0] ∈ (step (ringStart 4)).stack
    ∧ (ringStart 4).depth + 1 < (runSteps 1 (step (ringStart 4))).depth
    ∧ depthTrace 23 (ringStart 4)
      = [0, 1, 2, 1, 1, 1, 1, 2, 1, 1, 1, 1, 2, 1, 1, 1, 1, 2, 1, 1, 1, 1, 0, 0]
    ∧ libDepthTrace 23 (ringStart 4)
      = [0, 1, 1, 1, 1, 1, 1, 1, 1, 1, 1, 1, 1, 1, 1, 1, 1, 1, 1, 1, 1, 1, 0, 0]
    ∧ (runSteps 22 (ringStart 4)).stack = [] ∧ (runSteps 22 (ringStart 4)).err = none
    ∧ (runSteps 22 (ringStart 4)).destroyedVids.length = 4
    ∧ (runSteps 22 (ringStart 4)).freedIds.length = 4 := by
  decide +kernel

theorem ring4_start : (ringStart 4).stack = [.rcDrop 0] ∧ (ringStart 4).err = none :=
  ring4_eval.1

/-- the 22 steps of the collection of the 4-ring: `rcDrop`, 4 × 5 steps of destructors, `phase3` -/
theorem ring4_depthTrace :
    depthTrace 23 (ringStart 4)
      = [0, 1, 2, 1, 1, 1, 1, 2, 1, 1, 1, 1, 2, 1, 1, 1, 1, 2, 1, 1, 1, 1, 0, 0] :=
  ring4_eval.2.2.2.1

theorem ring4_libDepthTrace :
    libDepthTrace 23 (ringStart 4)
      = [0, 1, 1, 1, 1, 1, 1, 1, 1, 1, 1, 1, 1, 1, 1, 1, 1, 1, 1, 1, 1, 1, 0, 0] :=
  ring4_eval.2.2.2.2.1

theorem ring4_done : (runSteps 22 (ringStart 4)).stack = [] ∧ (runSteps 22 (ringStart 4)).err = none
    ∧ (runSteps 22 (ringStart 4)).destroyedVids.length = 4
    ∧ (runSteps 22 (ringStart 4)).freedIds.length = 4 :=
  ring4_eval.2.2.2.2.2

theorem ring4_max : maxOf (depthTrace 23 (ringStart 4)) = 2
    ∧ maxOf (libDepthTrace 23 (ringStart 4)) = 1 := by
  rw [ring4_depthTrace, ring4_libDepthTrace]
  decide

/-- twice the objects, 42 steps, the same maxima -/
theorem ring8_max : (runSteps 42 (ringStart 8)).stack = [] ∧ (runSteps 41 (ringStart 8)).stack ≠ []
    ∧ (runSteps 42 (ringStart 8)).destroyedVids.length = 8
    ∧ maxOf (depthTrace 43 (ringStart 8)) = 2
    ∧ maxOf (libDepthTrace 43 (ringStart 8)) = 1 := by decide +kernel

/-- four times the objects, 82 steps, the same maxima -/
theorem ring16_max : (runSteps 82 (ringStart 16)).stack = [] ∧ (runSteps 81 (ringStart 16)).stack ≠ []
    ∧ (runSteps 82 (ringStart 16)).destroyedVids.length = 16
    ∧ maxOf (depthTrace 83 (ringStart 16)) = 2
    ∧ maxOf (libDepthTrace 83 (ringStart 16)) = 1 := by decide +kernel

theorem ring4_fullQuiet : ∀ oh ∈ noHints (ringOps 4 ++ [.act (.drop 0)]), oh.1.fullQuiet := by
  decide

theorem ring4_noErr : (run (noHints (ringOps 4 ++ [.act (.drop 0)]))).err = none := by
  decide +kernel

/-- the start of the final `drain` is a stable point (by the whole-history theorem) -/
theorem ring4_good : Good (ringStart 4) :=
  (history_depth_profile _ ring4_fullQuiet ring4_noErr (noHints (ringOps 4)) (.act (.drop 0), []) []
    (by simp [noHints])).2.2.1

/-- … and its `rcDrop 0` starts a collection: the hypotheses of `collection_depth_bounded` and
`single_collection_depth` are satisfied -/
theorem ring4_collects : ∃ ob n, Collects (ringStart 4) 0 [] ob n := by
  rcases ring4_good.step_cases (by rw [ring4_start.1]; simp) with h | ⟨o, rest, ob, n, hc⟩
  · exact (h.ctl.stack _ ring4_eval.2.1).elim
  · have := hc.stack
    rw [ring4_start.1] at this
    simp only [List.cons.injEq, Frame.rcDrop.injEq] at this
    obtain ⟨rfl, rfl⟩ := this
    exact ⟨ob, n, hc⟩

/-- what `single_collection_depth` gives for the ring -/
example : ∀ j, (runSteps j (ringStart 4)).depth ≤ 2 ∧ (runSteps j (ringStart 4)).libDepth ≤ 1 := by
  obtain ⟨ob, n, hc⟩ := ring4_collects
  obtain ⟨_, _, _, _, _, h, _⟩ := single_collection_depth ring4_good hc
  exact h

/-- the `+ 2` of `collection_depth_bounded` is attained: with the running destructor body counted,
`+ 1` is not a bound -/
theorem ring4_plus_one_fails :
    ¬ ∀ j, j ≤ 21 → (runSteps j (step (ringStart 4))).depth ≤ (ringStart 4).depth + 1 := by
  intro h
  exact Nat.not_le.2 ring4_eval.2.2.1 (h 1 (by decide))

/-- `n` objects, then `mk (i+1) i` for `i = n-2, …, 0` (`mk = store` or `link`): the program's
handle to `i+1` moves into object `i`; one program handle (to the head `0`) is left -/
def chainOps (mk : Nat → Nat → Act) (n : Nat) : List Op :=
  List.replicate n (.act .new) ++ (List.range (n - 1)).reverse.map (fun i => .act (mk (i + 1) i))

def chainStart (mk : Nat → Nat → Act) (n : Nat) : State :=
  applyOp { run (noHints (chainOps mk n)) with hint := [] } (.act (.drop 0))

/-- (b) plain chain of 4, no adoption: the zero-count path nests, one `finishSingle` per link -/
theorem chain4_store_depthTrace :
    depthTrace 23 (chainStart .store 4)
      = [0, 1, 2, 1, 1, 2, 3, 2, 2, 3, 4, 3, 3, 4, 5, 4, 4, 3, 3, 2, 2, 1, 1, 0]
    ∧ libDepthTrace 23 (chainStart .store 4)
      = [0, 1, 1, 1, 1, 2, 2, 2, 2, 3, 3, 3, 3, 4, 4, 4, 4, 3, 3, 2, 2, 1, 1, 0] := by
  decide +kernel

theorem chain4_store_max : (runSteps 23 (chainStart .store 4)).stack = []
    ∧ (runSteps 23 (chainStart .store 4)).err = none
    ∧ (runSteps 23 (chainStart .store 4)).destroyedVids = [0, 1, 2, 3]
    ∧ maxOf (depthTrace 23 (chainStart .store 4)) = 5
    ∧ maxOf (libDepthTrace 23 (chainStart .store 4)) = 4 := by
  rw [chain4_store_depthTrace.1, chain4_store_depthTrace.2]
  decide +kernel

/-- twice the links, twice the nesting -/
theorem chain8_store_max : (runSteps 47 (chainStart .store 8)).stack = []
    ∧ (runSteps 47 (chainStart .store 8)).err = none
    ∧ maxOf (depthTrace 47 (chainStart .store 8)) = 9
    ∧ maxOf (libDepthTrace 47 (chainStart .store 8)) = 8 := by decide +kernel

/-- (c) the same chain built with `link` (adopted, acyclic): dropping the head takes the
zero-count path (purge the peers, then `drop_unreachable`), no trace, and the same nesting -/
theorem chain4_link_depthTrace :
    depthTrace 23 (chainStart .link 4)
      = [0, 1, 2, 1, 1, 2, 3, 2, 2, 3, 4, 3, 3, 4, 5, 4, 4, 3, 3, 2, 2, 1, 1, 0]
    ∧ libDepthTrace 23 (chainStart .link 4)
      = [0, 1, 1, 1, 1, 2, 2, 2, 2, 3, 3, 3, 3, 4, 4, 4, 4, 3, 3, 2, 2, 1, 1, 0] := by
  decide +kernel

theorem chain4_link_max : (runSteps 23 (chainStart .link 4)).stack = []
    ∧ (runSteps 23 (chainStart .link 4)).err = none
    ∧ (runSteps 23 (chainStart .link 4)).destroyedVids = [0, 1, 2, 3]
    ∧ (runSteps 23 (chainStart .link 4)).log.all (fun e => match e with | .traced _ _ _ => false | _ => true)
        = true
    ∧ maxOf (depthTrace 23 (chainStart .link 4)) = 5
    ∧ maxOf (libDepthTrace 23 (chainStart .link 4)) = 4 := by
  rw [chain4_link_depthTrace.1, chain4_link_depthTrace.2]
  decide +kernel

theorem chain8_link_max : (runSteps 47 (chainStart .link 8)).stack = []
    ∧ (runSteps 47 (chainStart .link 8)).err = none
    ∧ maxOf (depthTrace 47 (chainStart .link 8)) = 9
    ∧ maxOf (libDepthTrace 47 (chainStart .link 8)) = 8 := by decide +kernel

/-- the chain built with `link` meets the two hypotheses of `history_depth_profile` (this and the
next theorem); what that theorem says of it is relative — here the stable points themselves nest (`Good.bigStepD`, first
alternative, `+1` per link), no collection is involved -/
theorem chain4_link_fullQuiet :
    ∀ oh ∈ noHints (chainOps .link 4 ++ [.act (.drop 0)]), oh.1.fullQuiet := by decide

theorem chain4_link_noErr : (run (noHints (chainOps .link 4 ++ [.act (.drop 0)]))).err = none := by
  decide +kernel

end Cactus.DepthExample
