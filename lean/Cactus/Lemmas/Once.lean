import Cactus.Lemmas.Final
/-!
# Every destructor runs at most once, every allocation is released at most once

`InvV`: the identifiers (`vid`) of all values that are still in place (stored in the heap, unwrapped
into `vals`, or waiting in a `dropVal` frame) together with the identifiers logged as `destroyed`
are pairwise distinct and below `nextVid`.  `InvF`: the identifiers logged as `freed` are pairwise
distinct and designate allocations whose `freed` flag is set.  Both are preserved by every
transition of the machine from an *arbitrary* state (no other invariant, no contract, and
regardless of the error field), hence hold in every reachable state.
-/
namespace Cactus

def State.allVals (s : State) : List Val :=
  (s.heap.filterMap (·.value)) ++ s.vals
    ++ (s.stack.filterMap (fun f => match f with | .dropVal v => some v | _ => none))

def State.destroyedVids (s : State) : List Nat :=
  s.log.filterMap (fun e => match e with | .destroyed v => some v | _ => none)

def State.freedIds (s : State) : List Nat :=
  s.log.filterMap (fun e => match e with | .freed o => some o | _ => none)

def State.InvV (s : State) : Prop :=
  ((s.allVals.map (·.vid)) ++ s.destroyedVids).Nodup
    ∧ ∀ x ∈ (s.allVals.map (·.vid)) ++ s.destroyedVids, x < s.nextVid

def State.InvF (s : State) : Prop :=
  s.freedIds.Nodup ∧ ∀ o ∈ s.freedIds, ∃ ob, s.heap[o]? = some ob ∧ ob.freed = true

theorem filterMap_cons_toList {α β : Type} (f : α → Option β) (x : α) (r : List α) :
    (x :: r).filterMap f = (f x).toList ++ r.filterMap f := by
  cases h : f x <;> simp [h]

theorem filterMap_set_perm {α : Type} (f : α → Option Nat) (l : List α) (o : Nat) (a b : α)
    (h : l[o]? = some a) :
    ((f a).toList ++ (l.set o b).filterMap f).Perm ((f b).toList ++ l.filterMap f) := by
  induction l generalizing o with
  | nil => simp at h
  | cons x r ih =>
    cases o with
    | zero =>
      simp at h; subst h
      simp only [List.set_cons_zero, filterMap_cons_toList]
      exact List.perm_append_comm_assoc _ _ _
    | succ o =>
      simp at h
      simp only [List.set_cons_succ, filterMap_cons_toList]
      refine (List.perm_append_comm_assoc _ _ _).trans ?_
      refine .trans ?_ (List.perm_append_comm_assoc _ _ _)
      exact (List.perm_append_left_iff _).mpr (ih o h)

theorem filterMap_set_same {α β : Type} (f : α → Option β) (l : List α) (o : Nat) (a b : α)
    (h : l[o]? = some a) (hf : f b = f a) : (l.set o b).filterMap f = l.filterMap f := by
  induction l generalizing o with
  | nil => simp
  | cons x r ih =>
    cases o with
    | zero =>
      simp at h; subst h
      simp only [List.set_cons_zero, filterMap_cons_toList, hf]
    | succ o =>
      simp at h
      simp only [List.set_cons_succ, filterMap_cons_toList, ih o h]

def Frame.vidOf : Frame → Option Nat
  | .dropVal v => some v.vid
  | _ => none

def Ev.dvid : Ev → Option Nat
  | .destroyed v => some v
  | _ => none

def Ev.fid : Ev → Option Nat
  | .freed o => some o
  | _ => none

def Obj.vidOf (ob : Obj) : Option Nat := ob.value.map (·.vid)

namespace State

def hv (s : State) : List Nat := s.heap.filterMap Obj.vidOf
def sv (s : State) : List Nat := s.stack.filterMap Frame.vidOf
def vidList (s : State) : List Nat := s.hv ++ s.vals.map (·.vid) ++ s.sv ++ s.destroyedVids

theorem destroyedVids_eq (s : State) : s.destroyedVids = s.log.filterMap Ev.dvid := by
  unfold destroyedVids
  congr 1

theorem freedIds_eq (s : State) : s.freedIds = s.log.filterMap Ev.fid := by
  unfold freedIds
  congr 1

theorem vidList_eq (s : State) : s.allVals.map (·.vid) ++ s.destroyedVids = s.vidList := by
  unfold vidList allVals hv sv
  simp only [List.map_append, List.map_filterMap]
  congr 3
  funext f
  cases f <;> rfl

theorem InvV_iff (s : State) : s.InvV ↔ s.vidList.Nodup ∧ ∀ x ∈ s.vidList, x < s.nextVid := by
  unfold InvV; rw [vidList_eq]


/-- only counters, link tables, handle lists, flags and the error field differ -/
structure Keep (s s' : State) : Prop where
  heap : s'.heap.map (fun ob => (ob.value, ob.freed)) = s.heap.map (fun ob => (ob.value, ob.freed))
  vals : s'.vals = s.vals
  stack : s'.stack = s.stack
  log : s'.log = s.log
  nextVid : s'.nextVid = s.nextVid

theorem Keep.refl (s : State) : s.Keep s := ⟨rfl, rfl, rfl, rfl, rfl⟩

theorem Keep.trans {a b c : State} (h1 : a.Keep b) (h2 : b.Keep c) : a.Keep c :=
  ⟨h2.heap.trans h1.heap, h2.vals.trans h1.vals, h2.stack.trans h1.stack, h2.log.trans h1.log,
    h2.nextVid.trans h1.nextVid⟩

theorem Keep.of_fields {s s' : State} (h1 : s'.heap = s.heap) (h2 : s'.vals = s.vals)
    (h3 : s'.stack = s.stack) (h4 : s'.log = s.log) (h5 : s'.nextVid = s.nextVid) : s.Keep s' :=
  ⟨by rw [h1], h2, h3, h4, h5⟩

theorem Keep.fail (s : State) (e : Err) : s.Keep (s.fail e) := by
  unfold State.fail; split
  · exact Keep.refl s
  · exact Keep.of_fields rfl rfl rfl rfl rfl

theorem Keep.getElem {s s' : State} (h : s.Keep s') {o : Nat} {ob : Obj} (hg : s.heap[o]? = some ob) :
    ∃ ob', s'.heap[o]? = some ob' ∧ ob'.value = ob.value ∧ ob'.freed = ob.freed := by
  have := congrArg (·[o]?) h.heap
  simp only [List.getElem?_map, hg, Option.map_some] at this
  cases hg' : s'.heap[o]? with
  | none => rw [hg'] at this; cases this
  | some ob' =>
    rw [hg'] at this
    injection this with this
    injection this with hv hf
    exact ⟨ob', rfl, hv, hf⟩

theorem Keep.cell {s s' : State} (h : s.Keep s') {o : Nat} {ob : Obj} (hc : s.cell o = some ob) :
    ∃ ob', s'.cell o = some ob' ∧ ob'.value = ob.value := by
  obtain ⟨ob', hg', hv, hf⟩ := h.getElem (get_of_cell hc)
  exact ⟨ob', cell_of_not_freed hg' (hf.trans (freed_of_cell hc)), hv⟩

theorem Keep.setObj {s : State} {o : Nat} {ob : Obj} (ob' : Obj) (hc : s.cell o = some ob)
    (hv : ob'.value = ob.value) (hf : ob'.freed = ob.freed) : s.Keep (s.setObj o ob') := by
  refine ⟨?_, rfl, rfl, rfl, rfl⟩
  show (s.heap.set o ob').map _ = _
  apply List.ext_getElem?
  intro i
  simp only [List.getElem?_map, List.getElem?_set]
  split
  · rename_i hio; subst hio
    rw [get_of_cell hc]
    have := get_lt (get_of_cell hc)
    simp [this, hv, hf]
  · rfl

/-- value identifiers are only moved around, `nextVid` is unchanged, `InvF` is preserved -/
structure Mv (s s' : State) : Prop where
  perm : s'.vidList.Perm s.vidList
  nv : s'.nextVid = s.nextVid
  f : s.InvF → s'.InvF

theorem Mv.refl (s : State) : s.Mv s := ⟨List.Perm.refl _, rfl, id⟩

theorem Mv.trans {a b c : State} (h1 : a.Mv b) (h2 : b.Mv c) : a.Mv c :=
  ⟨h2.perm.trans h1.perm, h2.nv.trans h1.nv, fun h => h2.f (h1.f h)⟩

theorem Mv.invV {s s' : State} (h : s.Mv s') (hv : s.InvV) : s'.InvV := by
  rw [InvV_iff] at hv ⊢
  refine ⟨(h.perm.nodup_iff).mpr hv.1, ?_⟩
  intro x hx
  rw [h.nv]
  exact hv.2 x ((h.perm.mem_iff).mp hx)

theorem InvF_of_mono {s s' : State} (fr : s'.freedIds = s.freedIds)
    (mono : ∀ (o : Nat) (ob : Obj), s.heap[o]? = some ob → ob.freed = true →
      ∃ ob' : Obj, s'.heap[o]? = some ob' ∧ ob'.freed = true)
    (h : s.InvF) : s'.InvF := by
  unfold InvF at h ⊢
  rw [fr]
  refine ⟨h.1, ?_⟩
  intro o ho
  obtain ⟨ob, h1, h2⟩ := h.2 o ho
  exact mono o ob h1 h2

theorem Keep.hv {s s' : State} (h : s.Keep s') : s'.hv = s.hv := by
  unfold State.hv
  have : ∀ l : List Obj, l.filterMap Obj.vidOf
      = (l.map (fun ob => (ob.value, ob.freed))).filterMap (fun p => p.1.map (·.vid)) := by
    intro l; rw [List.filterMap_map]; rfl
  rw [this, this, h.heap]

theorem Keep.mv {s s' : State} (h : s.Keep s') : s.Mv s' := by
  refine ⟨?_, h.nextVid, ?_⟩
  · unfold vidList State.sv
    rw [h.hv, h.vals, h.stack, destroyedVids_eq, destroyedVids_eq, h.log]
  · refine InvF_of_mono (by rw [freedIds_eq, freedIds_eq, h.log]) (fun o ob hg hf => ?_)
    obtain ⟨ob', hg', _, hf'⟩ := h.getElem hg
    exact ⟨ob', hg', hf'.trans hf⟩

structure Pres (s s' : State) : Prop where
  v : s.InvV → s'.InvV
  f : s.InvF → s'.InvF

theorem Pres.refl (s : State) : s.Pres s := ⟨id, id⟩
theorem Pres.trans {a b c : State} (h1 : a.Pres b) (h2 : b.Pres c) : a.Pres c :=
  ⟨fun h => h2.v (h1.v h), fun h => h2.f (h1.f h)⟩
theorem Mv.pres {s s' : State} (h : s.Mv s') : s.Pres s' := ⟨h.invV, h.f⟩
theorem Keep.pres {s s' : State} (h : s.Keep s') : s.Pres s' := h.mv.pres


theorem destroyedVids_emit (s : State) (e : Ev) :
    (s.emit e).destroyedVids = s.destroyedVids ++ e.dvid.toList := by
  rw [destroyedVids_eq, destroyedVids_eq]
  show (s.log ++ [e]).filterMap Ev.dvid = _
  rw [List.filterMap_append, filterMap_cons_toList]; simp

theorem freedIds_emit (s : State) (e : Ev) : (s.emit e).freedIds = s.freedIds ++ e.fid.toList := by
  rw [freedIds_eq, freedIds_eq]
  show (s.log ++ [e]).filterMap Ev.fid = _
  rw [List.filterMap_append, filterMap_cons_toList]; simp

theorem vidList_emit (s : State) (e : Ev) : (s.emit e).vidList = s.vidList ++ e.dvid.toList := by
  unfold vidList
  rw [destroyedVids_emit]
  simp only [List.append_assoc]
  rfl

theorem sv_push (s : State) (fs : List Frame) : (s.push fs).sv = fs.filterMap Frame.vidOf ++ s.sv := by
  unfold State.sv
  show (fs ++ s.stack).filterMap Frame.vidOf = _
  rw [List.filterMap_append]

theorem vidList_push (s : State) (fs : List Frame) :
    (s.push fs).vidList.Perm (fs.filterMap Frame.vidOf ++ s.vidList) := by
  unfold vidList
  rw [sv_push]
  show (s.hv ++ s.vals.map (·.vid) ++ (fs.filterMap Frame.vidOf ++ s.sv) ++ s.destroyedVids).Perm _
  rw [List.perm_iff_count]; intro a
  simp only [List.count_append]; omega

theorem vidList_setObj_same {s : State} {o : Nat} {ob : Obj} (ob' : Obj) (hg : s.heap[o]? = some ob)
    (hv : ob'.vidOf = ob.vidOf) : (s.setObj o ob').vidList = s.vidList := by
  unfold vidList
  have : (s.setObj o ob').hv = s.hv := filterMap_set_same Obj.vidOf s.heap o ob ob' hg hv
  rw [this]; rfl

theorem vidList_setObj_perm {s : State} {o : Nat} {ob : Obj} (ob' : Obj) (hg : s.heap[o]? = some ob) :
    (ob.vidOf.toList ++ (s.setObj o ob').vidList).Perm (ob'.vidOf.toList ++ s.vidList) := by
  have h : (ob.vidOf.toList ++ (s.setObj o ob').hv).Perm (ob'.vidOf.toList ++ s.hv) :=
    filterMap_set_perm Obj.vidOf s.heap o ob ob' hg
  unfold vidList
  show (ob.vidOf.toList ++ ((s.setObj o ob').hv ++ s.vals.map (·.vid) ++ s.sv ++ s.destroyedVids)).Perm _
  rw [List.perm_iff_count] at h ⊢; intro a
  have := h a
  simp only [List.count_append] at this ⊢; omega

theorem vidList_take {s : State} {o : Nat} {ob : Obj} {v : Val} (ob' : Obj) (hc : s.cell o = some ob)
    (hv : ob.value = some v) (hv' : ob'.value = none) : (v.vid :: (s.setObj o ob').vidList).Perm s.vidList := by
  have h := vidList_setObj_perm ob' (get_of_cell hc)
  simpa only [Obj.vidOf, hv, hv', Option.map_some, Option.map_none, Option.toList_some, Option.toList_none,
    List.singleton_append, List.nil_append] using h

/-- a readable cell is not released, so overwriting it leaves the released ones alone -/
theorem InvF_setObj_cell {s : State} {o : Nat} {ob : Obj} (ob' : Obj) (hc : s.cell o = some ob)
    (h : s.InvF) : (s.setObj o ob').InvF := by
  refine InvF_of_mono (s := s) (s' := s.setObj o ob') rfl (fun o1 ob1 hg hf => ?_) h
  by_cases h : o1 = o
  · subst h
    rw [get_of_cell hc] at hg; cases hg
    rw [freed_of_cell hc] at hf; cases hf
  · exact ⟨ob1, by rw [getElem?_setObj_other s _ h]; exact hg, hf⟩

theorem InvF_emit (s : State) (e : Ev) (h2 : e.fid = none) (h : s.InvF) : (s.emit e).InvF := by
  refine InvF_of_mono (s := s) ?_ ?_ h
  · rw [freedIds_emit, h2]; simp
  · intro o ob hg hf; exact ⟨ob, hg, hf⟩

theorem Mv.emit (s : State) (e : Ev) (h1 : e.dvid = none) (h2 : e.fid = none) : s.Mv (s.emit e) := by
  refine ⟨?_, rfl, InvF_emit s e h2⟩
  rw [vidList_emit, h1]; simp

theorem Mv.push (s : State) (fs : List Frame) (h : fs.filterMap Frame.vidOf = []) : s.Mv (s.push fs) := by
  refine ⟨?_, rfl, ?_⟩
  · have := vidList_push s fs
    rw [h] at this; simpa using this
  · exact id

theorem Mv.setObj {s : State} {o : Nat} {ob : Obj} (ob' : Obj) (hc : s.cell o = some ob)
    (hv : ob'.vidOf = ob.vidOf) : s.Mv (s.setObj o ob') := by
  refine ⟨?_, rfl, InvF_setObj_cell ob' hc⟩
  rw [vidList_setObj_same ob' (get_of_cell hc) hv]

theorem Mv.modVal (s : State) (o : Nat) (f : Val → Val) (hf : ∀ v, (f v).vid = v.vid) :
    s.Mv (s.modVal o f) := by
  rcases modVal_cases s o f with ⟨e, he⟩ | ⟨ob, v, hc, hv, he⟩ <;> rw [he]
  · exact (Keep.fail s e).mv
  · apply Mv.setObj _ hc
    simp [Obj.vidOf, hv, hf]

theorem not_mem_freedIds_of_cell {s : State} {o : Nat} {ob : Obj} (hc : s.cell o = some ob)
    (h : s.InvF) : o ∉ s.freedIds := by
  intro hm
  obtain ⟨ob1, h1, h2⟩ := h.2 o hm
  rw [get_of_cell hc] at h1; cases h1
  rw [freed_of_cell hc] at h2; cases h2

theorem Mv.decWeakFree (s : State) (o : Nat) (imp : Bool) : s.Mv (s.decWeakFree o imp) := by
  rcases decWeakFree_cases s o imp with ⟨e, he⟩ | ⟨ob, hc, hw, he⟩ | ⟨ob, w, hc, hw, he⟩ <;> rw [he]
  · exact (Keep.fail s e).mv
  · refine ⟨?_, rfl, ?_⟩
    · rw [vidList_emit, vidList_setObj_same
        { ob with weak := 0, freed := true, implicit := ob.implicit && !imp } (get_of_cell hc) rfl]
      simp [Ev.dvid]
    · intro hF
      have hn := not_mem_freedIds_of_cell hc hF
      unfold InvF
      rw [freedIds_emit]
      show (s.freedIds ++ [o]).Nodup ∧ _
      refine ⟨?_, ?_⟩
      · rw [List.nodup_append]
        refine ⟨hF.1, by simp, ?_⟩
        intro a ha b hb
        simp at hb; subst hb
        intro hab; subst hab; exact hn ha
      · intro o1 ho1
        rw [List.mem_append] at ho1
        rcases ho1 with h1 | h1
        · obtain ⟨ob1, g1, f1⟩ := hF.2 o1 h1
          have hne : o1 ≠ o := fun h => hn (h ▸ h1)
          exact ⟨ob1, by show (s.setObj o _).heap[o1]? = _; rw [getElem?_setObj_other s _ hne]; exact g1, f1⟩
        · simp [Ev.fid] at h1; subst h1
          exact ⟨_, getElem?_setObj_same _ (get_lt (get_of_cell hc)), rfl⟩
  · exact Mv.setObj _ hc rfl


theorem Keep.setLinks (s : State) (o : Nat) (f : Table → Table) : s.Keep (s.setLinks o f) := by
  rcases setLinks_cases s o f with ⟨e, he⟩ | ⟨ob, t, hc, hl, he⟩ <;> rw [he]
  · exact Keep.fail s e
  · exact Keep.setObj _ hc rfl rfl

theorem Keep.incStrong (s : State) (o : Nat) : s.Keep (s.incStrong o) := by
  rcases incStrong_cases s o with ⟨e, he⟩ | ⟨ob, n, hc, hs, he⟩ <;> rw [he]
  · exact Keep.fail s e
  · exact Keep.setObj _ hc rfl rfl

theorem Keep.incWeak (s : State) (o : Nat) : s.Keep (s.incWeak o) := by
  rcases incWeak_cases s o with ⟨e, he⟩ | ⟨ob, hc, hw, he⟩ <;> rw [he]
  · exact Keep.fail s e
  · exact Keep.setObj _ hc rfl rfl

theorem Keep.unadopt (s : State) (a b : Nat) (same : Bool) : s.Keep (s.unadopt a b same) :=
  unadopt_rel (R := Keep) Keep.trans (fun s o f _ => Keep.setLinks s o f) s a b same

theorem Keep.purgePeers (s : State) (x : Nat) : s.Keep (s.purgePeers x) :=
  purgePeers_rel Keep.refl Keep.trans (fun s o f _ => Keep.setLinks s o f) (fun s e _ => Keep.fail s e) s x

theorem Keep.phase1One (keys : List Nat) (s : State) (e : Nat × Nat) : s.Keep (State.phase1One keys s e) := by
  unfold State.phase1One
  split
  · rename_i ob hc
    split
    · exact Keep.setObj _ hc rfl rfl
    · exact Keep.fail s _
    · exact Keep.fail s _
  · exact Keep.fail s _

theorem Keep.cloneHandles (s : State) (v : Val) : s.Keep (s.cloneHandles v) :=
  cloneHandles_rel Keep.refl Keep.trans Keep.incStrong Keep.incWeak s v

theorem Keep.badRoot (s : State) (r : Nat) : s.Keep (s.badRoot r) := by
  rcases badRoot_cases s r with h | ⟨e, h⟩ <;> rw [h]
  · exact Keep.refl s
  · exact Keep.fail s e

theorem Mv.beginSingle (s : State) (o : Nat) : s.Mv (s.beginSingle o) := by
  unfold State.beginSingle
  split
  · rename_i ob hc
    split
    · exact Mv.decWeakFree s o true
    · split
      · rename_i v hv
        -- the value leaves the cell and waits in the `dropVal` frame
        exact ⟨(vidList_push _ _).trans (vidList_take _ hc hv rfl), rfl, InvF_setObj_cell _ hc⟩
      · exact (Keep.fail s _).mv
  · exact (Keep.fail s _).mv

theorem Mv.finishSingle (s : State) (o : Nat) : s.Mv (s.finishSingle o) := by
  unfold State.finishSingle
  split
  · rename_i ob hc
    split
    · exact (Mv.setObj { ob with links := none } hc rfl).trans (Mv.decWeakFree _ _ _)
    · exact (Keep.fail s _).mv
  · exact (Keep.fail s _).mv

theorem Mv.phase3One (s : State) (k : Nat) : s.Mv (s.phase3One k) := by
  unfold State.phase3One
  split
  · split
    · exact Mv.decWeakFree _ _ _
    · exact Mv.refl s
  · exact (Keep.fail s _).mv

/-- `giveUp o` once the value `v` of `o` has been copied elsewhere (`s0` is `s` with the copy):
exactly `v` leaves the heap -/
theorem giveUp_moved {s s0 : State} {o : Nat} {ob : Obj} {v : Val} (hc0 : s0.cell o = some ob)
    (hv : ob.value = some v) (hp : s0.vidList.Perm (v.vid :: s.vidList)) (hn : s0.nextVid = s.nextVid)
    (hF : s.InvF → s0.InvF) : s.Mv (s0.giveUp o) := by
  have hm := (Keep.purgePeers s0 o).mv
  obtain ⟨ob', hc', hv'⟩ := (Keep.purgePeers s0 o).cell hc0
  have hd := Mv.decWeakFree
    ((s0.purgePeers o).setObj o { ob' with strong := .cnt 0, value := none, links := none }) o true
  have h2 := vidList_take { ob' with strong := .cnt 0, value := none, links := none } hc' (hv'.trans hv) rfl
  simp only [State.giveUp, hc']
  exact ⟨((((hd.perm.cons v.vid).trans h2).trans hm.perm).trans hp).cons_inv, (hd.nv.trans hm.nv).trans hn,
    fun h => hd.f (InvF_setObj_cell _ hc' (hm.f (hF h)))⟩

structure Mv2 (a b : State × List Val) : Prop where
  perm : (b.1.vidList ++ b.2.map (·.vid)).Perm (a.1.vidList ++ a.2.map (·.vid))
  nv : b.1.nextVid = a.1.nextVid
  f : a.1.InvF → b.1.InvF

theorem Mv2.refl (a : State × List Val) : Mv2 a a := ⟨List.Perm.refl _, rfl, id⟩

theorem Mv2.trans {a b c : State × List Val} (h1 : Mv2 a b) (h2 : Mv2 b c) : Mv2 a c :=
  ⟨h2.perm.trans h1.perm, h2.nv.trans h1.nv, fun h => h2.f (h1.f h)⟩

theorem Mv2.of_mv {s s' : State} (h : s.Mv s') (l : List Val) : Mv2 (s, l) (s', l) :=
  ⟨(List.perm_append_right_iff _).mpr h.perm, h.nv, h.f⟩

theorem Mv2.phase2One (acc : State × List Val) (k : Nat) : Mv2 acc (State.phase2One acc k) := by
  unfold State.phase2One
  split
  · rename_i ob hc
    split
    · split
      · rename_i v hv
        refine ⟨?_, rfl, InvF_setObj_cell _ hc⟩
        have h2 := vidList_take { ob with strong := .uninit, value := none, links := none } hc hv rfl
        show (_ ++ List.map _ (acc.2 ++ [v])).Perm _
        rw [List.map_append, ← List.append_assoc]
        exact List.perm_append_comm.trans (h2.append_right _)
      · exact Mv2.of_mv (Keep.fail _ _).mv _
    · exact Mv2.refl _
  · exact Mv2.of_mv (Keep.fail _ _).mv _

theorem filterMap_vidOf_dropVals (l : List Val) (ks : List Nat) :
    (l.map Frame.dropVal ++ [Frame.phase3 ks]).filterMap Frame.vidOf = l.map (·.vid) := by
  induction l with
  | nil => rfl
  | cons v l ih => simp only [List.map_cons, List.cons_append, filterMap_cons_toList, ih]; rfl

theorem Mv.dropCycle (s : State) (c : CMap) : s.Mv (s.dropCycle c) := by
  unfold State.dropCycle
  dsimp only
  have h1 : s.Keep (c.foldl (State.phase1One c.keys) s) := foldl_lift Keep.refl Keep.trans (Keep.phase1One _) _ _
  have h2 := foldl_lift Mv2.refl Mv2.trans Mv2.phase2One c.keys (c.foldl (State.phase1One c.keys) s, [])
  generalize c.foldl (State.phase1One c.keys) s = s1 at h1 h2
  generalize c.keys.foldl State.phase2One (s1, []) = r at h2
  have h1 := h1.mv
  refine ⟨?_, h2.nv.trans h1.nv, fun h => h2.f (h1.f h)⟩
  -- the collected values go from the list to the control stack, in the order the hint selects
  have h3 := vidList_push r.1 ((reorder s.hint r.2).map Frame.dropVal ++ [Frame.phase3 c.keys])
  rw [filterMap_vidOf_dropVals] at h3
  have h4 := (reorder_perm s.hint r.2).map (·.vid)
  have h6 : (r.1.vidList ++ r.2.map (·.vid)).Perm s1.vidList := by simpa using h2.perm
  exact h3.trans (((h4.append_right _).trans List.perm_append_comm).trans (h6.trans h1.perm))

theorem Mv.rcDrop (s : State) (o : Nat) : s.Mv (s.rcDrop o) :=
  rcDrop_lift Mv.refl Mv.trans (fun s e => (Keep.fail s e).mv) (fun hc _ => Mv.setObj _ hc rfl)
    Mv.beginSingle (fun s o => (Keep.purgePeers s o).mv) (fun s _ _ _ => Mv.emit s _ rfl rfl) Mv.dropCycle s o


theorem vidList_pop {s : State} {f : Frame} {rest : List Frame} (h : s.stack = f :: rest) :
    s.vidList.Perm (f.vidOf.toList ++ ({ s with stack := rest } : State).vidList) := by
  unfold vidList State.sv
  rw [h, filterMap_cons_toList]
  show (s.hv ++ s.vals.map (·.vid) ++ (f.vidOf.toList ++ rest.filterMap Frame.vidOf) ++ s.destroyedVids).Perm
    (f.vidOf.toList ++ (s.hv ++ s.vals.map (·.vid) ++ rest.filterMap Frame.vidOf ++ s.destroyedVids))
  rw [List.perm_iff_count]; intro a
  simp only [List.count_append]; omega

theorem Mv.pop {s : State} {f : Frame} {rest : List Frame} (h : s.stack = f :: rest)
    (hf : f.vidOf = none) : s.Mv { s with stack := rest } := by
  refine ⟨?_, rfl, id⟩
  have := vidList_pop h
  rw [hf] at this
  exact this.symm

theorem Mv.pop_dropVal {s : State} {v : Val} {rest : List Frame} (h : s.stack = .dropVal v :: rest) :
    s.Mv (({ s with stack := rest } : State).dropVal v) := by
  unfold State.dropVal
  refine ⟨?_, rfl, ?_⟩
  · have h1 := vidList_pop h
    have h2 := vidList_push (({ s with stack := rest } : State).emit (.destroyed v.vid))
      ([.script v.held v.weaks v.script] ++ (if v.panics then [.panic] else []) ++ [.dropFields v.held v.weaks])
    have h3 : ([Frame.script v.held v.weaks v.script] ++ (if v.panics then [Frame.panic] else [])
        ++ [Frame.dropFields v.held v.weaks]).filterMap Frame.vidOf = [] := by
      cases v.panics <;> rfl
    rw [h3, vidList_emit, List.nil_append] at h2
    exact h2.trans (List.perm_append_comm.trans h1.symm)
  · intro hF
    exact InvF_emit ({ s with stack := rest } : State) (.destroyed v.vid) rfl hF

theorem filterMap_vidOf_filter (l : List Frame) :
    (l.filter Frame.isCleanup).filterMap Frame.vidOf = l.filterMap Frame.vidOf := by
  induction l with
  | nil => rfl
  | cons f l ih =>
    cases f <;> simp [List.filter_cons, Frame.isCleanup, filterMap_cons_toList, ih, Frame.vidOf]

theorem Mv.panic (s : State) : s.Mv s.panic := by
  unfold State.panic
  split
  · exact (Keep.fail s _).mv
  · refine ⟨?_, rfl, id⟩
    unfold vidList State.sv
    show (s.hv ++ s.vals.map (·.vid) ++ (s.stack.filter Frame.isCleanup).filterMap Frame.vidOf
      ++ s.destroyedVids).Perm _
    rw [filterMap_vidOf_filter]

theorem Mv.dropFields (s : State) (h w : List Nat) : s.Mv (s.dropFields h w) := by
  unfold State.dropFields
  split
  · exact Mv.push _ _ rfl
  · exact Mv.push _ _ rfl
  · exact Mv.refl s

end State

open State

theorem vidList_heap_append {s s' : State} {ob : Obj} {v : Val} (h1 : s'.heap = s.heap ++ [ob])
    (h2 : s'.vals = s.vals) (h3 : s'.stack = s.stack) (h4 : s'.log = s.log) (hv : ob.value = some v) :
    s'.vidList.Perm (v.vid :: s.vidList) := by
  unfold vidList State.hv State.sv
  rw [destroyedVids_eq, destroyedVids_eq, h1, h2, h3, h4, List.filterMap_append, filterMap_cons_toList]
  rw [List.perm_iff_count]; intro a
  simp [Obj.vidOf, hv, List.count_cons]; omega

theorem InvF_heap_append {s s' : State} {ob : Obj} (h1 : s'.heap = s.heap ++ [ob])
    (h4 : s'.log = s.log) (h : s.InvF) : s'.InvF := by
  refine InvF_of_mono (s := s) ?_ ?_ h
  · rw [freedIds_eq, freedIds_eq, h4]
  · intro o x hg hf
    refine ⟨x, ?_, hf⟩
    rw [h1, List.getElem?_append_left (get_lt hg)]; exact hg

theorem cell_heap_append {s s' : State} {ob x : Obj} {o : Nat} (h1 : s'.heap = s.heap ++ [ob])
    (hc : s.cell o = some x) : s'.cell o = some x := by
  have hg := get_of_cell hc
  refine cell_of_not_freed ?_ (freed_of_cell hc)
  rw [h1, List.getElem?_append_left (get_lt hg), hg]

theorem alloc_fresh {s s' : State} {ob : Obj} {v : Val} (h1 : s'.heap = s.heap ++ [ob])
    (h2 : s'.vals = s.vals) (h3 : s'.stack = s.stack) (h4 : s'.log = s.log)
    (hv : ob.value = some v) (hvid : v.vid = s.nextVid) (h5 : s'.nextVid = s.nextVid + 1) : s.Pres s' := by
  refine ⟨?_, InvF_heap_append h1 h4⟩
  intro hV
  rw [InvV_iff] at hV ⊢
  have hp := vidList_heap_append h1 h2 h3 h4 hv
  refine ⟨hp.nodup_iff.mpr ?_, ?_⟩
  · rw [List.nodup_cons]
    refine ⟨?_, hV.1⟩
    intro hm
    have := hV.2 _ hm
    omega
  · intro x hx
    have hx := hp.mem_iff.mp hx
    rw [List.mem_cons] at hx
    rcases hx with hx | hx
    · omega
    · have := hV.2 _ hx; omega

theorem vidList_vals_append {s s' : State} {v : Val} (h1 : s'.heap = s.heap)
    (h2 : s'.vals = s.vals ++ [v]) (h3 : s'.stack = s.stack) (h4 : s'.log = s.log) :
    s'.vidList.Perm (v.vid :: s.vidList) := by
  unfold vidList State.hv State.sv
  rw [destroyedVids_eq, destroyedVids_eq, h1, h2, h3, h4, List.map_append]
  rw [List.perm_iff_count]; intro a
  simp [List.count_cons]; omega


theorem vidList_vals_erase {s s' : State} {v : Val} (h1 : s'.heap = s.heap)
    (h2 : (v :: s'.vals).Perm s.vals) (h3 : s'.stack = s.stack) (h4 : s'.log = s.log) :
    (v.vid :: s'.vidList).Perm s.vidList := by
  have h2 := h2.map (·.vid)
  unfold vidList State.hv State.sv
  rw [destroyedVids_eq, destroyedVids_eq, h1, h3, h4]
  rw [List.perm_iff_count] at h2 ⊢; intro a
  have h2 := h2 a
  simp [List.count_cons] at h2 ⊢; omega

/-- across an action that moves no value: every elementary update keeps the identifiers where
they are, and the frame pushed carries none -/
theorem State.Mv.of_shape {a : Act} (ha : ¬ a.movesValue) {s u : State} (h : ActShape a s u) : s.Mv u := by
  refine h.lift Mv.refl Mv.trans (fun p => ?_) (fun t d _ hv => Mv.push t [d] ?_)
  · cases p with
    | fail => exact (Keep.fail _ _).mv
    | ret => exact Mv.emit _ _ rfl rfl
    | incStrong => exact (Keep.incStrong _ _).mv
    | incWeak => exact (Keep.incWeak _ _).mv
    | setLinks => exact (Keep.setLinks _ _ _).mv
    | modVal _ _ hf => exact Mv.modVal _ _ _ (fun v => (hf v).1)
    | handles => exact Keep.mv (Keep.of_fields rfl rfl rfl rfl rfl)
    | valsPush _ hm | valsErase _ hm | nextVid _ hm | alloc _ hm | giveUp _ hm => exact absurd hm ha
  · cases d with
    | dropVal v => exact absurd (hv v rfl) ha
    | _ => rfl

theorem applyAct_pres (s : State) (fh fw : List Nat) (a : Act) : s.Pres (applyAct s fh fw a) := by
  cases a with
  | new =>
    dsimp only [applyAct]
    exact alloc_fresh rfl rfl rfl rfl rfl rfl rfl
  | tryUnwrap r =>
    dsimp only [applyAct]; split
    · split
      · rename_i ob hc
        split
        · rename_i v hs hv
          refine Mv.pres (Mv.trans ?_ (Mv.emit _ _ rfl rfl))
          exact giveUp_moved hc hv (vidList_vals_append rfl rfl rfl rfl) rfl id
        · exact (Keep.fail _ _).pres
        · exact (Mv.emit _ _ rfl rfl).pres
      · exact (Keep.fail _ _).pres
    · exact (Keep.badRoot _ _).pres
  | dropValue i =>
    dsimp only [applyAct]; split
    · rename_i v hn
      have hp := eraseIdx_perm_cons' s.vals _ v (getElem?_idxMod_of_nthMod hn)
      refine Mv.pres ⟨(vidList_push _ _).trans ?_, rfl, id⟩
      exact vidList_vals_erase (s := s) (s' := { s with vals := s.vals.eraseIdx (idxMod s.vals i) })
        rfl hp rfl rfl
    · exact Pres.refl s
  | makeMut r =>
    dsimp only [applyAct]; split
    · rename_i o ho
      split
      · rename_i ob hc
        split
        · rename_i v hv
          split
          · refine Pres.trans ?_ (Mv.pres (Mv.trans (Mv.emit _ _ rfl rfl) (Mv.push _ _ rfl)))
            by_cases hsh : v.shallow = true
            · simp only [if_pos hsh]
              exact alloc_fresh rfl rfl rfl rfl rfl rfl rfl
            · simp only [if_neg hsh]
              have hk := Keep.cloneHandles s v
              refine Pres.trans hk.pres ?_
              exact alloc_fresh rfl rfl rfl rfl rfl hk.nextVid.symm (by rw [hk.nextVid])
          · split
            · refine Mv.pres (Mv.trans ?_ (Mv.emit _ _ rfl rfl))
              refine giveUp_moved (ob := ob) ?_ hv ?_ rfl ?_
              · exact cell_heap_append (s := s) rfl hc
              · exact vidList_heap_append (s := s) rfl rfl rfl rfl rfl
              · exact InvF_heap_append (s := s) rfl rfl
            · exact (Mv.emit _ _ rfl rfl).pres
        · exact (Keep.fail _ _).pres
      · exact (Keep.fail _ _).pres
    · exact (Keep.badRoot _ _).pres
  | _ => exact (Mv.of_shape id (applyAct_shape _ _ _ _)).pres

theorem applyOp_pres (s : State) (op : Op) : s.Pres (applyOp s op) := by
  cases op with
  | act a => exact applyAct_pres s [] [] a
  | setScript q acts =>
    simp only [applyOp]; split
    · exact Mv.pres (Mv.modVal _ _ _ (fun _ => rfl))
    · exact (Keep.badRoot _ _).pres
  | shuffle q i =>
    simp only [applyOp]; split
    · exact (Keep.setLinks _ _ _).pres
    · exact (Keep.badRoot _ _).pres

theorem step_pres (s : State) : s.Pres (step s) := by
  rcases step_cases s with h | ⟨f, rest, he, hst⟩
  · rw [h]; exact Pres.refl s
  · rw [step_eq_frame he hst]
    cases f with
    | rcDrop o => exact ((Mv.pop hst rfl).trans (Mv.rcDrop _ o)).pres
    | weakDrop o => exact ((Mv.pop hst rfl).trans (Mv.decWeakFree _ o false)).pres
    | dropVal v => exact (Mv.pop_dropVal hst).pres
    | script h w acts =>
      cases acts with
      | nil => exact (Mv.pop hst rfl).pres
      | cons a as =>
        exact ((Mv.pop hst rfl).trans (Mv.push _ [.script h w as] rfl)).pres.trans (applyAct_pres _ h w a)
    | panic => exact ((Mv.pop hst rfl).trans (Mv.panic _)).pres
    | dropFields h w => exact ((Mv.pop hst rfl).trans (Mv.dropFields _ h w)).pres
    | finishSingle o => exact ((Mv.pop hst rfl).trans (Mv.finishSingle _ o)).pres
    | phase3 ks => exact ((Mv.pop hst rfl).trans (foldl_lift Mv.refl Mv.trans Mv.phase3One ks _)).pres

theorem endOp_pres (s : State) : s.Pres (endOp s) := by
  unfold endOp
  split
  · refine Mv.pres (Mv.trans ?_ (Mv.emit _ _ rfl rfl))
    exact Keep.mv (Keep.of_fields rfl rfl rfl rfl rfl)
  · exact Pres.refl s

theorem begin_pres (s : State) (hint : List Nat) : s.Pres (s.begin hint) :=
  (Keep.of_fields (s := s) (s' := s.begin hint) rfl rfl rfl rfl rfl).pres

theorem fail_pres (s : State) (e : Err) : s.Pres (s.fail e) := (Keep.fail s e).pres

/-! the statements in the form "preserved by every transition" -/

theorem applyAct_invV (s : State) (fh fw : List Nat) (a : Act) (h : s.InvV) : (applyAct s fh fw a).InvV :=
  (applyAct_pres s fh fw a).v h
theorem applyAct_invF (s : State) (fh fw : List Nat) (a : Act) (h : s.InvF) : (applyAct s fh fw a).InvF :=
  (applyAct_pres s fh fw a).f h
theorem applyOp_invV (s : State) (op : Op) (h : s.InvV) : (applyOp s op).InvV := (applyOp_pres s op).v h
theorem applyOp_invF (s : State) (op : Op) (h : s.InvF) : (applyOp s op).InvF := (applyOp_pres s op).f h
theorem begin_invV (s : State) (hint : List Nat) (h : s.InvV) : (s.begin hint).InvV := (begin_pres s hint).v h
theorem begin_invF (s : State) (hint : List Nat) (h : s.InvF) : (s.begin hint).InvF := (begin_pres s hint).f h

/-- in every state of every execution of every history (error or not, contract or not) -/
theorem reachable_invVF {s : State} (h : Reachable s) : s.InvV ∧ s.InvF := by
  induction h with
  | init => exact ⟨by simp [State.InvV, State.allVals, State.destroyedVids], by simp [State.InvF, State.freedIds]⟩
  | @op s0 o hint _ _ ih =>
    have hp := (begin_pres s0 hint).trans (applyOp_pres _ o)
    exact ⟨hp.v ih.1, hp.f ih.2⟩
  | step _ ih => exact ⟨(step_pres _).v ih.1, (step_pres _).f ih.2⟩
  | endOp _ ih => exact ⟨(endOp_pres _).v ih.1, (endOp_pres _).f ih.2⟩
  | outOfFuel _ ih => exact ⟨(fail_pres _ _).v ih.1, (fail_pres _ _).f ih.2⟩

theorem reachable_invV {s : State} (h : Reachable s) : s.InvV := (reachable_invVF h).1
theorem reachable_invF {s : State} (h : Reachable s) : s.InvF := (reachable_invVF h).2

/-- no destructor runs twice, no allocation is released twice (the hypothesis `s.err = none` is
not needed) -/
theorem reachable_once' {s : State} (h : Reachable s) : s.destroyedVids.Nodup ∧ s.freedIds.Nodup := by
  obtain ⟨hV, hF⟩ := reachable_invVF h
  exact ⟨(List.nodup_append.mp hV.1).2.1, hF.1⟩

theorem reachable_once {s : State} (h : Reachable s) (_he : s.err = none) :
    s.destroyedVids.Nodup ∧ s.freedIds.Nodup := reachable_once' h

/-- a value that is still in place (in the heap, unwrapped, or waiting for its destructor) has not
been destroyed -/
theorem reachable_stored_not_destroyed {s : State} (h : Reachable s) :
    ∀ v ∈ s.allVals, v.vid ∉ s.destroyedVids := by
  intro v hv hd
  have hV := (reachable_invV h).1
  exact (List.nodup_append.mp hV).2.2 v.vid (List.mem_map.mpr ⟨v, hv, rfl⟩) v.vid hd rfl

/-- two distinct places never hold values with the same identifier -/
theorem reachable_vids_nodup {s : State} (h : Reachable s) : (s.allVals.map (·.vid)).Nodup :=
  (List.nodup_append.mp (reachable_invV h).1).1

/-- every allocation logged as released is marked released -/
theorem reachable_freed_marked {s : State} (h : Reachable s) :
    ∀ o ∈ s.freedIds, ∃ ob, s.heap[o]? = some ob ∧ ob.freed = true := (reachable_invF h).2

theorem run_once (ops : List (Op × List Nat)) :
    (run ops).destroyedVids.Nodup ∧ (run ops).freedIds.Nodup := reachable_once' (run_reachable ops)

end Cactus
