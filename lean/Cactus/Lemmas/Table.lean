import Cactus.Model.Table

/-!
# Basic facts about link tables
-/
namespace Cactus
namespace Table

@[simp] theorem get_nil (l : Link) : get [] l = 0 := rfl

@[simp] theorem get_cons (k : Link) (c : Nat) (r : Table) (l : Link) :
    get ((k, c) :: r) l = if k = l then c else get r l := rfl

theorem WF_nil : WF ([] : Table) := by
  simp [WF]

theorem WF_cons (k : Link) (c : Nat) (r : Table) :
    WF ((k, c) :: r) ↔ (∀ c', (k, c') ∉ r) ∧ 0 < c ∧ WF r := by
  simp only [WF, List.map_cons, List.nodup_cons, List.mem_map, List.mem_cons]
  constructor
  · rintro ⟨⟨h1, h2⟩, h3⟩
    refine ⟨?_, h3 _ (Or.inl rfl), h2, fun e he => h3 e (Or.inr he)⟩
    intro c' hc'
    exact h1 ⟨(k, c'), hc', rfl⟩
  · rintro ⟨h1, h2, h3, h4⟩
    refine ⟨⟨?_, h3⟩, ?_⟩
    · rintro ⟨⟨k', c'⟩, hm, rfl⟩
      exact h1 c' hm
    · rintro e (rfl | he)
      · exact h2
      · exact h4 e he

/-- absent keys read as zero (no WF needed) -/
theorem get_eq_zero_of_not_mem (t : Table) (l : Link) (h : ∀ c, (l, c) ∉ t) : t.get l = 0 := by
  induction t with
  | nil => rfl
  | cons e r ih =>
    obtain ⟨k, c⟩ := e
    simp only [get_cons]
    split
    · next hk => subst hk; exact absurd List.mem_cons_self (h c)
    · exact ih (fun c' hc' => h c' (List.mem_cons_of_mem _ hc'))

theorem mem_get (t : Table) (hw : t.WF) (l : Link) (c : Nat) (h : (l, c) ∈ t) : t.get l = c := by
  induction t with
  | nil => cases h
  | cons e r ih =>
    obtain ⟨k, c'⟩ := e
    rw [WF_cons] at hw
    simp only [get_cons]
    rcases List.mem_cons.1 h with heq | hm
    · cases heq; simp
    · split
      · next hk => subst hk; exact absurd hm (hw.1 c)
      · exact ih hw.2.2 hm

theorem mem_keys_iff_get_pos (t : Table) (hw : t.WF) (l : Link) :
    (∃ c, (l, c) ∈ t) ↔ 0 < t.get l := by
  constructor
  · rintro ⟨c, hc⟩
    rw [mem_get t hw l c hc]
    exact hw.2 _ hc
  · intro h
    apply Classical.byContradiction
    intro hn
    have := get_eq_zero_of_not_mem t l (fun c hc => hn ⟨c, hc⟩)
    omega

theorem not_mem_of_get_eq_zero (t : Table) (hw : t.WF) (l : Link) (h : t.get l = 0) (c : Nat) :
    (l, c) ∉ t := by
  intro hm
  have := (mem_keys_iff_get_pos t hw l).1 ⟨c, hm⟩
  omega

theorem get_insert (t : Table) (k l : Link) :
    (t.insert k).get l = t.get l + (if l = k then 1 else 0) := by
  induction t with
  | nil => simp [insert, eq_comm]
  | cons e r ih =>
    obtain ⟨k', c⟩ := e
    simp only [insert]
    split
    · next hk =>
      subst hk
      simp only [get_cons]
      by_cases h : k' = l
      · subst h; simp
      · have h' : ¬ l = k' := fun e => h e.symm
        simp [h, h']
    · next hk =>
      simp only [get_cons, ih]
      by_cases h : k' = l
      · subst h; simp [hk]
      · simp [h]

theorem mem_insert (t : Table) (k l : Link) (c : Nat) (h : (l, c) ∈ t.insert k) :
    l = k ∨ (l, c) ∈ t := by
  induction t with
  | nil =>
    simp only [insert, List.mem_singleton, Prod.mk.injEq] at h
    exact Or.inl h.1
  | cons e r ih =>
    obtain ⟨k', c'⟩ := e
    simp only [insert] at h
    split at h
    · next hk =>
      subst hk
      rcases List.mem_cons.1 h with heq | hm
      · cases heq; exact Or.inl rfl
      · exact Or.inr (List.mem_cons_of_mem _ hm)
    · rcases List.mem_cons.1 h with heq | hm
      · cases heq; exact Or.inr List.mem_cons_self
      · rcases ih hm with h1 | h1
        · exact Or.inl h1
        · exact Or.inr (List.mem_cons_of_mem _ h1)

theorem WF_insert (t : Table) (hw : t.WF) (k : Link) : (t.insert k).WF := by
  induction t with
  | nil =>
    simp only [insert]
    rw [WF_cons]
    exact ⟨fun _ h => (nomatch h), Nat.one_pos, WF_nil⟩
  | cons e r ih =>
    obtain ⟨k', c⟩ := e
    rw [WF_cons] at hw
    simp only [insert]
    split
    · rw [WF_cons]; exact ⟨hw.1, Nat.succ_pos _, hw.2.2⟩
    · next hk =>
      rw [WF_cons]
      refine ⟨?_, hw.2.1, ih hw.2.2⟩
      intro c' hc'
      rcases mem_insert r k k' c' hc' with h1 | h1
      · exact hk h1
      · exact hw.1 c' h1

theorem mem_remove (t : Table) (k l : Link) (n c : Nat) (h : (l, c) ∈ t.remove k n) :
    ∃ c', (l, c') ∈ t := by
  induction t with
  | nil => cases h
  | cons e r ih =>
    obtain ⟨k', c'⟩ := e
    simp only [remove] at h
    split at h
    · next hk =>
      subst hk
      split at h
      · rcases List.mem_cons.1 h with heq | hm
        · cases heq; exact ⟨c', List.mem_cons_self⟩
        · exact ⟨c, List.mem_cons_of_mem _ hm⟩
      · exact ⟨c, List.mem_cons_of_mem _ h⟩
    · rcases List.mem_cons.1 h with heq | hm
      · cases heq; exact ⟨c, List.mem_cons_self⟩
      · obtain ⟨c'', h1⟩ := ih hm
        exact ⟨c'', List.mem_cons_of_mem _ h1⟩

theorem WF_remove (t : Table) (hw : t.WF) (k : Link) (n : Nat) : (t.remove k n).WF := by
  induction t with
  | nil => exact WF_nil
  | cons e r ih =>
    obtain ⟨k', c⟩ := e
    rw [WF_cons] at hw
    simp only [remove]
    split
    · split
      · rw [WF_cons]; exact ⟨hw.1, by omega, hw.2.2⟩
      · exact hw.2.2
    · rw [WF_cons]
      refine ⟨?_, hw.2.1, ih hw.2.2⟩
      intro c' hc'
      obtain ⟨c'', h1⟩ := mem_remove r k k' n c' hc'
      exact hw.1 c'' h1

/-- `remove k` leaves every other key alone (no WF needed) -/
theorem get_remove_of_ne (t : Table) {k l : Link} (n : Nat) (h : l ≠ k) : (t.remove k n).get l = t.get l := by
  induction t with
  | nil => rfl
  | cons e r ih =>
    obtain ⟨k', c⟩ := e
    unfold remove
    split
    · next hk =>
      subst hk
      have hkl : ¬ k' = l := fun e => h e.symm
      split
      · rw [get_cons, get_cons, if_neg hkl, if_neg hkl]
      · rw [get_cons, if_neg hkl]
    · rw [get_cons, get_cons, ih]

theorem get_remove_self (t : Table) (hw : t.WF) (k : Link) (n : Nat) : (t.remove k n).get k = t.get k - n := by
  induction t with
  | nil => exact (Nat.zero_sub n).symm
  | cons e r ih =>
    obtain ⟨k', c⟩ := e
    rw [WF_cons] at hw
    unfold remove
    split
    · next hk =>
      subst hk
      split
      · rw [get_cons, get_cons, if_pos rfl, if_pos rfl]
      · next hn =>
        rw [get_cons, if_pos rfl, get_eq_zero_of_not_mem r k' hw.1, Nat.sub_eq_zero_of_le (Nat.le_of_not_lt hn)]
    · next hk => rw [get_cons, get_cons, if_neg hk, if_neg hk, ih hw.2.2]

theorem get_remove (t : Table) (hw : t.WF) (k l : Link) (n : Nat) :
    (t.remove k n).get l = if l = k then t.get k - n else t.get l := by
  by_cases h : l = k
  · subst h; rw [if_pos rfl, get_remove_self t hw]
  · rw [if_neg h, get_remove_of_ne t n h]

theorem remove_absent (t : Table) (k : Link) (n : Nat) (h : t.get k = 0) (hw : t.WF) :
    t.remove k n = t := by
  induction t with
  | nil => rfl
  | cons e r ih =>
    obtain ⟨k', c⟩ := e
    rw [WF_cons] at hw
    simp only [get_cons] at h
    simp only [remove]
    split
    · next hk => simp [hk] at h; omega
    · next hk => simp [hk] at h; rw [ih h hw.2.2]

theorem WF_filter (t : Table) (hw : t.WF) (p : Link × Nat → Bool) : WF (t.filter p) := by
  induction t with
  | nil => exact WF_nil
  | cons e r ih =>
    obtain ⟨k, c⟩ := e
    rw [WF_cons] at hw
    simp only [List.filter_cons]
    split
    · rw [WF_cons]
      exact ⟨fun c' hc' => hw.1 c' (List.mem_filter.1 hc').1, hw.2.1, ih hw.2.2⟩
    · exact ih hw.2.2

theorem get_filter (t : Table) (hw : t.WF) (p : Link × Nat → Bool) (l : Link) :
    get (t.filter p) l = if p (l, t.get l) then t.get l else 0 := by
  induction t with
  | nil => exact (ite_self _).symm
  | cons e r ih =>
    obtain ⟨k, c⟩ := e
    rw [WF_cons] at hw
    have ih := ih hw.2.2
    simp only [List.filter_cons, get_cons]
    by_cases hk : k = l
    · subst hk
      have h0 : get (List.filter p r) k = 0 :=
        get_eq_zero_of_not_mem _ k (fun c' hc' => hw.1 c' (List.mem_filter.1 hc').1)
      by_cases hp : p (k, c) = true
      · simp [hp]
      · simp [hp, h0]
    · by_cases hp : p (k, c) = true
      · simp [hp, hk, ih]
      · simp [hp, hk, ih]

theorem WF_perm (t u : Table) (hw : t.WF) (h : t.Perm u) : u.WF := by
  refine ⟨(List.Perm.nodup_iff (h.map _)).1 hw.1, ?_⟩
  intro e he
  exact hw.2 e (h.mem_iff.2 he)

theorem get_perm (t u : Table) (hw : t.WF) (h : t.Perm u) (l : Link) : t.get l = u.get l := by
  have hu := WF_perm t u hw h
  by_cases hm : ∃ c, (l, c) ∈ t
  · obtain ⟨c, hc⟩ := hm
    rw [mem_get t hw l c hc, mem_get u hu l c (h.mem_iff.1 hc)]
  · rw [get_eq_zero_of_not_mem t l (fun c hc => hm ⟨c, hc⟩),
      get_eq_zero_of_not_mem u l (fun c hc => hm ⟨c, h.mem_iff.2 hc⟩)]

theorem swapAt_perm (t : Table) (i : Nat) : (t.swapAt i).Perm t := by
  induction t, i using swapAt.induct with
  | case1 a b r => simp only [swapAt]; exact List.Perm.swap _ _ _
  | case2 a r i ih => simp only [swapAt]; exact ih.cons _
  | case3 t i h1 h2 => rw [swapAt.eq_3 t i h1 h2]

theorem WF_swapAt (t : Table) (hw : t.WF) (i : Nat) : (t.swapAt i).WF :=
  WF_perm t _ hw (swapAt_perm t i).symm

theorem get_swapAt (t : Table) (hw : t.WF) (i : Nat) (l : Link) : (t.swapAt i).get l = t.get l :=
  (get_perm t _ hw (swapAt_perm t i).symm l).symm

theorem insert_ne_nil (t : Table) (k : Link) : t.insert k ≠ [] := by
  cases t with
  | nil => simp [insert]
  | cons e r =>
    obtain ⟨k', c⟩ := e
    simp only [insert]
    split <;> simp

theorem get_eq_zero_of_nil_iff (t : Table) (hw : t.WF) : t = [] ↔ ∀ l, t.get l = 0 := by
  constructor
  · rintro rfl l; rfl
  · intro h
    cases t with
    | nil => rfl
    | cons e r =>
      obtain ⟨k, c⟩ := e
      rw [WF_cons] at hw
      have := h k
      simp only [get_cons, if_true] at this
      omega

/-- `n`-fold insert of `k` -/
def insertN (t : Table) (k : Link) : Nat → Table
  | 0 => t
  | n+1 => insertN (t.insert k) k n

/-- `n`-fold `remove k 1` -/
def removeN (t : Table) (k : Link) : Nat → Table
  | 0 => t
  | n+1 => removeN (t.remove k 1) k n

theorem removeN_nil (k : Link) (n : Nat) : removeN [] k n = [] := by
  induction n with
  | zero => rfl
  | succ n ih => simpa [removeN, remove] using ih

theorem insertN_single (k : Link) (c n : Nat) : insertN [(k, c)] k n = [(k, c + n)] := by
  induction n generalizing c with
  | zero => rfl
  | succ n ih => simp only [insertN, insert, if_true]; rw [ih]; congr 2; omega

theorem removeN_single (k : Link) (c : Nat) : removeN [(k, c + 1)] k (c + 1) = [] := by
  induction c with
  | zero => simp [removeN, remove]
  | succ c ih =>
    rw [removeN]
    have : remove [(k, c + 1 + 1)] k 1 = [(k, c + 1)] := by
      simp [remove]
    rw [this]; exact ih

/-- n-fold insert then n-fold `remove · 1` on the empty table gives back the empty table. -/
theorem removeN_insertN_nil (k : Link) (n : Nat) : removeN (insertN [] k n) k n = [] := by
  cases n with
  | zero => rfl
  | succ n =>
    simp only [insertN, insert]
    rw [insertN_single]
    have : 1 + n = n + 1 := by omega
    rw [this]
    exact removeN_single k n

end Table
end Cactus
