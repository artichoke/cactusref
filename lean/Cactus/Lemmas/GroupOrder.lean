import Cactus.Lemmas.Final
import Cactus.Lemmas.History.Run
import Cactus.Lemmas.Shared.OneStep
/-!
# C09 — the order in which the values of a collected group are destroyed is irrelevant

The one layout dependence of the collector besides the order of the link tables is the order of the `dropVal` frames pushed
by `dropCycle` (chosen by `hint` through `reorder`).  For *quiet* values (no destructor script,
no panic) whose strong handles all designate dead, still allocated objects, running the block of
`dropVal` frames has a closed form: every Weak handle owned by the values is released
(`releaseWeaks`), one `destroyed` event per value is logged, nothing else changes.  The closed
form depends on the block only through the *multiset* of released Weak handles and the multiset of
destroyed `vid`s, hence it is the same for every order of the block, up to the order of the
events appended to the log.
-/
namespace Cactus
open State

/-- a value whose destructor does nothing observable but dropping its fields -/
def Val.quiet (v : Val) : Prop := v.script = [] ∧ v.panics = false

/-- the state after `n` machine steps -/
def runSteps : Nat → State → State
  | 0, s => s
  | n + 1, s => runSteps n (step s)

/-- release the Weak handles `ws`, one after the other -/
def releaseWeaks (s : State) (ws : List Nat) : State := ws.foldl (fun s t => s.weakDrop t) s

/-- one release of a Weak handle -/
def rel1 (ob : Obj) : Obj :=
  if ob.weak = 1 then { ob with weak := 0, freed := true } else { ob with weak := ob.weak - 1 }

/-- what `k` releases of Weak handles do to an allocation -/
def relObj (ob : Obj) : Nat → Obj
  | 0 => ob
  | k + 1 => relObj (rel1 ob) k

/-- the weak-count side condition: every released allocation is allocated, not yet released and
can still give up as many weak references as the list asks for -/
def GoodW (h : List Obj) (ws : List Nat) : Prop :=
  ∀ t ∈ ws, ∃ ob, h[t]? = some ob ∧ ob.freed = false ∧ ws.count t ≤ ob.weak

/-- side conditions of a block: `GoodW` for the Weak handles, and every strong handle designates a
readable cell whose strong count is dead and which is not released by the block itself (it still
owns a weak reference besides the ones the block releases — for a collected group this is the
implicit weak reference released by `phase3` after the block) -/
def Ready (h : List Obj) (hs ws : List Nat) : Prop :=
  GoodW h ws ∧
  ∀ t ∈ hs, ∃ ob, h[t]? = some ob ∧ ob.freed = false ∧ ob.strong.isDead = true ∧ ws.count t < ob.weak

/-- weak count of a slot of a heap -/
def wk (h : List Obj) (t : Nat) : Nat :=
  match h[t]? with
  | some ob => ob.weak
  | none => 0

/-- number of `freed` events (0 or 1) for each allocation: the release that brings the count to 0
emits it -/
def freedCount (h : List Obj) (ws : List Nat) : Ev → Nat
  | .freed u => if 0 < ws.count u ∧ ws.count u = wk h u then 1 else 0
  | _ => 0

/-- the events appended by `releaseWeaks` -/
def freedLog (s : State) (ws : List Nat) : List Ev := (releaseWeaks s ws).log.drop s.log.length

/-! ## Interleavings of log events and releases -/

inductive Item
  | ev (e : Ev)
  | rel (t : Nat)

def Item.run (s : State) : Item → State
  | .ev e => s.emit e
  | .rel t => s.weakDrop t

def runItems (s : State) (is : List Item) : State := is.foldl Item.run s

def rels : List Item → List Nat
  | [] => []
  | .ev _ :: is => rels is
  | .rel t :: is => t :: rels is

def evs : List Item → List Ev
  | [] => []
  | .ev e :: is => e :: evs is
  | .rel _ :: is => evs is

theorem rels_append (a b : List Item) : rels (a ++ b) = rels a ++ rels b := by
  induction a with
  | nil => rfl
  | cons x a ih => cases x <;> simp [rels, ih]

theorem evs_append (a b : List Item) : evs (a ++ b) = evs a ++ evs b := by
  induction a with
  | nil => rfl
  | cons x a ih => cases x <;> simp [evs, ih]

@[simp] theorem rels_map_rel (ws : List Nat) : rels (ws.map Item.rel) = ws := by
  induction ws with
  | nil => rfl
  | cons x a ih => simp [rels, ih]

@[simp] theorem evs_map_rel (ws : List Nat) : evs (ws.map Item.rel) = [] := by
  induction ws with
  | nil => rfl
  | cons x a ih => simp [evs, ih]

theorem runItems_append (s : State) (a b : List Item) :
    runItems s (a ++ b) = runItems (runItems s a) b := by
  simp [runItems, List.foldl_append]

theorem releaseWeaks_eq_runItems (s : State) (ws : List Nat) :
    releaseWeaks s ws = runItems s (ws.map Item.rel) := by
  simp [releaseWeaks, runItems, List.foldl_map, Item.run]

/-! ## One release -/

theorem rel1_weak (ob : Obj) : (rel1 ob).weak = ob.weak - 1 := by
  unfold rel1
  split
  · next h => rw [h]
  · rfl

theorem rel1_of_lt {ob : Obj} (h : 1 < ob.weak) : rel1 ob = { ob with weak := ob.weak - 1 } :=
  if_neg (Nat.ne_of_gt h)

theorem rel1_implicit (ob : Obj) : (rel1 ob).implicit = ob.implicit := by
  unfold rel1
  split <;> rfl

/-- releasing a weak reference (a Weak handle, or with `imp` the implicit one) of an allocation that
is not released and still has a weak count, as one record update -/
theorem decWeakFree_good (s : State) (t : Nat) (ob : Obj) (imp : Bool) (hg : s.heap[t]? = some ob)
    (hf : ob.freed = false) (hw : 1 ≤ ob.weak) :
    s.decWeakFree t imp
      = { s with heap := s.heap.set t { rel1 ob with implicit := ob.implicit && !imp },
                 log := s.log ++ (if ob.weak = 1 then [Ev.freed t] else []) } := by
  unfold decWeakFree rel1
  rw [cell_of_not_freed hg hf]
  dsimp only
  split
  · next h0 => rw [h0] at hw; exact absurd hw (Nat.not_succ_le_zero 0)
  · next h1 => rw [if_pos h1, if_pos h1]; rfl
  · next w h2 =>
    have hne : ob.weak ≠ 1 := by rw [h2]; exact Nat.succ_ne_succ.mpr (Nat.succ_ne_zero w)
    rw [if_neg hne, if_neg hne, h2, List.append_nil]
    rfl

theorem weakDrop_good (s : State) (t : Nat) (ob : Obj) (hg : s.heap[t]? = some ob)
    (hf : ob.freed = false) (hw : 1 ≤ ob.weak) :
    s.weakDrop t = { s with heap := s.heap.set t (relObj ob 1),
                            log := s.log ++ (if ob.weak = 1 then [Ev.freed t] else []) } := by
  rw [weakDrop, decWeakFree_good s t ob false hg hf hw, Bool.not_false, Bool.and_true,
    ← rel1_implicit ob]
  rfl

/-! ## Closed form of an interleaving -/

theorem goodW_step (h : List Obj) (t : Nat) (ws : List Nat) (ob : Obj) (hg : h[t]? = some ob)
    (hgood : GoodW h (t :: ws)) : GoodW (h.set t (relObj ob 1)) ws := by
  intro u hu
  obtain ⟨ob', hg', hf', hc'⟩ := hgood u (List.mem_cons_of_mem _ hu)
  by_cases hut : u = t
  · subst hut
    rw [hg] at hg'
    cases hg'
    rw [List.count_cons_self] at hc'
    have h1 : 1 < ob.weak :=
      Nat.lt_of_lt_of_le (Nat.succ_lt_succ (List.count_pos_iff.mpr hu)) hc'
    refine ⟨rel1 ob, List.getElem?_set_self (List.getElem?_eq_some_iff.mp hg).1, ?_, ?_⟩
    · rw [rel1_of_lt h1]; exact hf'
    · rw [rel1_weak]; exact Nat.le_sub_of_add_le hc'
  · refine ⟨ob', ?_, hf', ?_⟩
    · rw [List.getElem?_set_ne (fun h => hut h.symm)]; exact hg'
    · rw [List.count_cons_of_ne (fun h => hut h.symm)] at hc'; exact hc'

theorem goodW_head (h : List Obj) (t : Nat) (ws : List Nat) (hgood : GoodW h (t :: ws)) :
    ∃ ob, h[t]? = some ob ∧ ob.freed = false ∧ ws.count t + 1 ≤ ob.weak := by
  obtain ⟨ob, hg, hf, hc⟩ := hgood t (List.mem_cons_self ..)
  simp only [List.count_cons_self] at hc
  exact ⟨ob, hg, hf, hc⟩

/-- the state after an interleaving `is` of log events and releases -/
structure ItemsSpec (s s' : State) (is : List Item) : Prop where
  ctl : s' = { s with heap := s'.heap, log := s'.log }
  heap : ∀ i, s'.heap[i]? = (s.heap[i]?).map (fun ob => relObj ob ((rels is).count i))
  log : ∃ l, s'.log = s.log ++ l ∧ ∀ e, l.count e = (evs is).count e + freedCount s.heap (rels is) e

theorem ItemsSpec.err_eq {s s' : State} {is : List Item} (h : ItemsSpec s s' is) : s'.err = s.err :=
  (congrArg State.err h.ctl : _)

theorem ItemsSpec.stack_eq {s s' : State} {is : List Item} (h : ItemsSpec s s' is) :
    s'.stack = s.stack :=
  (congrArg State.stack h.ctl : _)

theorem wk_set_self (h : List Obj) {t : Nat} (ob : Obj) (ht : t < h.length) :
    wk (h.set t ob) t = ob.weak := by
  unfold wk
  rw [List.getElem?_set_self ht]

theorem wk_set_ne (h : List Obj) (k i : Nat) (ob : Obj) (hne : k ≠ i) :
    wk (h.set k ob) i = wk h i := by
  unfold wk
  rw [List.getElem?_set_ne hne]

/-- the `freed` events: the one logged by the first release (if any) and those of the rest -/
theorem freedCount_step (h : List Obj) (t : Nat) (ws : List Nat) (ob : Obj) (hg : h[t]? = some ob)
    (hc : ws.count t + 1 ≤ ob.weak) (e : Ev) :
    (if ob.weak = 1 then [Ev.freed t] else []).count e + freedCount (h.set t (relObj ob 1)) ws e
      = freedCount h (t :: ws) e := by
  cases e with
  | freed u =>
    dsimp only [freedCount]
    by_cases hut : u = t
    · subst hut
      have hwk : wk h u = ob.weak := by unfold wk; rw [hg]
      rw [hwk, wk_set_self h _ (List.getElem?_eq_some_iff.mp hg).1, List.count_cons_self]
      simp only [relObj, rel1_weak]
      by_cases h1 : ob.weak = 1
      · have h0 : ws.count u = 0 := by
          rw [h1] at hc
          exact Nat.le_zero.mp (Nat.le_of_succ_le_succ hc)
        simp only [h1, h0, if_true, List.count_cons_self, List.count_nil, Nat.lt_irrefl, false_and,
          if_false, Nat.zero_add, Nat.zero_lt_one, true_and]
      · rw [if_neg h1, List.count_nil, Nat.zero_add]
        simp only [show (0 < ws.count u ∧ ws.count u = ob.weak - 1)
          ↔ (0 < ws.count u + 1 ∧ ws.count u + 1 = ob.weak) by omega]
    · rw [wk_set_ne h t u _ (fun h => hut h.symm), List.count_cons_of_ne (fun h => hut h.symm)]
      have : (if ob.weak = 1 then [Ev.freed t] else []).count (Ev.freed u) = 0 := by
        split
        · exact List.count_cons_of_ne (fun h => hut (Ev.freed.inj h).symm)
        · rfl
      rw [this, Nat.zero_add]
  | _ =>
    show (if _ then [Ev.freed t] else []).count _ + 0 = 0
    split <;> rfl

theorem runItems_spec (is : List Item) :
    ∀ s : State, GoodW s.heap (rels is) → ItemsSpec s (runItems s is) is := by
  induction is with
  | nil =>
    intro s _
    refine ⟨rfl, fun i => ?_, [], (List.append_nil _).symm, fun e => ?_⟩
    · show s.heap[i]? = (s.heap[i]?).map _
      cases s.heap[i]? <;> rfl
    · cases e <;> rfl
  | cons x is ih =>
    intro s hgood
    cases x with
    | ev e0 =>
      have h1 := ih (s.emit e0) hgood
      obtain ⟨l, hl, hcnt⟩ := h1.log
      refine ⟨h1.ctl, h1.heap, e0 :: l, ?_, fun e => ?_⟩
      · rw [show runItems s (Item.ev e0 :: is) = runItems (s.emit e0) is from rfl, hl]
        exact List.append_assoc s.log [e0] l
      · rw [List.count_cons, hcnt e]
        show _ = (e0 :: evs is).count e + _
        rw [List.count_cons, Nat.add_right_comm]
        rfl
    | rel t =>
      obtain ⟨ob, hg, hf, hc⟩ := goodW_head _ _ _ hgood
      have hstep := weakDrop_good s t ob hg hf (Nat.le_of_add_left_le hc)
      have h1 := ih (s.weakDrop t) (by rw [hstep]; exact goodW_step _ _ _ _ hg hgood)
      have hlt : t < s.heap.length := (List.getElem?_eq_some_iff.mp hg).1
      obtain ⟨l, hl, hcnt⟩ := h1.log
      rw [show runItems s (Item.rel t :: is) = runItems (s.weakDrop t) is from rfl]
      generalize runItems (s.weakDrop t) is = s' at h1 hl
      have hctl := h1.ctl
      have hheap := h1.heap
      rw [hstep] at hctl hheap hl hcnt
      refine ⟨hctl, fun i => ?_, (if ob.weak = 1 then [Ev.freed t] else []) ++ l,
        hl.trans (List.append_assoc _ _ _), fun e => ?_⟩
      · rw [hheap i]
        show ((s.heap.set t (relObj ob 1))[i]?).map _ = _
        by_cases hit : i = t
        · subst hit
          rw [List.getElem?_set_self hlt, hg]
          show some _ = some (relObj ob ((i :: rels is).count i))
          rw [List.count_cons_self]
          rfl
        · rw [List.getElem?_set_ne (fun h => hit h.symm)]
          show _ = (s.heap[i]?).map (fun ob => relObj ob ((t :: rels is).count i))
          rw [List.count_cons_of_ne (fun h => hit h.symm)]
      · rw [List.count_append, hcnt e]
        show _ + (_ + freedCount (s.heap.set t (relObj ob 1)) (rels is) e)
          = (evs is).count e + freedCount s.heap (t :: rels is) e
        rw [← freedCount_step s.heap t (rels is) ob hg hc e, Nat.add_left_comm]

/-! ## Permutation invariance -/

theorem GoodW.perm {h : List Obj} {ws ws' : List Nat} (hg : GoodW h ws) (hp : ws.Perm ws') :
    GoodW h ws' := by
  intro t ht
  obtain ⟨ob, h1, h2, h3⟩ := hg t (hp.mem_iff.mpr ht)
  exact ⟨ob, h1, h2, by rw [← hp.count_eq]; exact h3⟩

/-- the `freed` events depend on the heap through the weak counts and on the releases through their
multiset -/
theorem freedCount_congr {h h' : List Obj} {ws ws' : List Nat} (hw : ∀ i, wk h i = wk h' i)
    (hp : ws.Perm ws') (e : Ev) : freedCount h ws e = freedCount h' ws' e := by
  cases e with
  | freed u => simp only [freedCount, hw u, hp.count_eq]
  | _ => rfl

/-! What two interleavings that release the same handles and log the same events, in any order,
from states with the same weak counts have in common. -/

theorem ItemsSpec.heap_eq {s s' t t' : State} {is is' : List Item} (h1 : ItemsSpec s t is)
    (h2 : ItemsSpec s' t' is') (hh : s.heap = s'.heap) (hr : (rels is).Perm (rels is')) :
    t.heap = t'.heap :=
  List.ext_getElem? fun i => by rw [h1.heap i, h2.heap i, hh, hr.count_eq]

theorem ItemsSpec.log_perm {s s' t t' : State} {is is' : List Item} (h1 : ItemsSpec s t is)
    (h2 : ItemsSpec s' t' is') (hl : s.log.Perm s'.log) (hw : ∀ i, wk s.heap i = wk s'.heap i)
    (hr : (rels is).Perm (rels is')) (he : (evs is).Perm (evs is')) : t.log.Perm t'.log := by
  obtain ⟨l1, hl1, hc1⟩ := h1.log
  obtain ⟨l2, hl2, hc2⟩ := h2.log
  rw [hl1, hl2]
  refine hl.append (List.perm_iff_count.mpr fun e => ?_)
  rw [hc1 e, hc2 e, he.count_eq, freedCount_congr hw hr]

/-- two interleavings with the same multiset of releases and the same multiset of events give the
same state up to the order of the log -/
theorem runItems_perm (s : State) (is is' : List Item) (hgood : GoodW s.heap (rels is))
    (hr : (rels is).Perm (rels is')) (he : (evs is).Perm (evs is')) :
    (runItems s is').heap = (runItems s is).heap
    ∧ runItems s is' = { runItems s is with log := (runItems s is').log }
    ∧ (runItems s is').log.Perm (runItems s is).log := by
  have h1 := runItems_spec is s hgood
  have h2 := runItems_spec is' s (hgood.perm hr)
  have hh := h2.heap_eq h1 rfl hr.symm
  refine ⟨hh, ?_, h2.log_perm h1 (.refl _) (fun _ => rfl) hr.symm he.symm⟩
  rw [h2.ctl, h1.ctl]
  simp only [hh]

/-- `releaseWeaks` is invariant under permutation of the released handles, on the heap and on the
multiset of log events (all other components are equal too) -/
theorem releaseWeaks_perm (s : State) (ws ws' : List Nat) (hgood : GoodW s.heap ws)
    (hp : ws.Perm ws') :
    (releaseWeaks s ws').heap = (releaseWeaks s ws).heap
    ∧ releaseWeaks s ws' = { releaseWeaks s ws with log := (releaseWeaks s ws').log }
    ∧ (releaseWeaks s ws').log.Perm (releaseWeaks s ws).log := by
  rw [releaseWeaks_eq_runItems, releaseWeaks_eq_runItems]
  refine runItems_perm s _ _ ?_ ?_ ?_
  · rw [rels_map_rel]; exact hgood
  · rw [rels_map_rel, rels_map_rel]; exact hp
  · rw [evs_map_rel, evs_map_rel]

theorem releaseWeaks_spec (s : State) (ws : List Nat) (hgood : GoodW s.heap ws) :
    releaseWeaks s ws = { s with heap := (releaseWeaks s ws).heap, log := (releaseWeaks s ws).log }
    ∧ (∀ i, (releaseWeaks s ws).heap[i]? = (s.heap[i]?).map (fun ob => relObj ob (ws.count i)))
    ∧ (releaseWeaks s ws).log = s.log ++ freedLog s ws
    ∧ ∀ e, (freedLog s ws).count e = freedCount s.heap ws e := by
  have h1 := runItems_spec (ws.map Item.rel) s (by rw [rels_map_rel]; exact hgood)
  rw [← releaseWeaks_eq_runItems] at h1
  obtain ⟨l, hl, hc⟩ := h1.log
  have hfl : freedLog s ws = l := by rw [freedLog, hl, List.drop_left]
  have hheap := h1.heap
  rw [rels_map_rel] at hheap hc
  rw [evs_map_rel] at hc
  exact ⟨h1.ctl, hheap, hfl ▸ hl, fun e => by rw [hfl, hc e, List.count_nil, Nat.zero_add]⟩

/-- two releases of different objects commute exactly on the heap; two releases of the same
object are literally the same sequence -/
theorem weakDrop_comm_heap (s : State) (a b : Nat) (hgood : GoodW s.heap [a, b]) :
    ((s.weakDrop a).weakDrop b).heap = ((s.weakDrop b).weakDrop a).heap :=
  (releaseWeaks_perm s [b, a] [a, b] (hgood.perm (List.Perm.swap b a [])) (List.Perm.swap a b [])).1

/-! ## Running a block of `dropVal` frames -/

theorem runSteps_add (m n : Nat) (s : State) : runSteps (m + n) s = runSteps n (runSteps m s) := by
  induction m generalizing s with
  | zero => simp [runSteps]
  | succ m ih => rw [Nat.succ_add]; exact ih (step s)

/-- what one quiet value does: log `destroyed`, release its Weak handles -/
def dropValQuiet (s : State) (v : Val) : State :=
  releaseWeaks (s.emit (.destroyed v.vid)) v.weaks

/-- closed form of the effect of a block of quiet values (in the given order) -/
def blockResult (s : State) (vs : List Val) : State := vs.foldl dropValQuiet s

def blockWeaks (vs : List Val) : List Nat := (vs.map (·.weaks)).flatten
def blockHeld (vs : List Val) : List Nat := (vs.map (·.held)).flatten

theorem blockWeaks_perm {vs vs' : List Val} (hp : vs.Perm vs') :
    (blockWeaks vs).Perm (blockWeaks vs') := (hp.map _).flatten
theorem blockHeld_perm {vs vs' : List Val} (hp : vs.Perm vs') :
    (blockHeld vs).Perm (blockHeld vs') := (hp.map _).flatten

def itemsOf (v : Val) : List Item := .ev (.destroyed v.vid) :: v.weaks.map .rel

def blockItems (vs : List Val) : List Item := (vs.map itemsOf).flatten

theorem blockResult_eq_runItems (s : State) (vs : List Val) :
    blockResult s vs = runItems s (blockItems vs) := by
  induction vs generalizing s with
  | nil => rfl
  | cons v vs ih =>
    show blockResult (dropValQuiet s v) vs = runItems s (itemsOf v ++ blockItems vs)
    rw [ih, runItems_append, dropValQuiet, releaseWeaks_eq_runItems]
    rfl

theorem rels_blockItems (vs : List Val) : rels (blockItems vs) = blockWeaks vs := by
  induction vs with
  | nil => rfl
  | cons v vs ih =>
    show rels (itemsOf v ++ blockItems vs) = v.weaks ++ blockWeaks vs
    rw [rels_append, ih]
    exact congrArg (· ++ blockWeaks vs) (rels_map_rel v.weaks)

theorem evs_blockItems (vs : List Val) :
    evs (blockItems vs) = vs.map (fun v => Ev.destroyed v.vid) := by
  induction vs with
  | nil => rfl
  | cons v vs ih =>
    show evs (itemsOf v ++ blockItems vs) = _ :: vs.map _
    rw [evs_append, ih]
    exact congrArg (Ev.destroyed v.vid :: · ++ _) (evs_map_rel v.weaks)

theorem rels_blockItems_perm {vs vs' : List Val} (hp : vs.Perm vs') :
    (rels (blockItems vs)).Perm (rels (blockItems vs')) := by
  rw [rels_blockItems, rels_blockItems]
  exact blockWeaks_perm hp

theorem evs_blockItems_perm {vs vs' : List Val} (hp : vs.Perm vs') :
    (evs (blockItems vs)).Perm (evs (blockItems vs')) := by
  rw [evs_blockItems, evs_blockItems]
  exact hp.map _

/-- a block is an interleaving of `destroyed` events and releases -/
theorem blockResult_items (s : State) (vs : List Val) (hgood : GoodW s.heap (blockWeaks vs)) :
    ItemsSpec s (blockResult s vs) (blockItems vs) := by
  rw [blockResult_eq_runItems]
  exact runItems_spec _ s (by rw [rels_blockItems]; exact hgood)

theorem rcDrop_dead_noop (s : State) (o : Nat) (ob : Obj)
    (hc : s.cell o = some ob) (hd : ob.strong.isDead = true) : s.rcDrop o = s :=
  Shared.rcDrop_dead_noop s o ob hc hd

/-! ### the control stack is not read by a release -/

theorem fail_setStack (s : State) (x : List Frame) (e : Err) :
    ({ s with stack := x } : State).fail e = { s.fail e with stack := x } := by
  cases he : s.err <;> simp only [fail, he]

theorem weakDrop_setStack (s : State) (x : List Frame) (t : Nat) :
    ({ s with stack := x } : State).weakDrop t = { s.weakDrop t with stack := x } := by
  unfold weakDrop decWeakFree
  rw [show ({ s with stack := x } : State).cell t = s.cell t from rfl]
  cases s.cell t with
  | none => exact fail_setStack s x _
  | some ob =>
    dsimp only
    split
    · exact fail_setStack s x _
    · rfl
    · rfl

theorem releaseWeaks_setStack (ws : List Nat) (s : State) (x : List Frame) :
    releaseWeaks { s with stack := x } ws = { releaseWeaks s ws with stack := x } := by
  induction ws generalizing s with
  | nil => rfl
  | cons w ws ih =>
    show releaseWeaks (({ s with stack := x } : State).weakDrop w) ws = _
    rw [weakDrop_setStack, ih]
    rfl

theorem dropValQuiet_setStack (s : State) (x : List Frame) (v : Val) :
    dropValQuiet { s with stack := x } v = { dropValQuiet s v with stack := x } := by
  unfold dropValQuiet
  exact releaseWeaks_setStack v.weaks (s.emit (.destroyed v.vid)) x

theorem blockResult_setStack (vs : List Val) (s : State) (x : List Frame) :
    blockResult { s with stack := x } vs = { blockResult s vs with stack := x } := by
  induction vs generalizing s with
  | nil => rfl
  | cons v vs ih =>
    show blockResult (dropValQuiet { s with stack := x } v) vs = _
    rw [dropValQuiet_setStack, ih]
    rfl

/-! ### the machine runs the frames of a block

The start states are written `{ s with stack := … }`: the frames consumed change, the rest of `s`
is what the closed forms speak about. -/

theorem Run.runSteps_eq {k : Nat} {s t : State} (h : Run k s t) : runSteps k s = t := by
  induction h with
  | zero s => rfl
  | succ _ _ _ ih => exact ih

theorem Run.frame {s u t : State} {f : Frame} {rest : List Frame} {k : Nat} (he : s.err = none)
    (hu : step { s with stack := f :: rest } = u) (h : Run k u t) :
    Run (k + 1) { s with stack := f :: rest } t :=
  .succ he (List.cons_ne_nil _ _) (hu ▸ h)

/-- dropping the strong handles of a value: each is a handle to a dead, readable object, so
`<Rc as Drop>::drop` returns at once -/
theorem run_held (rest : List Frame) (ws : List Nat) (s : State) (he : s.err = none) (hs : List Nat)
    (hd : ∀ t ∈ hs, ∃ ob, s.cell t = some ob ∧ ob.strong.isDead = true) :
    Run (2 * hs.length) { s with stack := .dropFields hs ws :: rest }
      { s with stack := .dropFields [] ws :: rest } := by
  induction hs with
  | nil => exact .zero _
  | cons h hs ih =>
    obtain ⟨ob, hc, hdead⟩ := hd h (List.mem_cons_self ..)
    exact Run.frame he (step_eq_frame (s := { s with stack := _ :: _ }) he rfl)
      (Run.frame he ((step_eq_frame (s := { s with stack := _ :: _ }) he rfl).trans
        (rcDrop_dead_noop _ h ob hc hdead)) (ih (fun t ht => hd t (List.mem_cons_of_mem _ ht))))

theorem run_weaks (rest : List Frame) (ws : List Nat) :
    ∀ s : State, s.err = none → GoodW s.heap ws →
      Run (2 * ws.length + 1) { s with stack := .dropFields [] ws :: rest }
        (releaseWeaks { s with stack := rest } ws) := by
  induction ws with
  | nil =>
    intro s he _
    exact Run.frame he (step_eq_frame (s := { s with stack := _ :: _ }) he rfl) (.zero _)
  | cons w ws ih =>
    intro s he hgood
    obtain ⟨ob, hg, hf, hc⟩ := goodW_head _ _ _ hgood
    have hw := weakDrop_good s w ob hg hf (Nat.le_of_add_left_le hc)
    have hr := ih (s.weakDrop w) (by rw [hw]; exact he) (by rw [hw]; exact goodW_step _ _ _ _ hg hgood)
    rw [← weakDrop_setStack s rest w] at hr
    exact Run.frame he (step_eq_frame (s := { s with stack := _ :: _ }) he rfl)
      (Run.frame he ((step_eq_frame (s := { s with stack := _ :: _ }) he rfl).trans
        (weakDrop_setStack s _ w)) hr)

/-- the destructor of a quiet value logs and leaves the drop glue -/
theorem dropVal_quiet (s : State) {v : Val} (hq : v.quiet) :
    s.dropVal v
      = (s.emit (.destroyed v.vid)).push [.script v.held v.weaks [], .dropFields v.held v.weaks] := by
  unfold State.dropVal
  rw [hq.1, hq.2]
  rfl

theorem run_dropVal (s : State) (v : Val) (rest : List Frame) (he : s.err = none) (hq : v.quiet)
    (hr : Ready s.heap v.held v.weaks) :
    Run (valSteps v) { s with stack := .dropVal v :: rest } (dropValQuiet { s with stack := rest } v) := by
  have r3 := run_held rest v.weaks (s.emit (.destroyed v.vid)) he v.held (fun t ht => by
    obtain ⟨ob, hg, hf, hd, _⟩ := hr.2 t ht
    exact ⟨ob, cell_of_not_freed hg hf, hd⟩)
  have r4 := run_weaks rest v.weaks (s.emit (.destroyed v.vid)) he hr.1
  exact (Run.frame he
    ((step_eq_frame (s := { s with stack := .dropVal v :: rest }) he rfl).trans (dropVal_quiet _ hq))
    (Run.frame (s := s.emit (.destroyed v.vid)) he
      (step_eq_frame (s := { s.emit (.destroyed v.vid) with stack := _ :: _ }) he rfl) (r3.trans r4))).cast
    (by unfold valSteps; omega)

/-! ### transporting the side conditions over a value -/

theorem relObj_lt (ob : Obj) (c : Nat) (h : c < ob.weak) :
    (relObj ob c).freed = ob.freed ∧ (relObj ob c).weak = ob.weak - c
      ∧ (relObj ob c).strong = ob.strong := by
  induction c generalizing ob with
  | zero => exact ⟨rfl, rfl, rfl⟩
  | succ c ih =>
    have h1 := rel1_of_lt (Nat.lt_of_le_of_lt (Nat.le_add_left 1 c) h)
    obtain ⟨e1, e2, e3⟩ := ih (rel1 ob) (by rw [rel1_weak]; exact Nat.lt_sub_of_add_lt h)
    refine ⟨e1.trans (by rw [h1]), ?_, e3.trans (by rw [h1])⟩
    rw [show relObj ob (c + 1) = relObj (rel1 ob) c from rfl, e2, rel1_weak, Nat.sub_sub, Nat.add_comm 1 c]

theorem Ready.left {h : List Obj} {hs1 hs2 w1 w2 : List Nat}
    (hr : Ready h (hs1 ++ hs2) (w1 ++ w2)) : Ready h hs1 w1 := by
  constructor
  · intro t ht
    obtain ⟨ob, h1, h2, h3⟩ := hr.1 t (List.mem_append_left _ ht)
    rw [List.count_append] at h3
    exact ⟨ob, h1, h2, Nat.le_trans (Nat.le_add_right _ _) h3⟩
  · intro t ht
    obtain ⟨ob, h1, h2, h3, h4⟩ := hr.2 t (List.mem_append_left _ ht)
    rw [List.count_append] at h4
    exact ⟨ob, h1, h2, h3, Nat.lt_of_le_of_lt (Nat.le_add_right _ _) h4⟩

theorem Ready.right {h h' : List Obj} {hs1 hs2 w1 w2 : List Nat}
    (hr : Ready h (hs1 ++ hs2) (w1 ++ w2))
    (hh : ∀ i, h'[i]? = (h[i]?).map (fun ob => relObj ob (w1.count i))) : Ready h' hs2 w2 := by
  constructor
  · intro t ht
    obtain ⟨ob, h1, h2, h3⟩ := hr.1 t (List.mem_append_right _ ht)
    rw [List.count_append] at h3
    have hlt : w1.count t < ob.weak :=
      Nat.lt_of_lt_of_le (Nat.lt_add_of_pos_right (List.count_pos_iff.mpr ht)) h3
    obtain ⟨e1, e2, _⟩ := relObj_lt ob (w1.count t) hlt
    refine ⟨relObj ob (w1.count t), by rw [hh t, h1]; rfl, e1.trans h2, ?_⟩
    rw [e2]
    exact Nat.le_sub_of_add_le' h3
  · intro t ht
    obtain ⟨ob, h1, h2, h3, h4⟩ := hr.2 t (List.mem_append_right _ ht)
    rw [List.count_append] at h4
    obtain ⟨e1, e2, e3⟩ := relObj_lt ob (w1.count t) (Nat.lt_of_le_of_lt (Nat.le_add_right _ _) h4)
    refine ⟨relObj ob (w1.count t), by rw [hh t, h1]; rfl, e1.trans h2, e3 ▸ h3, ?_⟩
    rw [e2]
    exact Nat.lt_sub_of_add_lt (Nat.add_comm _ _ ▸ h4)

theorem dropValQuiet_spec (s : State) (v : Val) (hgood : GoodW s.heap v.weaks) :
    dropValQuiet s v = { s with heap := (dropValQuiet s v).heap, log := (dropValQuiet s v).log }
    ∧ ∀ i, (dropValQuiet s v).heap[i]? = (s.heap[i]?).map (fun ob => relObj ob (v.weaks.count i)) := by
  have h := releaseWeaks_spec (s.emit (.destroyed v.vid)) v.weaks hgood
  exact ⟨h.1, h.2.1⟩

theorem run_block_stack (vs : List Val) :
    ∀ (s : State) (rest : List Frame), s.err = none → (∀ v ∈ vs, v.quiet) →
      Ready s.heap (vs.map (·.held)).flatten (vs.map (·.weaks)).flatten →
      Run (blockSteps vs) { s with stack := vs.map Frame.dropVal ++ rest }
        (blockResult { s with stack := rest } vs) := by
  induction vs with
  | nil => intro s rest _ _ _; exact .zero _
  | cons v vs ih =>
    intro s rest he hq hr
    simp only [List.map_cons, List.flatten_cons] at hr
    have hsp := dropValQuiet_spec s v hr.left.1
    have hn1 := run_dropVal s v (vs.map Frame.dropVal ++ rest) he (hq v (List.mem_cons_self ..)) hr.left
    have hn2 := ih (dropValQuiet s v) rest (by rw [hsp.1]; exact he)
      (fun v hv => hq v (List.mem_cons_of_mem _ hv)) (hr.right hsp.2)
    rw [← dropValQuiet_setStack, ← dropValQuiet_setStack] at hn2
    exact (hn1.trans hn2).cast (by simp only [blockSteps, List.map_cons, List.sum_cons])

/-- **Running a block.**  The machine runs a block of `dropVal` frames of quiet values whose
strong handles are inert to completion, in `blockSteps vs` steps, and the result is the closed form
`blockResult`. -/
theorem run_block' (vs : List Val) (s : State) (rest : List Frame) (he : s.err = none)
    (hst : s.stack = vs.map Frame.dropVal ++ rest) (hq : ∀ v ∈ vs, v.quiet)
    (hr : Ready s.heap (vs.map (·.held)).flatten (vs.map (·.weaks)).flatten) :
    Run (blockSteps vs) s (blockResult { s with stack := rest } vs) := by
  have h := run_block_stack vs s rest he hq hr
  rwa [← hst] at h

theorem run_block (vs : List Val) (s : State) (rest : List Frame) (he : s.err = none)
    (hst : s.stack = vs.map Frame.dropVal ++ rest) (hq : ∀ v ∈ vs, v.quiet)
    (hr : Ready s.heap (vs.map (·.held)).flatten (vs.map (·.weaks)).flatten) :
    ∃ n, runSteps n s = blockResult { s with stack := rest } vs :=
  ⟨_, (run_block' vs s rest he hst hq hr).runSteps_eq⟩

/-! ## The block in closed form, and its independence of the order -/

theorem Ready.perm {h : List Obj} {hs hs' ws ws' : List Nat} (hr : Ready h hs ws)
    (hph : hs.Perm hs') (hpw : ws.Perm ws') : Ready h hs' ws' := by
  refine ⟨hr.1.perm hpw, ?_⟩
  intro t ht
  obtain ⟨ob, h1, h2, h3, h4⟩ := hr.2 t (hph.mem_iff.mpr ht)
  exact ⟨ob, h1, h2, h3, by rw [← hpw.count_eq]; exact h4⟩

/-- **Closed form of a block**: all components but heap and log are untouched, the heap is the
heap after releasing the Weak handles of the block (in any order), and the log is extended by a
permutation of the `destroyed` events of the values and the `freed` events of the releases. -/
theorem blockResult_spec (s : State) (vs : List Val) (hgood : GoodW s.heap (blockWeaks vs)) :
    blockResult s vs = { s with heap := (blockResult s vs).heap, log := (blockResult s vs).log }
    ∧ (blockResult s vs).heap = (releaseWeaks s (blockWeaks vs)).heap
    ∧ ∃ l, (blockResult s vs).log = s.log ++ l
        ∧ l.Perm (vs.map (fun v => Ev.destroyed v.vid) ++ freedLog s (blockWeaks vs)) := by
  have h1 := blockResult_items s vs hgood
  obtain ⟨-, h2h, -, h2l⟩ := releaseWeaks_spec s (blockWeaks vs) hgood
  obtain ⟨l, hl, hc⟩ := h1.log
  refine ⟨h1.ctl, List.ext_getElem? fun i => ?_, l, hl, List.perm_iff_count.mpr fun e => ?_⟩
  · rw [h1.heap i, h2h i, rels_blockItems]
  · rw [hc e, List.count_append, h2l e, evs_blockItems, rels_blockItems]

/-- **Main theorem.**  A block of `dropVal` frames of quiet values whose strong handles designate
dead readable cells runs to completion; the final state has the rest of the stack, no error, the
heap obtained by releasing all Weak handles of the block, unchanged handle tables, and a log
extended by a permutation of the `destroyed` events and the `freed` events of the releases. -/
theorem dropVal_block (s : State) (vs : List Val) (rest : List Frame)
    (herr : s.err = none) (hstack : s.stack = vs.map Frame.dropVal ++ rest)
    (hq : ∀ v ∈ vs, v.quiet) (hr : Ready s.heap (blockHeld vs) (blockWeaks vs)) :
    ∃ n s', runSteps n s = s' ∧ s' = blockResult { s with stack := rest } vs
      ∧ s'.stack = rest ∧ s'.err = none
      ∧ s'.heap = (releaseWeaks { s with stack := rest } (blockWeaks vs)).heap
      ∧ s'.roots = s.roots ∧ s'.wroots = s.wroots ∧ s'.vals = s.vals ∧ s'.raws = s.raws
      ∧ s'.unwinding = s.unwinding ∧ s'.hint = s.hint ∧ s'.nextVid = s.nextVid
      ∧ ∃ l, s'.log = s.log ++ l
          ∧ l.Perm (vs.map (fun v => Ev.destroyed v.vid)
                      ++ freedLog { s with stack := rest } (blockWeaks vs)) := by
  obtain ⟨n, hn⟩ := run_block vs s rest herr hstack hq hr
  obtain ⟨hc, hh, hl⟩ := blockResult_spec { s with stack := rest } vs hr.1
  refine ⟨n, _, hn, rfl, ?_, ?_, hh, ?_, ?_, ?_, ?_, ?_, ?_, ?_, hl⟩
  all_goals rw [hc]
  exact herr

/-- **C09, order of destruction.**  Two blocks that are permutations of each other, run from the
same state, end in states with equal heaps, equal handle tables, equal stack and no error, and
logs that are permutations of each other. -/
theorem group_order_irrelevant (s : State) (vs vs' : List Val) (rest : List Frame)
    (hp : vs.Perm vs') (herr : s.err = none) (hstack : s.stack = vs.map Frame.dropVal ++ rest)
    (hq : ∀ v ∈ vs, v.quiet) (hr : Ready s.heap (blockHeld vs) (blockWeaks vs)) :
    ∃ n n' s1 s2, runSteps n s = s1
      ∧ runSteps n' { s with stack := vs'.map Frame.dropVal ++ rest } = s2
      ∧ s1.heap = s2.heap ∧ s1.roots = s2.roots ∧ s1.wroots = s2.wroots ∧ s1.vals = s2.vals
      ∧ s1.raws = s2.raws ∧ s1.stack = rest ∧ s2.stack = rest ∧ s1.err = none ∧ s2.err = none
      ∧ s2 = { s1 with log := s2.log }
      ∧ s1.log.Perm s2.log := by
  have hr' : Ready s.heap (blockHeld vs') (blockWeaks vs') :=
    hr.perm (blockHeld_perm hp) (blockWeaks_perm hp)
  obtain ⟨n, s1, hn, hs1, h1⟩ := dropVal_block s vs rest herr hstack hq hr
  obtain ⟨n', s2, hn', hs2, h2⟩ :=
    dropVal_block { s with stack := vs'.map Frame.dropVal ++ rest } vs' rest herr rfl
      (fun v hv => hq v (hp.mem_iff.mpr hv)) hr'
  have hs2' : s2 = blockResult { s with stack := rest } vs' := hs2
  have hperm := runItems_perm { s with stack := rest } (blockItems vs) (blockItems vs')
    (by rw [rels_blockItems]; exact hr.1) (rels_blockItems_perm hp) (evs_blockItems_perm hp)
  rw [← blockResult_eq_runItems, ← blockResult_eq_runItems, ← hs1, ← hs2'] at hperm
  obtain ⟨e1, e2, e3⟩ := hperm
  refine ⟨n, n', s1, s2, hn, hn', e1.symm, ?_, ?_, ?_, ?_, h1.1, h2.1, h1.2.1, h2.2.1, e2, e3.symm⟩
  all_goals rw [e2]

/-- the instance that matters: the order chosen by two different layout hints -/
theorem group_order_irrelevant_reorder (s : State) (hint hint' : List Nat) (xs : List Val)
    (rest : List Frame) (herr : s.err = none)
    (hstack : s.stack = (reorder hint xs).map Frame.dropVal ++ rest)
    (hq : ∀ v ∈ xs, v.quiet) (hr : Ready s.heap (blockHeld xs) (blockWeaks xs)) :
    ∃ n n' s1 s2, runSteps n s = s1
      ∧ runSteps n' { s with stack := (reorder hint' xs).map Frame.dropVal ++ rest } = s2
      ∧ s1.heap = s2.heap ∧ s1.roots = s2.roots ∧ s1.wroots = s2.wroots ∧ s1.vals = s2.vals
      ∧ s1.raws = s2.raws ∧ s1.stack = rest ∧ s2.stack = rest ∧ s1.err = none ∧ s2.err = none
      ∧ s2 = { s1 with log := s2.log }
      ∧ s1.log.Perm s2.log :=
  group_order_irrelevant s (reorder hint xs) (reorder hint' xs) rest
    ((reorder_perm hint xs).trans (reorder_perm hint' xs).symm) herr hstack
    (fun v hv => hq v ((mem_reorder hint xs v).mp hv))
    (hr.perm (blockHeld_perm (reorder_perm hint xs).symm) (blockWeaks_perm (reorder_perm hint xs).symm))

/-! ## The side conditions follow from the invariants -/

theorem blockWeaks_le_pendW (s : State) (vs : List Val) (rest : List Frame)
    (hst : s.stack = vs.map Frame.dropVal ++ rest) (t : Nat) :
    (blockWeaks vs).count t ≤ s.pendW t := by
  have : sumList ((vs.map Frame.dropVal).map (Frame.weakTo t)) = (blockWeaks vs).count t := by
    rw [blockWeaks, List.count_flatten, sumList_eq_sum]
    simp only [List.map_map]
    rfl
  rw [pendW, hst, List.map_append, sumList_append, this]
  exact Nat.le_add_right _ _

theorem blockHeld_le_pend (s : State) (vs : List Val) (rest : List Frame)
    (hst : s.stack = vs.map Frame.dropVal ++ rest) (t : Nat) :
    (blockHeld vs).count t ≤ s.pend t := by
  have : sumList ((vs.map Frame.dropVal).map (Frame.strongTo t)) = (blockHeld vs).count t := by
    rw [blockHeld, List.count_flatten, sumList_eq_sum]
    simp only [List.map_map]
    rfl
  rw [pend, hst, List.map_append, sumList_append, this]
  exact Nat.le_add_right _ _

/-- In a state satisfying the invariants (every `ReachableP` state without error does), a block
of `dropVal` frames on top of the stack whose strong handles all designate non-live objects
(`full_group_closed`: under `Full` the values of a collected group hold handles to members only)
satisfies the side conditions of `dropVal_block`: Weak handles of frames are counted in `pendW`
(`InvW`), a counted weak reference keeps the allocation (`InvO`), and a dead target of a pending
strong handle still owns its implicit weak reference (`InvS`). -/
theorem ready_of_inv (s : State) (vs : List Val) (rest : List Frame)
    (hcore : s.InvCore) (hR : s.InvR) (hS : s.InvSCore)
    (hst : s.stack = vs.map Frame.dropVal ++ rest)
    (hdead : ∀ t ∈ blockHeld vs, s.isLive t = false) :
    Ready s.heap (blockHeld vs) (blockWeaks vs) := by
  obtain ⟨hO, _, _, hW, _⟩ := hcore
  -- an allocation with a positive weak count is not released
  have hfreed : ∀ {t : Nat} {ob : Obj}, s.heap[t]? = some ob → 0 < ob.weak → ob.freed = false := by
    intro t ob hg hpos
    cases hf : ob.freed with
    | false => rfl
    | true => rw [((hO t ob hg).2.2.2).mp hf] at hpos; exact absurd hpos (Nat.lt_irrefl 0)
  constructor
  · intro t ht
    have hpos : 0 < (blockWeaks vs).count t := List.count_pos_iff.mpr ht
    have hle := blockWeaks_le_pendW s vs rest hst t
    have hlt : t < s.heap.length := Nat.lt_of_not_le fun hge => by
      rw [(Nat.eq_zero_of_add_eq_zero (hR t hge).2).2] at hle
      exact Nat.lt_irrefl 0 (Nat.lt_of_lt_of_le hpos hle)
    have hw := hW t hlt
    simp only [weakNat, List.getElem?_eq_getElem hlt] at hw
    have hc : (blockWeaks vs).count t ≤ s.heap[t].weak := by omega
    exact ⟨_, List.getElem?_eq_getElem hlt,
      hfreed (List.getElem?_eq_getElem hlt) (Nat.lt_of_lt_of_le hpos hc), hc⟩
  · intro t ht
    have hpos : 0 < (blockHeld vs).count t := List.count_pos_iff.mpr ht
    obtain ⟨ob, hg, hu, _, himp⟩ :=
      hS.2.1 t (Nat.lt_of_lt_of_le hpos (blockHeld_le_pend s vs rest hst t)) (hdead t ht)
    have hw := hW t (List.getElem?_eq_some_iff.mp hg).1
    simp only [weakNat, implicitNat, hg, himp, if_true] at hw
    have hc : (blockWeaks vs).count t < ob.weak := by
      have := blockWeaks_le_pendW s vs rest hst t
      omega
    exact ⟨ob, hg, hfreed hg (Nat.lt_of_le_of_lt (Nat.zero_le _) hc), by rw [hu]; rfl, hc⟩

/-! ## The strict side condition is needed

If a Weak handle of one value is the *last* weak reference of an allocation to which another
value of the block holds a strong handle, the order does matter: releasing first frees the
allocation and the later `<Rc as Drop>::drop` reads released memory.  (Impossible for a collected
group: its members keep their implicit weak reference until `phase3`, after the block.) -/

example :
    let dead : Obj := { strong := .uninit, weak := 1, links := none, value := none, freed := false }
    let v1 : Val := { vid := 1, held := [], weaks := [0], script := [], panics := false }
    let v2 : Val := { vid := 2, held := [0], weaks := [], script := [], panics := false }
    (runSteps 9 { heap := [dead], stack := [.dropVal v1, .dropVal v2] }).err = some (.uaf 0)
    ∧ (runSteps 9 { heap := [dead], stack := [.dropVal v2, .dropVal v1] }).err = none := by
  decide

end Cactus
