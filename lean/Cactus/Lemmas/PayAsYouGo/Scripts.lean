import Cactus.Lemmas.Final
/-!
# A class of actions carried through destructor scripts

Only the operation `setScript` installs a destructor script: after any other transition, every
script found in the state (in a running `script` frame, in a value waiting in a `dropVal` frame, in
the heap, among the unwrapped values) was in the state before, or is the empty script of `new`.
So for any class `Q` of actions the property `State.ScriptsQ Q`, "every script in the state
consists of `Q`-actions", is kept by every action, every machine step and every operation of the
class.  `Contract.lean` takes `Q := Act.respects`, `PayAsYouGo/NoAdopt.lean` `Q := Act.noAdopt`,
`Termination/Step.lean` `Q := Act.notMakeMut`.

`State.SLe s s'` is the class-independent core: same stack, same unwrapped values, and every value
in the heap of `s'` carries the script found at the same address in `s`.
-/
namespace Cactus

namespace State

def HLe (s s' : State) : Prop :=
  ∀ (x : Nat) (ob' : Obj) (v : Val), s'.heap[x]? = some ob' → ob'.value = some v →
    ∃ ob v0, s.heap[x]? = some ob ∧ ob.value = some v0 ∧ v.script = v0.script

structure SLe (s s' : State) : Prop where
  stack : s'.stack = s.stack
  vals : s'.vals = s.vals
  heap : HLe s s'

theorem SLe.refl (s : State) : SLe s s :=
  ⟨rfl, rfl, fun _ ob v hx hv => ⟨ob, v, hx, hv, rfl⟩⟩

theorem SLe.trans {s s' s'' : State} (h1 : SLe s s') (h2 : SLe s' s'') : SLe s s'' := by
  refine ⟨h2.stack.trans h1.stack, h2.vals.trans h1.vals, ?_⟩
  intro x ob'' v hx hv
  obtain ⟨ob', v', hg', hv', hs'⟩ := h2.heap x ob'' v hx hv
  obtain ⟨ob, v0, hg, hv0, hs⟩ := h1.heap x ob' v' hg' hv'
  exact ⟨ob, v0, hg, hv0, hs'.trans hs⟩

theorem SLe.of_eq {s s' : State} (hh : s'.heap = s.heap) (hs : s'.stack = s.stack)
    (hv : s'.vals = s.vals) : SLe s s' :=
  ⟨hs, hv, fun _ ob v hx hvx => ⟨ob, v, by rw [← hh]; exact hx, hvx, rfl⟩⟩

theorem SLe.fail (s : State) (e : Err) : SLe s (s.fail e) := SLe.of_eq (fail_heap s e) (fail_stack s e) (fail_vals s e)
theorem SLe.emit (s : State) (e : Ev) : SLe s (s.emit e) := SLe.of_eq rfl rfl rfl

theorem SLe.badRoot (s : State) (r : Nat) : SLe s (s.badRoot r) := by
  rcases badRoot_cases s r with e | ⟨e, he⟩
  · rw [e]; exact SLe.refl s
  · rw [he]; exact SLe.fail s e

theorem SLe.setObj {s : State} {o : Nat} {ob ob' : Obj} (hg : s.heap[o]? = some ob)
    (h : ∀ v, ob'.value = some v → ∃ v0, ob.value = some v0 ∧ v.script = v0.script) :
    SLe s (s.setObj o ob') := by
  refine ⟨rfl, rfl, ?_⟩
  intro x obx v hx hvx
  by_cases hxo : x = o
  · subst hxo
    rw [getElem?_setObj_same _ (get_lt hg)] at hx
    cases hx
    obtain ⟨v0, hv0, hs⟩ := h v hvx
    exact ⟨ob, v0, hg, hv0, hs⟩
  · rw [getElem?_setObj_other s _ hxo] at hx
    exact ⟨obx, v, hx, hvx, rfl⟩

theorem SLe.setObj_keep {s : State} {o : Nat} {ob ob' : Obj} (hg : s.heap[o]? = some ob)
    (hv : ob'.value = ob.value) : SLe s (s.setObj o ob') :=
  SLe.setObj hg (fun v h => ⟨v, by rw [← hv]; exact h, rfl⟩)

theorem SLe.setObj_none {s : State} {o : Nat} {ob ob' : Obj} (hg : s.heap[o]? = some ob)
    (hv : ob'.value = none) : SLe s (s.setObj o ob') :=
  SLe.setObj hg (fun v h => by rw [hv] at h; cases h)

theorem SLe.setLinks (s : State) (o : Nat) (f : Table → Table) : SLe s (s.setLinks o f) := by
  rcases setLinks_cases s o f with ⟨e, h⟩ | ⟨ob, t, hc, hl, h⟩ <;> rw [h]
  · exact SLe.fail s e
  · exact SLe.setObj_keep (get_of_cell hc) rfl

theorem SLe.incStrong (s : State) (o : Nat) : SLe s (s.incStrong o) := by
  rcases incStrong_cases s o with ⟨e, h⟩ | ⟨ob, n, hc, hs, h⟩ <;> rw [h]
  · exact SLe.fail s e
  · exact SLe.setObj_keep (get_of_cell hc) rfl

theorem SLe.incWeak (s : State) (o : Nat) : SLe s (s.incWeak o) := by
  rcases incWeak_cases s o with ⟨e, h⟩ | ⟨ob, hc, hw, h⟩ <;> rw [h]
  · exact SLe.fail s e
  · exact SLe.setObj_keep (get_of_cell hc) rfl

theorem SLe.decWeakFree (s : State) (o : Nat) (imp : Bool) : SLe s (s.decWeakFree o imp) := by
  rcases decWeakFree_cases s o imp with ⟨e, h⟩ | ⟨ob, hc, hw, h⟩ | ⟨ob, w, hc, hw, h⟩ <;> rw [h]
  · exact SLe.fail s e
  · exact (SLe.setObj_keep (ob' := { ob with weak := 0, freed := true, implicit := ob.implicit && !imp })
      (get_of_cell hc) rfl).trans (SLe.emit _ _)
  · exact SLe.setObj_keep (get_of_cell hc) rfl

theorem SLe.modVal {s : State} {o : Nat} {f : Val → Val} (hf : ∀ v, (f v).script = v.script) :
    SLe s (s.modVal o f) := by
  rcases modVal_cases s o f with ⟨e, h⟩ | ⟨ob, v, hc, hv, h⟩ <;> rw [h]
  · exact SLe.fail s e
  · refine SLe.setObj (get_of_cell hc) (fun v' hv' => ⟨v, hv, ?_⟩)
    cases hv'
    exact hf v

theorem SLe.cloneHandles (s : State) (v : Val) : SLe s (s.cloneHandles v) :=
  cloneHandles_rel SLe.refl SLe.trans SLe.incStrong SLe.incWeak s v

theorem SLe.adopt (s : State) (a b : Nat) (same : Bool) : SLe s (s.adopt a b same) :=
  adopt_rel (R := SLe) SLe.trans SLe.setLinks s a b same

theorem SLe.unadopt (s : State) (a b : Nat) (same : Bool) : SLe s (s.unadopt a b same) :=
  unadopt_rel (R := SLe) SLe.trans (fun s o f _ => SLe.setLinks s o f) s a b same

theorem SLe.purgePeers (s : State) (x : Nat) : SLe s (s.purgePeers x) :=
  purgePeers_rel SLe.refl SLe.trans (fun s o f _ => SLe.setLinks s o f) (fun s e _ => SLe.fail s e) s x

theorem SLe.giveUp (s : State) (o : Nat) : SLe s (s.giveUp o) := by
  unfold State.giveUp
  split
  · rename_i ob hc
    exact (SLe.purgePeers s o).trans
      ((SLe.setObj_none (get_of_cell hc) rfl).trans (SLe.decWeakFree _ o true))
  · exact (SLe.purgePeers s o).trans (SLe.fail _ _)

theorem SLe.finishSingle (s : State) (o : Nat) : SLe s (s.finishSingle o) := by
  rcases finishSingle_cases s o with ⟨e, h⟩ | ⟨ob, hc, h⟩ <;> rw [h]
  · exact SLe.fail s e
  · exact (SLe.setObj_keep (ob' := { ob with links := none }) (get_of_cell hc) rfl).trans
      (SLe.decWeakFree _ o true)

theorem SLe.phase3One (s : State) (k : Nat) : SLe s (s.phase3One k) := by
  rcases phase3One_cases s k with ⟨e, h⟩ | ⟨_, _, _, h⟩ | h <;> rw [h]
  · exact SLe.fail s e
  · exact SLe.refl s
  · exact SLe.decWeakFree s k true

theorem SLe.phase1One (keys : List Nat) (s : State) (e : Nat × Nat) :
    SLe s (phase1One keys s e) := by
  unfold State.phase1One
  split
  · rename_i ob hc
    split
    · exact SLe.setObj_keep (get_of_cell hc) rfl
    · exact SLe.fail _ _
    · exact SLe.fail _ _
  · exact SLe.fail _ _

end State

variable {Q : Act → Prop}

/-- operations all of whose actions (including those of an installed destructor script) are in
the class `Q` -/
def Op.S (Q : Act → Prop) : Op → Prop
  | .act a => Q a
  | .setScript _ acts => ∀ a ∈ acts, Q a
  | .shuffle _ _ => True

def Val.S (Q : Act → Prop) (v : Val) : Prop := ∀ a ∈ v.script, Q a

theorem Val.S_of_script_eq {v v0 : Val} (h : v.script = v0.script) (h0 : v0.S Q) : v.S Q := by
  unfold Val.S; rw [h]; exact h0

def Frame.S (Q : Act → Prop) : Frame → Prop
  | .script _ _ acts => ∀ a ∈ acts, Q a
  | .dropVal v => v.S Q
  | _ => True

namespace State

def HeapQ (Q : Act → Prop) (s : State) : Prop :=
  ∀ (o : Nat) (ob : Obj) (v : Val), s.heap[o]? = some ob → ob.value = some v → v.S Q

/-- every destructor script in the state is in the class `Q`: scripts of running destructors,
of values about to be destroyed, of values in the heap and of unwrapped values -/
def ScriptsQ (Q : Act → Prop) (s : State) : Prop :=
  (∀ f ∈ s.stack, f.S Q) ∧ s.HeapQ Q ∧ (∀ v ∈ s.vals, v.S Q)

theorem SLe.scriptsQ {s s' : State} (h : SLe s s') (hC : s.ScriptsQ Q) : s'.ScriptsQ Q := by
  refine ⟨?_, ?_, ?_⟩
  · rw [h.stack]; exact hC.1
  · intro x ob' v hx hv
    obtain ⟨ob, v0, hg, hv0, hs⟩ := h.heap x ob' v hx hv
    exact Val.S_of_script_eq hs (hC.2.1 x ob v0 hg hv0)
  · rw [h.vals]; exact hC.2.2

namespace ScriptsQ
variable {s : State}

theorem congr {s' : State} (h : s.ScriptsQ Q) (hh : s'.heap = s.heap)
    (hs : s'.stack = s.stack) (hv : s'.vals = s.vals) : s'.ScriptsQ Q :=
  (SLe.of_eq hh hs hv).scriptsQ h

theorem handles (h : s.ScriptsQ Q) (r w ra : List Nat) :
    ({ s with roots := r, wroots := w, raws := ra } : State).ScriptsQ Q := h

theorem fail (h : s.ScriptsQ Q) (e : Err) : (s.fail e).ScriptsQ Q := (SLe.fail s e).scriptsQ h
theorem emit (h : s.ScriptsQ Q) (e : Ev) : (s.emit e).ScriptsQ Q := h
theorem badRoot (h : s.ScriptsQ Q) (r : Nat) : (s.badRoot r).ScriptsQ Q := (SLe.badRoot s r).scriptsQ h

theorem push (h : s.ScriptsQ Q) {fs : List Frame} (hf : ∀ f ∈ fs, f.S Q) :
    (s.push fs).ScriptsQ Q := by
  refine ⟨?_, h.2.1, h.2.2⟩
  intro f hm
  rw [push_stack, List.mem_append] at hm
  exact hm.elim (hf f) (h.1 f)

theorem push1 (h : s.ScriptsQ Q) {f : Frame} (hf : f.S Q) : (s.push [f]).ScriptsQ Q :=
  h.push (fun g hg => by rw [List.mem_singleton.mp hg]; exact hf)

theorem pop {f : Frame} {rest : List Frame} (h : s.ScriptsQ Q)
    (hst : s.stack = f :: rest) : ({ s with stack := rest } : State).ScriptsQ Q ∧ f.S Q := by
  refine ⟨⟨fun g hg => h.1 g ?_, h.2.1, h.2.2⟩, h.1 f ?_⟩
  · rw [hst]; exact List.mem_cons_of_mem _ hg
  · rw [hst]; exact List.mem_cons_self

theorem alloc (h : s.ScriptsQ Q) {v : Val} (hv : v.S Q) : (s.alloc v).ScriptsQ Q := by
  refine ⟨h.1, ?_, h.2.2⟩
  intro x ob v' hx hv'
  rw [getElem?_alloc] at hx
  split at hx
  · cases hx
    cases hv'
    exact hv
  · exact h.2.1 x ob v' hx hv'

theorem valOf (h : s.ScriptsQ Q) {o : Nat} {ob : Obj} {v : Val}
    (hc : s.cell o = some ob) (hv : ob.value = some v) : v.S Q :=
  h.2.1 o ob v (get_of_cell hc) hv

theorem valsPush (h : s.ScriptsQ Q) {v : Val} (hv : v.S Q) :
    ({ s with vals := s.vals ++ [v] } : State).ScriptsQ Q := by
  refine ⟨h.1, h.2.1, fun v' hv' => ?_⟩
  rcases List.mem_append.mp hv' with hv' | hv'
  · exact h.2.2 v' hv'
  · rw [List.mem_singleton.mp hv']; exact hv

end ScriptsQ

theorem ScriptsQ.beginSingle {s : State} (h : s.ScriptsQ Q) (o : Nat) : (s.beginSingle o).ScriptsQ Q := by
  rcases beginSingle_cases s o with ⟨e, he⟩ | he | ⟨ob, v, hc, hv, he⟩ <;> rw [he]
  · exact h.fail e
  · exact (SLe.decWeakFree s o true).scriptsQ h
  · refine ScriptsQ.push ((SLe.setObj_none (get_of_cell hc) rfl).scriptsQ h) ?_
    intro f hf
    simp only [List.mem_cons, List.not_mem_nil, or_false] at hf
    rcases hf with rfl | rfl
    · exact h.valOf hc hv
    · trivial

theorem phase2One_scriptsQ (acc : State × List Val) (k : Nat) (h : acc.1.ScriptsQ Q)
    (hv : ∀ v ∈ acc.2, v.S Q) :
    (phase2One acc k).1.ScriptsQ Q ∧ ∀ v ∈ (phase2One acc k).2, v.S Q := by
  unfold State.phase2One
  split
  · rename_i ob hc
    split
    · split
      · rename_i v hvv
        refine ⟨(SLe.setObj_none (get_of_cell hc) rfl).scriptsQ h, fun v' hv' => ?_⟩
        rcases List.mem_append.mp hv' with hv' | hv'
        · exact hv v' hv'
        · rw [List.mem_singleton.mp hv']; exact h.valOf hc hvv
      · exact ⟨h.fail _, hv⟩
    · exact ⟨h, hv⟩
  · exact ⟨h.fail _, hv⟩

theorem ScriptsQ.dropCycle {s : State} (h : s.ScriptsQ Q) (c : CMap) : (s.dropCycle c).ScriptsQ Q := by
  unfold State.dropCycle
  have h1 : (c.foldl (phase1One c.keys) s).ScriptsQ Q :=
    (foldl_lift SLe.refl SLe.trans (SLe.phase1One c.keys) c s).scriptsQ h
  obtain ⟨h2, h3⟩ := foldl_pres (I := fun acc : State × List Val => acc.1.ScriptsQ Q ∧ ∀ v ∈ acc.2, v.S Q)
    phase2One (fun acc k h => phase2One_scriptsQ acc k h.1 h.2) c.keys
    (b := (c.foldl (phase1One c.keys) s, [])) ⟨h1, fun v hv => by cases hv⟩
  refine ScriptsQ.push h2 ?_
  intro f hf
  simp only [List.mem_append, List.mem_map, List.mem_cons, List.not_mem_nil, or_false] at hf
  rcases hf with ⟨v, hv, rfl⟩ | rfl
  · exact h3 v ((reorder_perm s.hint _).mem_iff.mp hv)
  · trivial

theorem ScriptsQ.traceBranch {s : State} (h : s.ScriptsQ Q) (o : Nat) :
    (s.traceBranch o).ScriptsQ Q := by
  rcases State.traceBranch_cases s o with ⟨e, he⟩ | he | he <;> rw [he]
  · exact (h.emit _).fail e
  · exact h.emit _
  · exact (h.emit _).dropCycle _

theorem ScriptsQ.rcDrop {s : State} (h : s.ScriptsQ Q) (o : Nat) : (s.rcDrop o).ScriptsQ Q := by
  rcases State.rcDrop_cases s o with ⟨e, he⟩ | he | ⟨ob, n, t, hc, -, -, hcase⟩
  · rw [he]; exact h.fail e
  · rw [he]; exact h
  · have h1 : (s.setObj o { ob with strong := .cnt n }).ScriptsQ Q :=
      (SLe.setObj_keep (ob' := { ob with strong := .cnt n }) (get_of_cell hc) rfl).scriptsQ h
    rcases hcase with ⟨-, -, he⟩ | ⟨-, -, he⟩ | ⟨-, -, he⟩ | ⟨-, -, he⟩ <;> rw [he]
    · exact h1
    · exact h1.beginSingle o
    · exact ((SLe.purgePeers _ o).scriptsQ h1).beginSingle o
    · exact h1.traceBranch o

theorem ScriptsQ.panic {s : State} (h : s.ScriptsQ Q) : s.panic.ScriptsQ Q := by
  unfold State.panic
  split
  · exact h.fail _
  · exact ⟨fun g hg => h.1 g (List.mem_filter.mp hg).1, h.2.1, h.2.2⟩

theorem ScriptsQ.dropVal {s : State} (h : s.ScriptsQ Q) {v : Val} (hv : v.S Q) :
    (s.dropVal v).ScriptsQ Q := by
  refine (h.emit _).push (fun g hg => ?_)
  simp only [List.mem_append, List.mem_cons, List.not_mem_nil, or_false] at hg
  rcases hg with (rfl | hg) | rfl
  · exact hv
  · split at hg
    · rw [List.mem_singleton.mp hg]; trivial
    · cases hg
  · trivial

theorem ScriptsQ.dropFields {s : State} (h : s.ScriptsQ Q) (hs ws : List Nat) :
    (s.dropFields hs ws).ScriptsQ Q := by
  have h2 : ∀ f g : Frame, f.S Q → g.S Q → (s.push [f, g]).ScriptsQ Q := fun f g hf hg =>
    h.push (List.forall_mem_cons.mpr ⟨hf, List.forall_mem_cons.mpr ⟨hg, fun _ hm => nomatch hm⟩⟩)
  cases hs with
  | cons a hs => exact h2 _ _ trivial trivial
  | nil =>
    cases ws with
    | cons a ws => exact h2 _ _ trivial trivial
    | nil => exact h

end State

open State

theorem State.SLe.of_prim {a : Act} {t u : State} (ha : ¬ a.movesValue) (p : Prim a t u) : SLe t u := by
  cases p with
  | fail e => exact SLe.fail t e
  | ret n => exact SLe.emit t _
  | incStrong o => exact SLe.incStrong t o
  | incWeak o => exact SLe.incWeak t o
  | setLinks o f => exact SLe.setLinks t o f
  | modVal o f hf => exact SLe.modVal (fun v => (hf v).2.1)
  | handles r w ra => exact SLe.of_eq rfl rfl rfl
  | valsPush _ hm | valsErase _ hm | nextVid _ hm | alloc _ hm | giveUp _ hm => exact absurd hm ha

/-- every action keeps `ScriptsQ`: the four that move a value put it, or a copy of it (`makeMut`),
where `ScriptsQ` looks, and the only fresh script is the empty one of `new`; the others take
`SLe`-steps and push at most a handle -/
theorem applyAct_scriptsQ (s : State) (fh fw : List Nat) (a : Act) (h : s.ScriptsQ Q) :
    (applyAct s fh fw a).ScriptsQ Q := by
  have generic : ¬ a.movesValue → (applyAct s fh fw a).ScriptsQ Q := fun ha =>
    (applyAct_shape s fh fw a).pres (fun p ht => (SLe.of_prim ha p).scriptsQ ht)
      (fun t d hd hv ht => ht.push1 (by
        cases d with
        | dropVal v => exact absurd (hv v rfl) ha
        | _ => first | trivial | cases hd)) h
  cases a with
  | new =>
    rw [applyAct]
    exact (h.alloc (fun a ha => by cases ha)).congr rfl rfl rfl
  | tryUnwrap r =>
    rw [applyAct]; split
    · split
      · rename_i ob hc
        split
        · rename_i v _ hv
          exact ((SLe.giveUp _ _).scriptsQ ((h.valsPush (h.valOf hc hv)).handles _ _ _)).emit _
        · exact h.fail _
        · exact h.emit _
      · exact h.fail _
    · exact h.badRoot r
  | dropValue i =>
    rw [applyAct]; split
    · rename_i v hn
      refine ScriptsQ.push1 (s := { s with vals := s.vals.eraseIdx (idxMod s.vals i) })
        ⟨h.1, h.2.1, fun v' hv' => h.2.2 v' (List.mem_of_mem_eraseIdx hv')⟩ ?_
      exact h.2.2 v (mem_of_nthMod hn)
    · exact h
  | makeMut r =>
    rw [applyAct]; split
    · split
      · rename_i ob hc
        split
        · rename_i v hv
          have hvQ : v.S Q := h.valOf hc hv
          by_cases hs1 : ob.strong ≠ .cnt 1
          · rw [if_pos hs1]
            have h1 : (if v.shallow then s else s.cloneHandles v).ScriptsQ Q := by
              split
              · exact h
              · exact (SLe.cloneHandles s v).scriptsQ h
            have hv' : (if v.shallow then { v with vid := s.nextVid, held := [], weaks := [] }
                else { v with vid := s.nextVid } : Val).S Q := by
              split <;> exact hvQ
            exact ((h1.alloc hv').congr rfl rfl rfl).push1 trivial
          · rw [if_neg hs1]
            split
            · exact ((SLe.giveUp _ _).scriptsQ ((h.alloc hvQ).handles _ _ _)).emit _
            · exact h.emit _
        · exact h.fail _
      · exact h.fail _
    · exact h.badRoot r
  | _ => exact generic id

theorem applyOp_scriptsQ (s : State) (op : Op) (hop : op.S Q) (h : s.ScriptsQ Q) :
    (applyOp s op).ScriptsQ Q := by
  cases op with
  | act a => exact applyAct_scriptsQ s [] [] a h
  | setScript q acts =>
    rw [applyOp]; split
    · rename_i o _
      rcases modVal_cases s o (fun v => { v with script := acts }) with ⟨e, he⟩ | ⟨ob, v, hc, hv, he⟩ <;>
        rw [he]
      · exact h.fail e
      · refine ⟨h.1, ?_, h.2.2⟩
        intro x obx vx hx hvx
        by_cases hxo : x = o
        · subst hxo
          rw [getElem?_setObj_same _ (get_lt (get_of_cell hc))] at hx
          cases hx
          cases hvx
          exact hop
        · rw [getElem?_setObj_other s _ hxo] at hx
          exact h.2.1 x obx vx hx hvx
    · exact h.badRoot q
  | shuffle q i =>
    rw [applyOp]; split
    · exact (SLe.setLinks _ _ _).scriptsQ h
    · exact h.badRoot q

theorem step_scriptsQ (s : State) (h : s.ScriptsQ Q) : (step s).ScriptsQ Q := by
  cases herr : s.err with
  | some e => rw [step_of_err herr]; exact h
  | none =>
    cases hst : s.stack with
    | nil => rw [step_of_stack_nil hst]; exact h
    | cons f rest =>
      obtain ⟨h0, hf⟩ := h.pop hst
      rw [step_eq_frame herr hst]
      cases f with
      | rcDrop o => exact h0.rcDrop o
      | weakDrop o => exact (SLe.decWeakFree _ o false).scriptsQ h0
      | dropVal v => exact h0.dropVal hf
      | script hh ww acts =>
        cases acts with
        | nil => exact h0
        | cons a as =>
          exact applyAct_scriptsQ _ hh ww a
            (h0.push1 (f := .script hh ww as) (fun b hb => hf b (List.mem_cons_of_mem _ hb)))
      | panic => exact h0.panic
      | dropFields hh ww => exact h0.dropFields hh ww
      | finishSingle o => exact (SLe.finishSingle _ o).scriptsQ h0
      | phase3 ks => exact (foldl_lift SLe.refl SLe.trans SLe.phase3One ks _).scriptsQ h0

theorem endOp_scriptsQ (s : State) (h : s.ScriptsQ Q) : (endOp s).ScriptsQ Q := by
  unfold endOp
  split
  · exact h.congr rfl rfl rfl
  · exact h

theorem begin_scriptsQ (s : State) (hint : List Nat) (h : s.ScriptsQ Q) : (s.begin hint).ScriptsQ Q :=
  h.congr rfl rfl rfl

theorem ScriptsQ_init : ({} : State).ScriptsQ Q := by
  refine ⟨?_, ?_, ?_⟩
  · intro f hf; cases hf
  · intro o ob v hx _
    have : (({} : State).heap)[o]? = none := rfl
    rw [this] at hx; cases hx
  · intro v hv; cases hv

end Cactus
