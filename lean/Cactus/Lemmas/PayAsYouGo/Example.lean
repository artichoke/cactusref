import Cactus.Lemmas.PayAsYouGo.NoAdopt
/-!
# C14 (pay-as-you-go): non-vacuity

`hN`: a never-adopting history with five objects, clones, plain `store`s of handles into values
(a chain `0 → 1 → 2`), Weak handles (one stored as a parent pointer), a destructor script that
upgrades its Weak field and clones and drops its strong field, `make_mut` (clone branch),
`try_unwrap` + drop of the unwrapped value, and a final drop that cascades through the stored
handles.  It is `noAdopt`, ends without error, destroys and releases everything, and its log has no
`traced` event — shown by evaluation and, independently, by `run_noAdopt_no_trace`.

`hA`: a history that *does* adopt (a two-cycle `0 ↔ 1` built with `link`) next to a bystander
(object 2) that is cloned and dropped: the ghost list is `[1, 0, 0, 1]`, the bystander is not in it,
the traces of the run are rooted at 0 and 1 only.
-/
namespace Cactus.PayAsYouGoExample
open Cactus

def progN : List Op := [
  .act .new, .act .new, .act .new,                 -- objects 0, 1, 2; handles [0, 1, 2]
  .setScript 1 [.upgradeField 0, .cloneField 0, .drop 0],  -- destructor of object 1's value
  .act (.downgrade 2), .act (.downgrade 0),        -- Weak handles [2, 0]
  .act (.storeWeak 1 1),                           -- object 1 holds a Weak to object 0 (parent pointer)
  .act (.store 2 1),                               -- object 1 holds the handle to object 2
  .act (.store 1 0),                               -- object 0 holds the handle to object 1: 0 → 1 → 2
  .act (.clone 0), .act (.counts 0),               -- second handle to object 0
  .act (.drop 0),                                  -- drop one of them: no cascade
  .act (.upgrade 0), .act (.drop 1),               -- upgrade the Weak to object 2, drop the result
  .act .new, .act (.clone 1), .act (.makeMut 1),   -- object 3 is shared: make_mut clones into object 4
  .act (.tryUnwrap 2), .act (.dropValue 0),        -- unwrap object 3, drop the value
  .act (.drop 1),                                  -- drop object 4
  .act (.drop 0),                                  -- last handle to object 0: cascade 0, 1, 2
  .act (.dropWeak 0)]                              -- last Weak to object 2: allocation released

def hN : List (Op × List Nat) := progN.map (fun o => (o, []))

theorem hN_noAdopt : ∀ oh ∈ hN, oh.1.noAdopt := by decide

/-- one evaluation of `run hN` for the three statements that follow -/
theorem hN_run : (run hN).err = none ∧
    ((run hN).heap.length = 5 ∧ (run hN).heap.all (·.freed) = true ∧
      (run hN).roots = [] ∧ (run hN).wroots = [] ∧ (run hN).vals = [] ∧ (run hN).raws = []) ∧
    (run hN).log =
      [.ret 2, .ret 1, .ret 1, .ret 2, .freed 3, .ret 1, .destroyed 3, .destroyed 4, .freed 4,
       .destroyed 0, .destroyed 1, .ret 0, .destroyed 2, .freed 1, .freed 0, .freed 2] := by
  decide +kernel

theorem hN_noErr : (run hN).err = none := hN_run.1

/-- everything is destroyed and released, no handle of any kind is left -/
theorem hN_all_released :
    (run hN).heap.length = 5 ∧ (run hN).heap.all (·.freed) = true ∧
      (run hN).roots = [] ∧ (run hN).wroots = [] ∧ (run hN).vals = [] ∧ (run hN).raws = [] :=
  hN_run.2.1

/-- the log, by evaluation: five destructors, five releases, no trace -/
theorem hN_log : (run hN).log =
    [.ret 2, .ret 1, .ret 1, .ret 2, .freed 3, .ret 1, .destroyed 3, .destroyed 4, .freed 4,
     .destroyed 0, .destroyed 1, .ret 0, .destroyed 2, .freed 1, .freed 0, .freed 2] :=
  hN_run.2.2

theorem hN_no_trace_eval : ∀ e ∈ (run hN).log, e.isTraced = false := by
  rw [hN_log]
  decide

/-- … and by the theorem -/
theorem hN_no_trace : ∀ e ∈ (run hN).log, ∀ o v p, e ≠ Ev.traced o v p :=
  run_noAdopt_no_trace hN hN_noAdopt

theorem hN_tables_empty :
    ∀ (o : Nat) (ob : Obj), (run hN).heap[o]? = some ob → ob.links = some [] ∨ ob.links = none :=
  run_noAdopt_tables_empty hN hN_noAdopt

/-- the theorems also cover the states *before* the final teardown, where the tables are still
there (`some []`, not `none`): the history cut before its last two operations -/
theorem hN_prefix_tables : ((run (hN.take 20)).heap.map (·.links)) =
    [some [], some [], some [], none, none] := by decide +kernel

def progA : List Op := [
  .act .new, .act .new,                            -- objects 0, 1
  .act (.clone 0), .act (.link 2 1),               -- 1 → 0 (adopt(1, 0))
  .act (.clone 1), .act (.link 2 0),               -- 0 → 1 (adopt(0, 1)): a two-cycle
  .act .new, .act (.clone 2), .act (.drop 3),      -- bystander: object 2, cloned, clone dropped
  .act (.drop 0),                                  -- handle to 0: traces, cycle still owned
  .act (.drop 0),                                  -- handle to 1: traces, cycle collected
  .act (.drop 0)]                                  -- bystander dropped: no trace

def hA : List (Op × List Nat) := progA.map (fun o => (o, []))

/-- one evaluation of `run hA`: no error, and the traces it logs -/
theorem hA_run : (run hA).err = none ∧
    (run hA).log.filter Ev.isTraced = [.traced 0 2 3, .traced 1 2 3] := by
  decide +kernel

theorem hA_noErr : (run hA).err = none := hA_run.1

/-- the objects designated by the adoptions of `hA` -/
theorem hA_touched : touched hA = [1, 0, 0, 1] := by decide +kernel

/-- the traces of `hA`, by evaluation: rooted at 0 and 1, never at the bystander 2 -/
theorem hA_traces : (run hA).log.filter Ev.isTraced = [.traced 0 2 3, .traced 1 2 3] :=
  hA_run.2

/-- the per-object theorems apply to the bystander -/
theorem hA_bystander :
    (∀ ob, (run hA).heap[2]? = some ob → ob.links = some [] ∨ ob.links = none) ∧
      ∀ v p, Ev.traced 2 v p ∉ (run hA).log := by
  have h2 : 2 ∉ touched hA := by rw [hA_touched]; decide
  exact ⟨run_untouched_tables_empty hA 2 h2, fun v p hm => h2 (run_trace_root_touched hA 2 v p hm)⟩

/-- `reachable_trace_has_cause` is not vacuous: the log of `hA` has `traced` events -/
theorem hA_has_trace : ∃ (i o v p : Nat), (run hA).log[i]? = some (Ev.traced o v p) := by
  have hm : Ev.traced 0 2 3 ∈ (run hA).log :=
    (List.mem_filter.mp (hA_traces ▸ List.mem_cons_self)).1
  obtain ⟨i, hi⟩ := List.getElem?_of_mem hm
  exact ⟨i, 0, 2, 3, hi⟩

end Cactus.PayAsYouGoExample
