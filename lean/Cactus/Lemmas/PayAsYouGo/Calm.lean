import Cactus.Lemmas.Contract
/-!
# C14 (pay-as-you-go): tables stay empty, logs grow quietly

Two facts about every primitive of the machine, packaged in one relation `State.Calm l s s'`:

* `tables` — every object outside the list `l` whose link table is empty (or moved out, or which is
  not allocated yet) in `s` still has an empty (or moved-out) table in `s'`;
* `log` — the log of `s'` is the log of `s` followed by events none of which is a `traced` event.

Every primitive except `adopt` is `Calm []`; `adopt a b` is `Calm [a, b]`.  An action other than
`adopt` and `link` is composed of such primitives (`ActShape.calm`, through the shape theorem of
`Shape.lean`).  The only function of the model that appends a `traced` event is `State.rcDrop`, and
it does so only in the branch taken when the table of the dropped object is non-empty
(`rcDrop_calm_or_traced`).
-/
namespace Cactus

def Ev.isTraced : Ev → Bool
  | .traced _ _ _ => true
  | _ => false

@[simp] theorem Ev.isTraced_traced (o v p : Nat) : (Ev.traced o v p).isTraced = true := rfl

theorem Ev.isTraced_false_iff (e : Ev) : e.isTraced = false ↔ ∀ o v p, e ≠ Ev.traced o v p := by
  constructor
  · intro h o v p he
    rw [he] at h
    cases h
  · intro h
    cases e with
    | traced o v p => exact absurd rfl (h o v p)
    | _ => rfl

namespace State

/-- the adoption bookkeeping of `o` is empty: the table is empty, or moved out, or `o` is not
allocated yet (a fresh allocation starts with an empty table) -/
def Untabled (s : State) (o : Nat) : Prop :=
  ∀ ob, s.heap[o]? = some ob → ob.links = some [] ∨ ob.links = none

def Tabled (s : State) (o : Nat) : Prop :=
  ∃ ob t, s.cell o = some ob ∧ ob.links = some t ∧ t ≠ []

theorem Tabled.not_untabled {s : State} {o : Nat} (h : s.Tabled o) : ¬ s.Untabled o := by
  obtain ⟨ob, t, hc, hl, hne⟩ := h
  intro hu
  rcases hu ob (get_of_cell hc) with h1 | h1
  · rw [hl] at h1; cases h1; exact hne rfl
  · rw [hl] at h1; cases h1

theorem Tabled.congr {s s' : State} {o : Nat} (hh : s'.heap = s.heap) (h : s.Tabled o) : s'.Tabled o := by
  obtain ⟨ob, t, hc, hl, hne⟩ := h
  refine ⟨ob, t, ?_, hl, hne⟩
  unfold cell at hc ⊢
  rw [hh]; exact hc

def TKeep (l : List Nat) (s s' : State) : Prop :=
  ∀ o, o ∉ l → s.Untabled o → s'.Untabled o

def NoTraceExt (s s' : State) : Prop :=
  ∃ new, s'.log = s.log ++ new ∧ ∀ e ∈ new, e.isTraced = false

theorem TKeep.refl (l : List Nat) (s : State) : TKeep l s s := fun _ _ h => h

theorem TKeep.trans {l : List Nat} {s s' s'' : State} (h1 : TKeep l s s') (h2 : TKeep l s' s'') :
    TKeep l s s'' := fun o ho h => h2 o ho (h1 o ho h)

theorem TKeep.mono {l l' : List Nat} {s s' : State} (hl : ∀ x ∈ l, x ∈ l') (h : TKeep l s s') :
    TKeep l' s s' := fun o ho hu => h o (fun hm => ho (hl o hm)) hu

theorem TKeep.of_heap {l : List Nat} {s s' : State} (hh : s'.heap = s.heap) : TKeep l s s' := by
  intro o _ hu ob hx
  rw [hh] at hx
  exact hu ob hx

theorem TKeep.of_left {l : List Nat} {s s0 s' : State} (h : TKeep l s0 s') (hh : s0.heap = s.heap) :
    TKeep l s s' := (TKeep.of_heap hh).trans h

theorem NoTraceExt.refl (s : State) : NoTraceExt s s := ⟨[], by simp, by simp⟩

theorem NoTraceExt.trans {s s' s'' : State} (h1 : NoTraceExt s s') (h2 : NoTraceExt s' s'') : NoTraceExt s s'' := by
  obtain ⟨n1, e1, q1⟩ := h1
  obtain ⟨n2, e2, q2⟩ := h2
  refine ⟨n1 ++ n2, by rw [e2, e1, List.append_assoc], ?_⟩
  intro e he
  rcases List.mem_append.mp he with he | he
  · exact q1 e he
  · exact q2 e he

theorem NoTraceExt.of_log {s s' : State} (hl : s'.log = s.log) : NoTraceExt s s' :=
  ⟨[], by rw [hl, List.append_nil], fun _ h => nomatch h⟩

theorem NoTraceExt.no_trace {s s' : State} (h : NoTraceExt s s') (hs : ∀ e ∈ s.log, e.isTraced = false) :
    ∀ e ∈ s'.log, e.isTraced = false := by
  obtain ⟨n, e1, q⟩ := h
  intro e he
  rw [e1] at he
  rcases List.mem_append.mp he with he | he
  · exact hs e he
  · exact q e he

structure Calm (l : List Nat) (s s' : State) : Prop where
  tables : TKeep l s s'
  log : NoTraceExt s s'

theorem Calm.trans {l : List Nat} {s s' s'' : State} (h1 : Calm l s s') (h2 : Calm l s' s'') :
    Calm l s s'' := ⟨h1.tables.trans h2.tables, h1.log.trans h2.log⟩

theorem Calm.mono {l l' : List Nat} {s s' : State} (hl : ∀ x ∈ l, x ∈ l') (h : Calm l s s') :
    Calm l' s s' := ⟨h.tables.mono hl, h.log⟩

theorem Calm.weaken {l : List Nat} {s s' : State} (h : Calm [] s s') : Calm l s s' :=
  h.mono (fun _ hx => by cases hx)

theorem Calm.of_eq {l : List Nat} {s s' : State} (hh : s'.heap = s.heap) (hl : s'.log = s.log) :
    Calm l s s' := ⟨TKeep.of_heap hh, NoTraceExt.of_log hl⟩

theorem Calm.refl (l : List Nat) (s : State) : Calm l s s := Calm.of_eq rfl rfl

/-- `Calm` looks at the heap and the log only: the state on the left may be replaced by one with
the same heap and log (say, before a frame was popped or a handle list edited) -/
theorem Calm.of_left {l : List Nat} {s s0 s' : State} (h : Calm l s0 s') (hh : s0.heap = s.heap)
    (hl : s0.log = s.log) : Calm l s s' := (Calm.of_eq hh hl).trans h

theorem Calm.fail (s : State) (e : Err) : Calm [] s (s.fail e) := Calm.of_eq (fail_heap s e) (fail_log s e)

theorem Calm.emit (s : State) (e : Ev) (he : e.isTraced = false) : Calm [] s (s.emit e) :=
  ⟨TKeep.of_heap rfl, [e], rfl, List.forall_mem_singleton.mpr he⟩

theorem Calm.push (s : State) (fs : List Frame) : Calm [] s (s.push fs) := Calm.of_eq rfl rfl

theorem Calm.badRoot (s : State) (r : Nat) : Calm [] s (s.badRoot r) := by
  rcases badRoot_cases s r with e | ⟨e, he⟩
  · rw [e]; exact Calm.refl _ s
  · rw [he]; exact Calm.fail s e

theorem Calm.setObj {s : State} {o : Nat} {ob ob' : Obj} (hg : s.heap[o]? = some ob)
    (h : (ob.links = some [] ∨ ob.links = none) → (ob'.links = some [] ∨ ob'.links = none)) :
    Calm [] s (s.setObj o ob') := by
  refine ⟨?_, NoTraceExt.of_log rfl⟩
  intro x _ hu obx hx
  by_cases hxo : x = o
  · subst hxo
    rw [getElem?_setObj_same _ (get_lt hg)] at hx
    cases hx
    exact h (hu ob hg)
  · rw [getElem?_setObj_other s _ hxo] at hx
    exact hu obx hx

theorem Calm.setObj_keep {s : State} {o : Nat} {ob ob' : Obj} (hg : s.heap[o]? = some ob)
    (hl : ob'.links = ob.links) : Calm [] s (s.setObj o ob') :=
  Calm.setObj hg (fun h => by rw [hl]; exact h)

theorem Calm.setObj_none {s : State} {o : Nat} {ob ob' : Obj} (hg : s.heap[o]? = some ob)
    (hl : ob'.links = none) : Calm [] s (s.setObj o ob') :=
  Calm.setObj hg (fun _ => Or.inr hl)

theorem Calm.setObj_some {s : State} {o : Nat} {ob ob' : Obj} {t : Table} (hg : s.heap[o]? = some ob)
    (hl : ob.links = some t) (h : t = [] → ob'.links = some []) : Calm [] s (s.setObj o ob') := by
  refine Calm.setObj hg (fun hu => ?_)
  rw [hl] at hu
  rcases hu with hu | hu
  · exact Or.inl (h (Option.some.inj hu))
  · cases hu

theorem Calm.setLinks {s : State} {o : Nat} {f : Table → Table} (hf : f [] = []) :
    Calm [] s (s.setLinks o f) := by
  rcases setLinks_cases s o f with ⟨e, h⟩ | ⟨ob, t, hc, hl, h⟩ <;> rw [h]
  · exact Calm.fail s e
  · exact Calm.setObj_some (get_of_cell hc) hl (fun ht => by rw [ht, hf])

theorem Calm.setLinks_at (s : State) (o : Nat) (f : Table → Table) {l : List Nat} (ho : o ∈ l) :
    Calm l s (s.setLinks o f) := by
  refine ⟨?_, NoTraceExt.of_log (setLinks_log s o f)⟩
  intro x hx hu obx hg
  have hxo : x ≠ o := fun h => hx (h ▸ ho)
  rcases setLinks_cases s o f with ⟨e, h⟩ | ⟨ob, t, hc, hl, h⟩ <;> rw [h] at hg
  · rw [fail_heap] at hg; exact hu obx hg
  · rw [getElem?_setObj_other s _ hxo] at hg
    exact hu obx hg

theorem Calm.incStrong (s : State) (o : Nat) : Calm [] s (s.incStrong o) := by
  rcases incStrong_cases s o with ⟨e, h⟩ | ⟨ob, n, hc, hs, h⟩ <;> rw [h]
  · exact Calm.fail s e
  · exact Calm.setObj_keep (get_of_cell hc) rfl

theorem Calm.incWeak (s : State) (o : Nat) : Calm [] s (s.incWeak o) := by
  rcases incWeak_cases s o with ⟨e, h⟩ | ⟨ob, hc, hw, h⟩ <;> rw [h]
  · exact Calm.fail s e
  · exact Calm.setObj_keep (get_of_cell hc) rfl

theorem Calm.decWeakFree (s : State) (o : Nat) (imp : Bool) : Calm [] s (s.decWeakFree o imp) := by
  rcases decWeakFree_cases s o imp with ⟨e, h⟩ | ⟨ob, hc, hw, h⟩ | ⟨ob, w, hc, hw, h⟩ <;> rw [h]
  · exact Calm.fail s e
  · exact (Calm.setObj_keep (ob' := { ob with weak := 0, freed := true, implicit := ob.implicit && !imp })
      (get_of_cell hc) rfl).trans (Calm.emit _ _ rfl)
  · exact Calm.setObj_keep (get_of_cell hc) rfl

theorem Calm.modVal (s : State) (o : Nat) (f : Val → Val) : Calm [] s (s.modVal o f) := by
  rcases modVal_cases s o f with ⟨e, h⟩ | ⟨ob, v, hc, hv, h⟩ <;> rw [h]
  · exact Calm.fail s e
  · exact Calm.setObj_keep (get_of_cell hc) rfl

theorem Calm.alloc (s : State) (v : Val) : Calm [] s (s.alloc v) := by
  refine ⟨?_, NoTraceExt.of_log rfl⟩
  intro x _ hu obx hx
  rw [getElem?_alloc] at hx
  split at hx
  · cases hx; exact Or.inl rfl
  · exact hu obx hx

theorem Calm.adopt (s : State) (a b : Nat) (same : Bool) : Calm [a, b] s (s.adopt a b same) := by
  unfold State.adopt
  split
  · exact Calm.setLinks_at s a _ List.mem_cons_self
  · exact (Calm.setLinks_at s a _ List.mem_cons_self).trans
      (Calm.setLinks_at _ b _ (List.mem_cons_of_mem a List.mem_cons_self))

theorem Calm.unadopt (s : State) (a b : Nat) (same : Bool) : Calm [] s (s.unadopt a b same) :=
  unadopt_rel (R := Calm []) Calm.trans (fun _ _ _ hf => Calm.setLinks hf) s a b same

theorem Calm.purgePeers (s : State) (x : Nat) : Calm [] s (s.purgePeers x) :=
  purgePeers_rel (Calm.refl []) Calm.trans (fun _ _ _ hf => Calm.setLinks hf) (fun s e _ => Calm.fail s e) s x

theorem Calm.giveUp (s : State) (o : Nat) : Calm [] s (s.giveUp o) := by
  unfold State.giveUp
  split
  · rename_i ob hc
    exact (Calm.purgePeers s o).trans
      ((Calm.setObj_none (get_of_cell hc) rfl).trans (Calm.decWeakFree _ o true))
  · exact (Calm.purgePeers s o).trans (Calm.fail _ _)

theorem Calm.beginSingle (s : State) (o : Nat) : Calm [] s (s.beginSingle o) := by
  rcases beginSingle_cases s o with ⟨e, h⟩ | h | ⟨ob, v, hc, hv, h⟩ <;> rw [h]
  · exact Calm.fail s e
  · exact Calm.decWeakFree s o true
  · exact (Calm.setObj_keep (ob' := { ob with strong := .uninit, value := none })
      (get_of_cell hc) rfl).trans (Calm.push _ _)

theorem Calm.finishSingle (s : State) (o : Nat) : Calm [] s (s.finishSingle o) := by
  rcases finishSingle_cases s o with ⟨e, h⟩ | ⟨ob, hc, h⟩ <;> rw [h]
  · exact Calm.fail s e
  · exact (Calm.setObj_none (get_of_cell hc) rfl).trans (Calm.decWeakFree _ o true)

theorem Calm.phase3One (s : State) (k : Nat) : Calm [] s (s.phase3One k) := by
  rcases phase3One_cases s k with ⟨e, h⟩ | ⟨_, _, _, h⟩ | h <;> rw [h]
  · exact Calm.fail s e
  · exact Calm.refl _ s
  · exact Calm.decWeakFree s k true

theorem Calm.phase1One (keys : List Nat) (s : State) (e : Nat × Nat) :
    Calm [] s (phase1One keys s e) := by
  unfold State.phase1One
  split
  · rename_i ob hc
    split
    · rename_i t st hl hs
      exact Calm.setObj_some (get_of_cell hc) hl (fun ht => by rw [ht]; rfl)
    · exact Calm.fail _ _
    · exact Calm.fail _ _
  · exact Calm.fail _ _

theorem Calm.phase2One (acc : State × List Val) (k : Nat) : Calm [] acc.1 (phase2One acc k).1 := by
  unfold State.phase2One
  split
  · rename_i ob hc
    split
    · split
      · exact Calm.setObj_none (get_of_cell hc) rfl
      · exact Calm.fail _ _
    · exact Calm.refl _ _
  · exact Calm.fail _ _

theorem Calm.dropCycle (s : State) (c : CMap) : Calm [] s (s.dropCycle c) :=
  ((foldl_lift (Calm.refl []) Calm.trans (Calm.phase1One c.keys) c s).trans
    (foldl_lift (Q := fun a b => Calm [] a.1 b.1) (fun a => Calm.refl [] a.1) Calm.trans Calm.phase2One c.keys
      (c.foldl (State.phase1One c.keys) s, []))).trans (Calm.push _ _)

theorem Calm.dropVal (s : State) (v : Val) : Calm [] s (s.dropVal v) :=
  (Calm.emit _ _ rfl).trans (Calm.push _ _)

theorem Calm.panic (s : State) : Calm [] s s.panic := by
  unfold State.panic
  split
  · exact Calm.fail _ _
  · exact Calm.of_eq rfl rfl

theorem Calm.dropFields (s : State) (hs ws : List Nat) : Calm [] s (s.dropFields hs ws) := by
  cases hs with
  | cons a hs => exact Calm.push _ _
  | nil =>
    cases ws with
    | cons a ws => exact Calm.push _ _
    | nil => exact Calm.refl _ _

@[simp] theorem phase1One_log (keys : List Nat) (s : State) (e : Nat × Nat) :
    (phase1One keys s e).log = s.log := by
  unfold State.phase1One
  split
  · split <;> simp
  · simp

theorem phase2One_log (acc : State × List Val) (k : Nat) : (phase2One acc k).1.log = acc.1.log := by
  unfold State.phase2One
  split
  · split
    · split <;> simp
    · rfl
  · simp

/-- `drop_cycle` itself logs nothing (the destructors it schedules do, later) -/
@[simp] theorem dropCycle_log (s : State) (c : CMap) : (s.dropCycle c).log = s.log := by
  have h1 := foldl_lift (Q := fun s s' : State => s'.log = s.log) (fun _ => rfl) (fun h h' => h'.trans h)
    (phase1One_log c.keys) c s
  have h2 := foldl_lift (Q := fun a b : State × List Val => b.1.log = a.1.log) (fun _ => rfl) (fun h h' => h'.trans h)
    phase2One_log c.keys (c.foldl (phase1One c.keys) s, [])
  exact h2.trans h1

theorem traceBranch_spec (s : State) (o : Nat) :
    TKeep [] s (s.traceBranch o) ∧
      (s.traceBranch o).log
        = s.log ++ [Ev.traced o (cycleRefs s o).visited.length (cycleRefs s o).popped] := by
  rcases traceBranch_cases s o with ⟨e, h⟩ | h | h <;> rw [h]
  · exact ⟨TKeep.of_heap (fail_heap _ e), fail_log _ e⟩
  · exact ⟨TKeep.of_heap rfl, rfl⟩
  · exact ⟨TKeep.of_left (Calm.dropCycle _ _).tables rfl, dropCycle_log _ _⟩

/-- **the only source of `traced` events.**  `Rc::drop` of a handle to `o` never makes an empty
table non-empty; it either appends no `traced` event at all, or appends exactly one event,
`traced o _ _`, and then the table of `o` was non-empty when the drop started. -/
theorem rcDrop_calm_or_traced (s : State) (o : Nat) :
    Calm [] s (s.rcDrop o) ∨
      TKeep [] s (s.rcDrop o) ∧ (∃ v p, (s.rcDrop o).log = s.log ++ [Ev.traced o v p]) ∧ s.Tabled o := by
  rcases rcDrop_cases s o with ⟨e, h⟩ | h | ⟨ob, n, t, hc, hs, hl, h⟩
  · rw [h]; exact .inl (Calm.fail s e)
  · rw [h]; exact .inl (Calm.refl _ s)
  · have h1 : Calm [] s (s.setObj o { ob with strong := .cnt n }) :=
      Calm.setObj_keep (get_of_cell hc) rfl
    rcases h with ⟨_, _, h⟩ | ⟨_, _, h⟩ | ⟨_, _, h⟩ | ⟨_, ht, h⟩ <;> rw [h]
    · exact .inl h1
    · exact .inl (h1.trans (Calm.beginSingle _ o))
    · exact .inl (h1.trans ((Calm.purgePeers _ o).trans (Calm.beginSingle _ o)))
    · obtain ⟨hk, hlog⟩ := traceBranch_spec (s.setObj o { ob with strong := .cnt n }) o
      refine .inr ⟨h1.tables.trans hk, ⟨_, _, hlog⟩, ob, t, hc, hl, ?_⟩
      intro h0
      rw [h0] at ht
      cases ht

end State

open State

/-- the objects whose tables the action writes by recording an adoption (`adopt`, `link`) in `s`:
the two designated objects, when both selectors designate live objects -/
def actTouched (s : State) : Act → List Nat
  | .adopt r1 r2 =>
    match s.useRoot r1, s.useRoot r2 with
    | some a, some b => [a, b]
    | _, _ => []
  | .link r q =>
    match s.useRoot r, s.useRoot q with
    | some t, some o => if idxMod s.roots r = idxMod s.roots q then [] else [o, t]
    | _, _ => []
  | _ => []

theorem actTouched_congr {s s' : State} (hh : s'.heap = s.heap) (hr : s'.roots = s.roots) (a : Act) :
    actTouched s' a = actTouched s a := by
  have hu : s'.useRoot = s.useRoot := by
    funext r; unfold State.useRoot State.isLive; rw [hh, hr]
  unfold actTouched
  rw [hu, hr]

theorem actTouched_of_not_adopts (s : State) {a : Act} (ha : ¬ a.adopts) : actTouched s a = [] := by
  unfold actTouched
  split
  · exact absurd trivial ha
  · exact absurd trivial ha
  · rfl

theorem Prim.calm {a : Act} (ha : ¬ a.adopts) {t u : State} (p : Prim a t u) : Calm [] t u := by
  cases p with
  | fail e _ => exact Calm.fail t e
  | ret n => exact Calm.emit t _ rfl
  | incStrong o => exact Calm.incStrong t o
  | incWeak o => exact Calm.incWeak t o
  | setLinks o f hf => exact Calm.setLinks (hf.resolve_left ha)
  | modVal o f _ => exact Calm.modVal t o f
  | alloc v _ => exact Calm.alloc t v
  | giveUp o _ => exact Calm.giveUp t o
  | _ => exact Calm.of_eq rfl rfl

theorem ActShape.calm {a : Act} (ha : ¬ a.adopts) {s u : State} (h : ActShape a s u) : Calm [] s u :=
  h.lift (Calm.refl _) Calm.trans (Prim.calm ha) (fun t d _ _ => Calm.push t [d])

/-- **no action traces, and only `adopt`/`link` can fill a table** — and only the tables of the
two objects they designate -/
theorem applyAct_calm (s : State) (fh fw : List Nat) (a : Act) :
    Calm (actTouched s a) s (applyAct s fh fw a) := by
  by_cases ha : a.adopts
  case neg =>
    rw [actTouched_of_not_adopts s ha]
    exact (applyAct_shape s fh fw a).calm ha
  cases a with
  | adopt r1 r2 =>
    rw [applyAct, actTouched]
    cases h1 : s.useRoot r1 <;> cases h2 : s.useRoot r2 <;> simp only []
    case some.some a b => exact Calm.adopt s a b _
    all_goals exact (Calm.badRoot s r1).trans (Calm.badRoot _ r2)
  | link r q =>
    rw [applyAct, actTouched]
    cases h1 : s.useRoot r <;> cases h2 : s.useRoot q <;> simp only []
    case some.some t o =>
      split
      · exact Calm.refl _ s
      · exact (Calm.adopt s o t false).trans (Calm.weaken (Calm.of_left (Calm.modVal _ _ _) rfl rfl))
    all_goals exact (Calm.badRoot s r).trans (Calm.badRoot _ q)
  | _ => exact ha.elim

def opTouched (s : State) : Op → List Nat
  | .act a => actTouched s a
  | _ => []

/-- **top-level operations do not trace by themselves** (they only push frames), and fill only the
tables of the objects designated by an `adopt`/`link` -/
theorem applyOp_calm (s : State) (op : Op) : Calm (opTouched s op) s (applyOp s op) := by
  cases op with
  | act a => exact applyAct_calm s [] [] a
  | setScript q acts =>
    rw [applyOp]
    split
    · exact Calm.modVal s _ _
    · exact Calm.badRoot s q
  | shuffle q i =>
    rw [applyOp]
    split
    · refine Calm.setLinks ?_
      cases i <;> rfl
    · exact Calm.badRoot s q

theorem endOp_calm (s : State) : Calm [] s (endOp s) := by
  unfold endOp
  split
  · exact Calm.of_left (Calm.emit _ .panicked rfl) rfl rfl
  · exact Calm.refl _ s

/-- objects whose tables the next machine step may fill: those designated by an `adopt`/`link`
action at the head of the running destructor script -/
def stepTouched (s : State) : List Nat :=
  match s.err, s.stack with
  | none, .script _ _ (a :: _) :: _ => actTouched s a
  | _, _ => []

/-- one machine step fills only the tables of the objects designated by an `adopt`/`link` action
of a destructor script; it either appends no `traced` event, or it is the step of a frame
`rcDrop o` that appends exactly `traced o _ _`, and the table of `o` was non-empty before -/
theorem step_calm_or_traced (s : State) :
    Calm (stepTouched s) s (step s) ∨
      TKeep [] s (step s) ∧ ∃ o v p rest, s.err = none ∧ s.stack = .rcDrop o :: rest ∧
        (step s).log = s.log ++ [Ev.traced o v p] ∧ s.Tabled o := by
  cases herr : s.err with
  | some e => rw [step_of_err herr]; exact .inl (Calm.refl _ s)
  | none =>
    cases hst : s.stack with
    | nil =>
      rw [step_of_stack_nil hst]; exact .inl (Calm.refl _ s)
    | cons f rest =>
      rw [step_eq_frame herr hst]
      -- popping the frame changes neither the heap nor the log
      have pop : ∀ {l : List Nat} {u : State}, Calm l { s with stack := rest } u → Calm l s u :=
        fun h => h.of_left rfl rfl
      cases f with
      | rcDrop o =>
        rcases rcDrop_calm_or_traced { s with stack := rest } o with h | ⟨hk, ⟨v, p, hl⟩, ht⟩
        · exact .inl (pop h).weaken
        · exact .inr ⟨TKeep.of_left hk rfl, o, v, p, rest, rfl, rfl, hl, ht.congr rfl⟩
      | weakDrop o => exact .inl (pop (Calm.decWeakFree _ o false).weaken)
      | dropVal v => exact .inl (pop (Calm.dropVal _ v).weaken)
      | script hh ww acts =>
        cases acts with
        | nil => exact .inl (pop (Calm.refl _ _))
        | cons a as =>
          have ht : stepTouched s = actTouched s a := by unfold stepTouched; rw [herr, hst]
          have e : actTouched (({ s with stack := rest } : State).push [.script hh ww as]) a
              = actTouched s a := actTouched_congr rfl rfl a
          rw [ht, ← e]
          exact .inl (Calm.of_left (applyAct_calm _ hh ww a) rfl rfl)
      | panic => exact .inl (pop (Calm.panic _).weaken)
      | dropFields hh ww => exact .inl (pop (Calm.dropFields _ hh ww).weaken)
      | finishSingle o => exact .inl (pop (Calm.finishSingle _ o).weaken)
      | phase3 ks => exact .inl (pop (foldl_lift (Calm.refl []) Calm.trans Calm.phase3One ks _).weaken)

theorem step_log_cases (s : State) :
    NoTraceExt s (step s) ∨
      ∃ o v p rest, s.err = none ∧ s.stack = .rcDrop o :: rest ∧
        (step s).log = s.log ++ [Ev.traced o v p] ∧ s.Tabled o :=
  (step_calm_or_traced s).imp (·.log) (·.2)

theorem not_mem_of_isTraced_false {new : List Ev} (hq : ∀ e ∈ new, e.isTraced = false)
    (o v p : Nat) : Ev.traced o v p ∉ new :=
  fun hm => Bool.noConfusion (hq _ hm)

/-- **Every trace has a cause** (no hypothesis on `s`): the log of `step s` is the log of `s`
followed by new events, and every `traced o _ _` among the new events is rooted at an object `o`
whose link table was non-empty in `s`. -/
theorem trace_has_cause_step (s : State) :
    ∃ new, (step s).log = s.log ++ new ∧
      ∀ o v p, Ev.traced o v p ∈ new →
        ∃ ob t, s.cell o = some ob ∧ ob.links = some t ∧ t ≠ [] := by
  rcases step_log_cases s with ⟨new, hl, hq⟩ | ⟨o, v, p, rest, _, _, hl, ht⟩
  · exact ⟨new, hl, fun o v p hm => absurd hm (not_mem_of_isTraced_false hq o v p)⟩
  · refine ⟨[Ev.traced o v p], hl, ?_⟩
    intro o' v' p' hm
    cases List.mem_singleton.mp hm
    exact ht

theorem trace_has_cause_applyAct (s : State) (fh fw : List Nat) (a : Act) :
    ∃ new, (applyAct s fh fw a).log = s.log ++ new ∧ ∀ o v p, Ev.traced o v p ∉ new :=
  (applyAct_calm s fh fw a).log.imp fun _ h => ⟨h.1, not_mem_of_isTraced_false h.2⟩

theorem trace_has_cause_applyOp (s : State) (op : Op) :
    ∃ new, (applyOp s op).log = s.log ++ new ∧ ∀ o v p, Ev.traced o v p ∉ new :=
  (applyOp_calm s op).log.imp fun _ h => ⟨h.1, not_mem_of_isTraced_false h.2⟩

end Cactus
