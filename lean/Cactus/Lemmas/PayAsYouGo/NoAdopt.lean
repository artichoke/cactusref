import Cactus.Lemmas.PayAsYouGo.Touched
import Cactus.Lemmas.PayAsYouGo.Scripts
/-!
# C14 (pay-as-you-go): a program that never adopts never pays

`Act.noAdopt` / `Op.noAdopt`: the history never uses `adopt` or `link` (neither at top level nor in
an installed destructor script).  `ReachableN`: the states of such histories, including
mid-teardown.  In all of them every link table is empty (or moved out) and the log has no `traced`
event: `ReachableN.tables_empty`, `ReachableN.no_trace`, and for `run`:
`run_noAdopt_tables_empty`, `run_noAdopt_no_trace`.

The proof: the destructor scripts of such a history are `noAdopt` (`ScriptsQ Act.noAdopt`, carried
through all frames), so the ghost list of designated objects stays empty (`ReachableN.reachableT`),
and the per-object theorems of `Touched.lean` apply to every object.
-/
namespace Cactus
open State

def Act.noAdopt : Act → Prop
  | .adopt _ _ => False
  | .link _ _ => False
  | _ => True

instance : DecidablePred Act.noAdopt := fun a => by
  unfold Act.noAdopt; split <;> infer_instance

def Op.noAdopt : Op → Prop
  | .act a => a.noAdopt
  | .setScript _ acts => ∀ a ∈ acts, a.noAdopt
  | .shuffle _ _ => True

instance : DecidablePred Op.noAdopt := fun o => by
  unfold Op.noAdopt; split <;> infer_instance

theorem Op.noAdopt_iff_S (op : Op) : op.noAdopt ↔ op.S Act.noAdopt := by
  cases op <;> exact Iff.rfl

theorem actTouched_noAdopt (s : State) {a : Act} (h : a.noAdopt) : actTouched s a = [] := by
  unfold actTouched
  split
  · exact False.elim h
  · exact False.elim h
  · rfl

theorem opTouched_noAdopt (s : State) {op : Op} (h : op.noAdopt) : opTouched s op = [] := by
  cases op with
  | act a => exact actTouched_noAdopt s h
  | setScript q acts => rfl
  | shuffle q i => rfl

theorem stepTouched_noAdopt {s : State} (h : s.ScriptsQ Act.noAdopt) : stepTouched s = [] := by
  unfold stepTouched
  split
  · rename_i hh ww a as rest herr hst
    have hf : (Frame.script hh ww (a :: as)).S Act.noAdopt :=
      h.1 _ (by rw [hst]; exact List.mem_cons_self)
    exact actTouched_noAdopt s (hf a List.mem_cons_self)
  · rfl

/-- like `Reachable`, but no operation of the history records an adoption (`adopt`, `link`), at
top level or in an installed destructor script -/
inductive ReachableN : State → Prop
  | init : ReachableN {}
  | op {s : State} (o : Op) (hint : List Nat) : ReachableN s → s.stack = [] → o.noAdopt →
      ReachableN (applyOp (s.begin hint) o)
  | step {s : State} : ReachableN s → ReachableN (step s)
  | endOp {s : State} : ReachableN s → ReachableN (endOp s)
  | outOfFuel {s : State} : ReachableN s → ReachableN (s.fail .fuel)

theorem ReachableN.reachable {s : State} (h : ReachableN s) : Reachable s := by
  induction h with
  | init => exact .init
  | op o hint _ hq _ ih => exact .op o hint ih hq
  | step _ ih => exact .step ih
  | endOp _ ih => exact .endOp ih
  | outOfFuel _ ih => exact .outOfFuel ih

theorem ReachableN.scripts {s : State} (h : ReachableN s) : s.ScriptsQ Act.noAdopt := by
  induction h with
  | init => exact ScriptsQ_init
  | op o hint _ _ ho ih =>
    exact applyOp_scriptsQ _ o ((Op.noAdopt_iff_S o).mp ho) (begin_scriptsQ _ hint ih)
  | step _ ih => exact step_scriptsQ _ ih
  | endOp _ ih => exact endOp_scriptsQ _ ih
  | outOfFuel _ ih => exact (SLe.fail _ _).scriptsQ ih

theorem ReachableN.reachableT {s : State} (h : ReachableN s) : ReachableT [] s := by
  induction h with
  | init => exact .init
  | @op s o hint _ hq ho ih =>
    have := ReachableT.op o hint ih hq
    rw [opTouched_noAdopt _ ho] at this
    exact this
  | @step s hr ih =>
    have := ReachableT.step ih
    rw [stepTouched_noAdopt hr.scripts] at this
    exact this
  | endOp _ ih => exact .endOp ih
  | outOfFuel _ ih => exact .outOfFuel ih

/-- **in every state of a never-adopting history — at operation boundaries and in the middle of
every teardown — every link table is empty or moved out** -/
theorem ReachableN.tables_empty {s : State} (h : ReachableN s) :
    ∀ (o : Nat) (ob : Obj), s.heap[o]? = some ob → ob.links = some [] ∨ ob.links = none :=
  fun o => h.reachableT.untouched_untabled o List.not_mem_nil

/-- **no state of a never-adopting history has a `traced` event in its log** -/
theorem ReachableN.no_trace {s : State} (h : ReachableN s) :
    ∀ e ∈ s.log, ∀ o v p, e ≠ Ev.traced o v p := by
  intro e he o v p heq
  subst heq
  exact nomatch h.reachableT.traced_touched o v p he

/-- the invariant of never-adopting histories in one statement: tables empty, all scripts `noAdopt` (stack
frames `dropVal v` and `script … acts`, heap values, unwrapped values), trace-free log -/
theorem ReachableN.invariant {s : State} (h : ReachableN s) :
    (∀ (o : Nat) (ob : Obj), s.heap[o]? = some ob → ob.links = some [] ∨ ob.links = none) ∧
    s.ScriptsQ Act.noAdopt ∧ (∀ e ∈ s.log, e.isTraced = false) := by
  refine ⟨h.tables_empty, h.scripts, ?_⟩
  intro e he
  exact (Ev.isTraced_false_iff e).mpr (h.no_trace e he)

theorem ReachableN.ghostClosed : GhostClosed Op.noAdopt (fun T s => ReachableN s ∧ T = []) where
  op o hint h hq ho := ⟨.op o hint h.1 hq ho, by rw [h.2, opTouched_noAdopt _ ho]; rfl⟩
  step h := ⟨.step h.1, by rw [h.2, stepTouched_noAdopt h.1.scripts]; rfl⟩
  endOp h := ⟨.endOp h.1, h.2⟩
  outOfFuel h := ⟨.outOfFuel h.1, h.2⟩

theorem runT_noAdopt (ops : List (Op × List Nat)) (h : ∀ oh ∈ ops, oh.1.noAdopt) :
    ReachableN (run ops) ∧ touched ops = [] := by
  have := ReachableN.ghostClosed.runT defaultFuel ops h ({}, []) ⟨.init, rfl⟩ (fun _ => rfl)
  rw [runT_fst] at this
  exact this

theorem run_reachableN (ops : List (Op × List Nat)) (h : ∀ oh ∈ ops, oh.1.noAdopt) :
    ReachableN (run ops) :=
  (runT_noAdopt ops h).1

/-- **A program that never adopts never has a non-empty table.** -/
theorem run_noAdopt_tables_empty (ops : List (Op × List Nat)) (h : ∀ oh ∈ ops, oh.1.noAdopt) :
    ∀ (o : Nat) (ob : Obj), (run ops).heap[o]? = some ob → ob.links = some [] ∨ ob.links = none :=
  (run_reachableN ops h).tables_empty

/-- **A program that never adopts never traces.** -/
theorem run_noAdopt_no_trace (ops : List (Op × List Nat)) (h : ∀ oh ∈ ops, oh.1.noAdopt) :
    ∀ e ∈ (run ops).log, ∀ o v p, e ≠ Ev.traced o v p :=
  (run_reachableN ops h).no_trace

theorem touched_noAdopt (ops : List (Op × List Nat)) (h : ∀ oh ∈ ops, oh.1.noAdopt) :
    touched ops = [] :=
  (runT_noAdopt ops h).2

end Cactus
