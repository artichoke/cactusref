import Cactus.Lemmas.PayAsYouGo.Calm
/-!
# C14 (pay-as-you-go): whole histories, per object

Every `traced o _ _` event in the log of a reachable state was appended by the step of a reachable
state running a frame `rcDrop o` in which the table of `o` was non-empty
(`reachable_trace_has_cause`).  `ReachableT T s` is `Reachable s` decorated with a ghost list `T` of
the objects designated so far by an `adopt`/`link` action (top level or inside a destructor script):
an object not in `T` has an empty or moved-out table and roots no trace
(`ReachableT.untouched_untabled`, `ReachableT.traced_touched`), by one induction in which each
transition is `Calm` for the objects it adds to `T`.  `touched ops` is the ghost list computed along
`run ops`; `GhostClosed.runT` takes a property of decorated states kept by the single transitions to
`run` and `touched` (it serves `ReachableT` here and `ReachableN` in `NoAdopt.lean`).
-/
namespace Cactus
open State

/-- the event `traced o v p` at position `i` of `log` was appended by the step of a reachable state
in which the table of `o` was non-empty -/
def TraceCause (log : List Ev) (i o v p : Nat) : Prop :=
  ∃ s0, Reachable s0 ∧ s0.err = none ∧ (∃ rest, s0.stack = Frame.rcDrop o :: rest) ∧
    s0.log = log.take i ∧ (step s0).log = log.take (i + 1) ∧
    (step s0).log = s0.log ++ [Ev.traced o v p] ∧
    ∃ ob t, s0.cell o = some ob ∧ ob.links = some t ∧ t ≠ []

theorem TraceCause.append {log : List Ev} {i o v p : Nat} (h : TraceCause log i o v p)
    (hi : i < log.length) (new : List Ev) : TraceCause (log ++ new) i o v p := by
  obtain ⟨s0, hr, he, hs, h1, h2, h3, h4⟩ := h
  refine ⟨s0, hr, he, hs, ?_, ?_, h3, h4⟩
  · rw [h1, List.take_append_of_le_length (Nat.le_of_lt hi)]
  · rw [h2, List.take_append_of_le_length hi]

def LogCaused (log : List Ev) : Prop :=
  ∀ i o v p, log[i]? = some (Ev.traced o v p) → TraceCause log i o v p

theorem LogCaused.append {log new : List Ev} (h : LogCaused log)
    (hn : ∀ i o v p, new[i]? = some (Ev.traced o v p) → TraceCause (log ++ new) (log.length + i) o v p) :
    LogCaused (log ++ new) := by
  intro i o v p hi
  by_cases hlt : i < log.length
  · rw [List.getElem?_append_left hlt] at hi
    exact (h i o v p hi).append hlt new
  · rw [List.getElem?_append_right (Nat.le_of_not_lt hlt)] at hi
    have := hn _ o v p hi
    rwa [Nat.add_sub_cancel' (Nat.le_of_not_lt hlt)] at this

theorem LogCaused.of_quiet {s s' : State} (h : LogCaused s.log) (hq : NoTraceExt s s') :
    LogCaused s'.log := by
  obtain ⟨new, hl, hn⟩ := hq
  rw [hl]
  exact h.append (fun i o v p hi => absurd (List.mem_of_getElem? hi) (not_mem_of_isTraced_false hn o v p))

/-- **Every trace has a cause, whole-log form.**  In every reachable state `s`, for every position
`i` of the log holding an event `traced o v p` there is a reachable state `s0`, without error and
with a frame `rcDrop o` on top of its stack, whose log is the log of `s` before position `i`, whose
machine step appended exactly that event, and in which the link table of `o` was non-empty. -/
theorem reachable_trace_has_cause {s : State} (h : Reachable s) :
    ∀ i o v p, s.log[i]? = some (Ev.traced o v p) →
      ∃ s0, Reachable s0 ∧ s0.err = none ∧ (∃ rest, s0.stack = Frame.rcDrop o :: rest) ∧
        s0.log = s.log.take i ∧ (step s0).log = s.log.take (i + 1) ∧
        (step s0).log = s0.log ++ [Ev.traced o v p] ∧
        ∃ ob t, s0.cell o = some ob ∧ ob.links = some t ∧ t ≠ [] := by
  show LogCaused s.log
  induction h with
  | init => intro i o v p hi; cases hi
  | @op s o hint _ _ ih => exact LogCaused.of_quiet (s := s.begin hint) ih (applyOp_calm _ o).log
  | @step s hr ih =>
    rcases step_log_cases s with hq | ⟨o, v, p, rest, herr, hst, hl, ht⟩
    · exact ih.of_quiet hq
    · rw [hl]
      refine ih.append (fun i o' v' p' hi => ?_)
      -- the one new event is the one the step of `s` itself appended
      cases i with
      | succ i => cases hi
      | zero =>
        cases hi
        refine ⟨s, hr, herr, ⟨rest, hst⟩, ?_, ?_, hl, ht⟩
        · rw [Nat.add_zero, List.take_left]
        · rw [Nat.add_zero, hl, List.take_of_length_le (by simp)]
  | @endOp s _ ih => exact ih.of_quiet (endOp_calm s).log
  | @outOfFuel s _ ih => exact ih.of_quiet (Calm.fail s _).log

/-- `Reachable` together with the list of the objects designated so far by a recorded adoption
(`adopt`/`link`, at top level or inside a destructor script), in chronological order -/
inductive ReachableT : List Nat → State → Prop
  | init : ReachableT [] {}
  | op {T : List Nat} {s : State} (o : Op) (hint : List Nat) : ReachableT T s → s.stack = [] →
      ReachableT (T ++ opTouched (s.begin hint) o) (applyOp (s.begin hint) o)
  | step {T : List Nat} {s : State} : ReachableT T s → ReachableT (T ++ stepTouched s) (step s)
  | endOp {T : List Nat} {s : State} : ReachableT T s → ReachableT T (endOp s)
  | outOfFuel {T : List Nat} {s : State} : ReachableT T s → ReachableT T (s.fail .fuel)

theorem ReachableT.reachable {T : List Nat} {s : State} (h : ReachableT T s) : Reachable s := by
  induction h with
  | init => exact .init
  | op o hint _ hq ih => exact .op o hint ih hq
  | step _ ih => exact .step ih
  | endOp _ ih => exact .endOp ih
  | outOfFuel _ ih => exact .outOfFuel ih

/-- the ghost list is only a decoration: every reachable state carries one -/
theorem Reachable.exists_touched {s : State} (h : Reachable s) : ∃ T, ReachableT T s := by
  induction h with
  | init => exact ⟨_, .init⟩
  | op o hint _ hq ih => obtain ⟨T, hT⟩ := ih; exact ⟨_, .op o hint hT hq⟩
  | step _ ih => obtain ⟨T, hT⟩ := ih; exact ⟨_, .step hT⟩
  | endOp _ ih => obtain ⟨T, hT⟩ := ih; exact ⟨_, .endOp hT⟩
  | outOfFuel _ ih => obtain ⟨T, hT⟩ := ih; exact ⟨_, .outOfFuel hT⟩

theorem State.Calm.untouched_traced {l T : List Nat} {s s' : State} (hc : Calm l s s')
    (h : (∀ o, o ∉ T → s.Untabled o) ∧ ∀ o v p, Ev.traced o v p ∈ s.log → o ∈ T) :
    (∀ o, o ∉ T ++ l → s'.Untabled o) ∧ ∀ o v p, Ev.traced o v p ∈ s'.log → o ∈ T ++ l := by
  constructor
  · intro o ho
    rw [List.mem_append, not_or] at ho
    exact hc.tables o ho.2 (h.1 o ho.1)
  · intro o v p hm
    obtain ⟨new, hl, hn⟩ := hc.log
    rw [hl] at hm
    rcases List.mem_append.mp hm with hm | hm
    · exact List.mem_append_left _ (h.2 o v p hm)
    · exact absurd hm (not_mem_of_isTraced_false hn o v p)

/-- the two per-object facts in one induction: a trace is rooted at a designated object because the
table of an object not designated so far is still empty when a step runs -/
theorem ReachableT.untouched_traced {T : List Nat} {s : State} (h : ReachableT T s) :
    (∀ o, o ∉ T → s.Untabled o) ∧ ∀ o v p, Ev.traced o v p ∈ s.log → o ∈ T := by
  induction h with
  | init => exact ⟨fun o _ ob hx => (nomatch hx), fun o v p hm => (nomatch hm)⟩
  | @op T s o hint _ _ ih => exact (applyOp_calm (s.begin hint) o).untouched_traced ih
  | @step T s _ ih =>
    rcases step_calm_or_traced s with hc | ⟨hk, o, v, p, rest, _, _, hl, ht⟩
    · exact hc.untouched_traced ih
    · have ho : o ∈ T := Decidable.byContradiction (fun ho => ht.not_untabled (ih.1 o ho))
      constructor
      · intro x hx
        exact hk x List.not_mem_nil (ih.1 x (fun hm => hx (List.mem_append_left _ hm)))
      · intro x v' p' hm
        rw [hl] at hm
        rcases List.mem_append.mp hm with hm | hm
        · exact List.mem_append_left _ (ih.2 x v' p' hm)
        · cases List.mem_singleton.mp hm
          exact List.mem_append_left _ ho
  | @endOp T s _ ih => exact List.append_nil T ▸ (endOp_calm s).untouched_traced ih
  | @outOfFuel T s _ ih => exact List.append_nil T ▸ (Calm.fail s _).untouched_traced ih

/-- **Per-object pay-as-you-go, tables.**  In every state of every history (adoptions allowed
elsewhere), an object that was never designated by a recorded adoption has an empty or moved-out
link table (or is not allocated yet). -/
theorem ReachableT.untouched_untabled {T : List Nat} {s : State} (h : ReachableT T s) :
    ∀ o, o ∉ T → ∀ ob, s.heap[o]? = some ob → ob.links = some [] ∨ ob.links = none :=
  h.untouched_traced.1

/-- **Per-object pay-as-you-go, traces.**  In every state of every history, every trace recorded in
the log is rooted at an object that was designated by a recorded adoption: an object never
designated never roots a trace. -/
theorem ReachableT.traced_touched {T : List Nat} {s : State} (h : ReachableT T s) :
    ∀ o v p, Ev.traced o v p ∈ s.log → o ∈ T :=
  h.untouched_traced.2

def drainT : Nat → State → List Nat
  | 0, _ => []
  | f + 1, s =>
    match s.err, s.stack with
    | none, _ :: _ => stepTouched s ++ drainT f (step s)
    | _, _ => []

def execOpT (fuel : Nat) (s : State) (op : Op) (hint : List Nat) : List Nat :=
  match s.err with
  | some _ => []
  | none => opTouched (s.begin hint) op ++ drainT fuel (applyOp (s.begin hint) op)

def runT (fuel : Nat) (ops : List (Op × List Nat)) (p : State × List Nat) : State × List Nat :=
  ops.foldl (fun p oh => (execOp fuel p.1 oh.1 oh.2, p.2 ++ execOpT fuel p.1 oh.1 oh.2)) p

/-- **the objects designated by a recorded adoption** (`adopt r1 r2`, `link r q`: both designated
objects; at top level or inside a destructor script) in the course of the history `ops` -/
def touched (ops : List (Op × List Nat)) : List Nat := (runT defaultFuel ops ({}, [])).2

/-- `R T s`, a property of states decorated with a ghost list, is kept by the transitions of
`ReachableT`, for top-level operations satisfying `ok`.  `ReachableT` itself is one (`ok` always
true); the never-adopting histories with an empty ghost list are another. -/
structure GhostClosed (ok : Op → Prop) (R : List Nat → State → Prop) : Prop where
  op : ∀ {T : List Nat} {s : State} (o : Op) (hint : List Nat), R T s → s.stack = [] → ok o →
    R (T ++ opTouched (s.begin hint) o) (applyOp (s.begin hint) o)
  step : ∀ {T : List Nat} {s : State}, R T s → R (T ++ stepTouched s) (step s)
  endOp : ∀ {T : List Nat} {s : State}, R T s → R T (endOp s)
  outOfFuel : ∀ {T : List Nat} {s : State}, R T s → R T (s.fail .fuel)

namespace GhostClosed
variable {ok : Op → Prop} {R : List Nat → State → Prop} (hR : GhostClosed ok R)
include hR

theorem drain (f : Nat) {T : List Nat} {s : State} (h : R T s) :
    R (T ++ drainT f s) (Cactus.drain f s) := by
  induction f generalizing T s with
  | zero =>
    unfold Cactus.drain drainT
    rw [List.append_nil]
    split
    · exact h
    · exact hR.outOfFuel h
  | succ f ih =>
    unfold Cactus.drain drainT
    cases herr : s.err with
    | some e => simpa using h
    | none =>
      cases hst : s.stack with
      | nil => simpa using h
      | cons g rest =>
        simp only []
        rw [← List.append_assoc]
        exact ih (hR.step h)

theorem execOp (fuel : Nat) {T : List Nat} {s : State} (op : Op) (hint : List Nat) (h : R T s)
    (hq : s.err = none → s.stack = []) (ho : ok op) :
    R (T ++ execOpT fuel s op hint) (Cactus.execOp fuel s op hint) := by
  unfold Cactus.execOp
  split
  · rename_i e herr
    have : execOpT fuel s op hint = [] := by unfold execOpT; rw [herr]
    rw [this, List.append_nil]
    exact h
  · rename_i herr
    have : execOpT fuel s op hint
        = opTouched (s.begin hint) op ++ drainT fuel (applyOp (s.begin hint) op) := by
      unfold execOpT; rw [herr]
    rw [this, ← List.append_assoc]
    exact hR.endOp (hR.drain fuel (hR.op op hint h (hq herr) ho))

/-- the state and the ghost list computed by `runT` satisfy every such property: this is how a
statement about `ReachableT` (or `ReachableN`) becomes one about `run` and `touched` -/
theorem runT (fuel : Nat) (ops : List (Op × List Nat)) (hops : ∀ oh ∈ ops, ok oh.1)
    (p : State × List Nat) (hr : R p.2 p.1) (hq : p.1.err = none → p.1.stack = []) :
    R (Cactus.runT fuel ops p).2 (Cactus.runT fuel ops p).1 := by
  induction ops generalizing p with
  | nil => exact hr
  | cons oh rest ih =>
    unfold Cactus.runT
    rw [List.foldl_cons]
    exact ih (fun x hx => hops x (List.mem_cons_of_mem _ hx)) _
      (hR.execOp fuel oh.1 oh.2 hr hq (hops oh List.mem_cons_self))
      (execOp_quiescent fuel p.1 oh.1 oh.2 hq)

end GhostClosed

theorem runT_fst (fuel : Nat) (ops : List (Op × List Nat)) (p : State × List Nat) :
    (runT fuel ops p).1 = ops.foldl (fun s oh => execOp fuel s oh.1 oh.2) p.1 := by
  induction ops generalizing p with
  | nil => rfl
  | cons oh rest ih =>
    unfold runT
    rw [List.foldl_cons, List.foldl_cons]
    exact ih _

theorem ReachableT.ghostClosed : GhostClosed (fun _ => True) ReachableT :=
  ⟨fun o hint h hq _ => .op o hint h hq, .step, .endOp, .outOfFuel⟩

theorem run_reachableT (ops : List (Op × List Nat)) : ReachableT (touched ops) (run ops) := by
  have := ReachableT.ghostClosed.runT defaultFuel ops (fun _ _ => trivial) ({}, []) .init (fun _ => rfl)
  rw [runT_fst] at this
  exact this

/-- **Per-object pay-as-you-go for `run`, tables**: an object never designated by an
`adopt`/`link` of the history (top level or destructor script) ends with an empty or moved-out
table — whatever adoptions the history performs on other objects. -/
theorem run_untouched_tables_empty (ops : List (Op × List Nat)) :
    ∀ o, o ∉ touched ops → ∀ ob, (run ops).heap[o]? = some ob →
      ob.links = some [] ∨ ob.links = none :=
  (run_reachableT ops).untouched_untabled

/-- **Per-object pay-as-you-go for `run`, traces**: every trace of the history is rooted at an
object designated by one of its recorded adoptions. -/
theorem run_trace_root_touched (ops : List (Op × List Nat)) :
    ∀ o v p, Ev.traced o v p ∈ (run ops).log → o ∈ touched ops :=
  (run_reachableT ops).traced_touched

end Cactus
