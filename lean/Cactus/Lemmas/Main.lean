import Cactus.Lemmas.Inv.Assemble
import Cactus.Lemmas.Inv.Range
import Cactus.Lemmas.Safety.Acts
import Cactus.Lemmas.Safety.Drop
/-!
# The invariants hold in every reachable state

`reachable_inv`: the unconditional invariants (`InvO ∧ InvB ∧ InvC ∧ InvW ∧ InvK` and `InvR`) hold
in every state of every execution of every history — at operation boundaries and in the middle of
any teardown, i.e. at every point where a user destructor can run.
`reachableP_invS`: if moreover the adoption contract `P` holds in every state passed through, the
safety invariant `InvS` holds too.
-/
namespace Cactus
open State

theorem rangeFacts : RangeFacts where
  applyOp := applyOp_invR
  step := step_invR
  endOp := fun s h _ => endOp_invR s h
  begin := fun s hint h _ => begin_invR s hint h

/-- every reachable state satisfies every unconditional invariant -/
theorem reachable_inv {s : State} (h : Reachable s) : s.InvAll := reachable_invAll rangeFacts h

theorem reachable_core {s : State} (h : Reachable s) (he : s.err = none) : s.InvCore ∧ s.InvR :=
  reachable_inv h he

theorem reachable_Inv {s : State} (h : Reachable s) : s.Inv := fun he => (reachable_inv h he).1

theorem reachable_InvR {s : State} (h : Reachable s) (he : s.err = none) : s.InvR :=
  (reachable_inv h he).2

theorem P_init : ({} : State).P := by
  intro a b ha
  simp [State.isLive] at ha

theorem P_endOp {s : State} (h : s.P) : (endOp s).P := by
  unfold endOp
  split <;> exact h

theorem P_fail {s : State} (e : Err) (h : s.P) : (s.fail e).P := fun a b ha => by
  rw [F_fail, H_fail]
  exact h a b (isLive_fail s e a ▸ ha)

/-- the contract holds in every state of a contract-respecting execution -/
theorem reachableP_P {s : State} (h : ReachableP s) : s.P := by
  induction h with
  | init => exact P_init
  | op _ _ _ _ hp _ => exact hp
  | step _ hp _ => exact hp
  | endOp _ ih => exact P_endOp ih
  | outOfFuel _ ih => exact P_fail _ ih

theorem InvS_init : ({} : State).InvS := by
  intro _
  refine ⟨?_, ?_, ?_⟩
  · intro o h; simp [State.ext, State.inHeap, State.sumList] at h
  · intro o h; simp [State.pend, State.sumList] at h
  · intro o; rfl

/-- in a contract-respecting execution the safety invariant holds in every state -/
theorem reachableP_invS {s : State} (h : ReachableP s) : s.InvS := by
  induction h with
  | init => exact InvS_init
  | @op s o hint hr hq _ ih =>
    have hI : (s.begin hint).Inv := begin_inv s hint (reachable_Inv hr.reachable)
    exact applyOp_invS _ o hI (begin_invS s hint ih)
  | @step s hr _ ih =>
    have hI := reachable_Inv hr.reachable
    by_cases hd : ∃ o rest, s.stack = .rcDrop o :: rest
    · obtain ⟨o, rest, hst⟩ := hd
      cases herr : s.err with
      | some e => rw [step_of_err herr]; exact ih
      | none => exact step_invS_rcDrop s hI ih (reachableP_P hr) o rest hst herr
    · exact step_invS_nonDrop s hI ih fun o rest hst => hd ⟨o, rest, hst⟩
  | endOp _ ih => exact endOp_invS _ ih
  | outOfFuel _ _ => exact fail_invS _ _

end Cactus
