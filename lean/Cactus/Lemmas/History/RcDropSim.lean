import Cactus.Lemmas.History.RcDrop
/-!
# `Rc::drop` in lock-step

`Sim.step_rcDrop`: from corresponding stable points with an `rcDrop o` frame on top, either the two
runs take one step to corresponding stable points, or both start a collection of the same group
(`Collects`), from layout-equal states.
-/
namespace Cactus
open State

theorem fwdLen_perm {t t' : Table} (h : t.Perm t') : fwdLen t = fwdLen t' := by
  unfold fwdLen
  exact (h.filter _).length_eq

/-- `cycleRefs_layout` for `LayoutEqL`, plus: the number of visited objects and the number of
worklist pops (both are logged by the `traced` event) agree -/
theorem cycleRefs_layoutL (s s' : State) (x : Nat) (h : s.LayoutEqL s')
    (hO : s.InvO) (hB : s.InvB) (hx : s.isLive x = true) :
    (∀ k, k ∈ (cycleRefs s x).cmap.keys ↔ k ∈ (cycleRefs s' x).cmap.keys)
    ∧ (∀ k, (cycleRefs s x).cmap.get k = (cycleRefs s' x).cmap.get k)
    ∧ (cycleRefs s x).cmap.isEmpty = (cycleRefs s' x).cmap.isEmpty
    ∧ hasExternalOwners s (cycleRefs s x).cmap = hasExternalOwners s' (cycleRefs s' x).cmap
    ∧ (cycleRefs s x).visited.length = (cycleRefs s' x).visited.length
    ∧ (cycleRefs s x).popped = (cycleRefs s' x).popped := by
  have hL := h.toLayoutEq
  have e : cycleRefs ({ s' with log := s.log } : State) x = cycleRefs s' x :=
    cycleRefs_congr (s := s') (s' := { s' with log := s.log }) rfl x
  obtain ⟨hvis, hks, hget, hemp, hex⟩ := cycleRefs_layout s _ x hL hO hB hx
  rw [e] at hvis hks hget hemp hex
  have hex' : hasExternalOwners s (cycleRefs s x).cmap
      = hasExternalOwners s' (cycleRefs s' x).cmap := hex
  have hO' : s'.InvO := hL.invO hO
  have hB' : s'.InvB := hL.invB hB
  have hx' : s'.isLive x = true := by rw [← h.isLive_eq]; exact hx
  have hperm : (cycleRefs s x).visited.Perm (cycleRefs s' x).visited :=
    (List.perm_ext_iff_of_nodup (visited_nodup s x hO hB hx) (visited_nodup s' x hO' hB' hx')).mpr hvis
  obtain ⟨hb, hf⟩ := cycleRefs_ok s x hO hB hx
  obtain ⟨hb', hf'⟩ := cycleRefs_ok s' x hO' hB' hx'
  refine ⟨hks, hget, hemp, hex', hperm.length_eq, ?_⟩
  rw [cycleRefs_popped_eq s x hb hf, cycleRefs_popped_eq s' x hb' hf',
    sumOver_perm hperm (fun n => fwdLen (s.tbl n))]
  congr 1
  exact sumOver_congr _ (fun n _ => fwdLen_perm (h.tbl_perm n))

/-- the `rcDrop o` frame on top of the stack of `s` starts a collection -/
structure Collects (s : State) (o : Nat) (rest : List Frame) (ob : Obj) (n : Nat) : Prop where
  stack : s.stack = .rcDrop o :: rest
  cell : s.cell o = some ob
  strong : ob.strong = .cnt (n + 2)
  hne : (cycleRefs (decState s o rest ob n) o).cmap.isEmpty = false
  hext : hasExternalOwners (decState s o rest ob n) (cycleRefs (decState s o rest ob n) o).cmap = false
  step_eq : step s = ((decState s o rest ob n).emit
      (.traced o (cycleRefs (decState s o rest ob n) o).visited.length
        (cycleRefs (decState s o rest ob n) o).popped)).dropCycle
      (cycleRefs (decState s o rest ob n) o).cmap

/-- the trace of `Rc::drop` found an orphaned group: the step is the collection -/
theorem Good.collects {s : State} (hg : Good s) {o : Nat} {rest : List Frame} {ob : Obj} {n : Nat}
    {t : Table} (hst : s.stack = .rcDrop o :: rest) (hc : s.cell o = some ob)
    (hs : ob.strong = .cnt (n + 2)) (hl : ob.links = some t) (hte : t.isEmpty = false)
    (hno : ¬ ((cycleRefs (decState s o rest ob n) o).cmap.isEmpty = true
      ∨ hasExternalOwners (decState s o rest ob n) (cycleRefs (decState s o rest ob n) o).cmap = true)) :
    Collects s o rest ob n := by
  have hd := hg.decFacts hst hc hs
  refine ⟨hst, hc, hs, eq_false_of_ne_true (fun hx => hno (Or.inl hx)),
    eq_false_of_ne_true (fun hx => hno (Or.inr hx)), ?_⟩
  rw [hg.step_rcDrop_eq hst,
    State.rcDrop_eq_traceBranch ({ s with stack := rest } : State) o ob n t hc hs hl hte]
  exact (traceBranch_eq _ o hd.core hd.live).trans (if_neg hno)

theorem Obj.LayoutEq.setStrong {a b : Obj} (h : Obj.LayoutEq a b) (c : Strong) :
    Obj.LayoutEq { a with strong := c } { b with strong := c } :=
  ⟨rfl, h.weak, h.value, h.freed, h.implicit, h.links⟩

theorem Sim.of_step_eq {s s' u u' : State} (h1 : step s = u ∧ Good (step s))
    (h2 : step s' = u' ∧ Good (step s')) (hl : u.LayoutEqL u') : Sim (step s) (step s') :=
  ⟨by rw [h1.1, h2.1]; exact hl, h1.2, h2.2⟩

theorem Sim.step_rcDrop {s s' : State} (h : Sim s s') {o : Nat} {rest : List Frame}
    (hst : s.stack = .rcDrop o :: rest) :
    Sim (step s) (step s')
    ∨ ∃ ob ob' n, Collects s o rest ob n ∧ Collects s' o rest ob' n
        ∧ (decState s o rest ob n).LayoutEqL (decState s' o rest ob' n) := by
  have hg := h.good
  have hg' := h.good'
  have hst' : s'.stack = .rcDrop o :: rest := by rw [← h.leq.stack]; exact hst
  have hsafe := hg.safe
  have hsafe' := hg'.safe
  obtain ⟨a, hca⟩ := hg.rcDrop_cell hst
  have h0 := h.leq.setStack rest
  rcases h.leq.cell_cases o with ⟨k1, -⟩ | ⟨a', b, k1, hcb, hab⟩
  · rw [k1] at hca; cases hca
  rw [hca] at k1; cases k1
  have hga := get_of_cell hca
  have hgb := get_of_cell hcb
  have hdead : a.strong.isDead = true → Sim (step s) (step s') := fun hd =>
    Sim.of_step_eq (hg.step_rcDrop_dead hst hca hd)
      (hg'.step_rcDrop_dead hst' hcb (by rw [← hab.strong]; exact hd)) h0
  cases hsa : a.strong with
  | uninit => exact Or.inl (hdead (by rw [hsa]; rfl))
  | cnt k =>
    have hsb : b.strong = .cnt k := by rw [← hab.strong]; exact hsa
    cases k with
    | zero => exact Or.inl (hdead (by rw [hsa]; rfl))
    | succ k =>
      obtain ⟨-, hlS, -, -⟩ := (hsafe.invO o a hga).1 k hsa
      obtain ⟨t, hla⟩ := Option.isSome_iff_exists.1 hlS
      obtain ⟨-, hlS', -, -⟩ := (hsafe'.invO o b hgb).1 k hsb
      obtain ⟨t', hlb⟩ := Option.isSome_iff_exists.1 hlS'
      have hperm : t.Perm t' := by
        have := hab.links
        rw [hla, hlb] at this
        exact this
      have hemp : t.isEmpty = t'.isEmpty := hperm.isEmpty_eq
      cases k with
      | zero =>
        have hob := hab.setStrong (.cnt 0)
        cases hte : t.isEmpty with
        | true =>
          exact Or.inl (Sim.of_step_eq (hg.step_rcDrop_single_empty hst hca hsa hla hte)
            (hg'.step_rcDrop_single_empty hst' hcb hsb hlb (by rw [← hemp]; exact hte))
            ((h0.setObj o hob).beginSingle o))
        | false =>
          refine Or.inl (Sim.of_step_eq (hg.step_rcDrop_single_purge hst hca hsa hla hte)
            (hg'.step_rcDrop_single_purge hst' hcb hsb hlb (by rw [← hemp]; exact hte)) ?_)
          have hlive := isLive_of_cell_cnt hca hsa
          have hlive' : s'.isLive o = true := by rw [← h.leq.isLive_eq]; exact hlive
          exact (LayoutEqL.purgePeers (h0.setObj o hob) hsafe.invO hsafe.invB hlive
            (tableOf_pop_setStrong hga rest _) hsafe'.invO hsafe'.invB hlive'
            (tableOf_pop_setStrong hgb rest _) hg.err).beginSingle o
      | succ n =>
        have h1 : (decState s o rest a n).LayoutEqL (decState s' o rest b n) :=
          h0.setObj o (hab.setStrong _)
        cases hte : t.isEmpty with
        | true =>
          exact Or.inl (Sim.of_step_eq (hg.step_rcDrop_dec_empty hst hca hsa hla hte)
            (hg'.step_rcDrop_dec_empty hst' hcb hsb hlb (by rw [← hemp]; exact hte)) h1)
        | false =>
          have hte' : t'.isEmpty = false := by rw [← hemp]; exact hte
          have hd := hg.decFacts hst hca hsa
          have hd' := hg'.decFacts hst' hcb hsb
          obtain ⟨-, -, c3, c4, c5, c6⟩ :=
            cycleRefs_layoutL (decState s o rest a n) (decState s' o rest b n) o h1 hd.core.1
              hd.core.2.1 hd.live
          by_cases hno : (cycleRefs (decState s o rest a n) o).cmap.isEmpty = true
              ∨ hasExternalOwners (decState s o rest a n)
                  (cycleRefs (decState s o rest a n) o).cmap = true
          · have hno' := hno
            rw [c3, c4] at hno'
            refine Or.inl (Sim.of_step_eq (hg.step_rcDrop_trace_keep hst hca hsa hla hte hno)
              (hg'.step_rcDrop_trace_keep hst' hcb hsb hlb hte' hno') ?_)
            rw [← c5, ← c6]
            exact h1.emit _
          · have hno' := hno
            rw [c3, c4] at hno'
            exact Or.inr ⟨a, b, n, hg.collects hst hca hsa hla hte hno,
              hg'.collects hst' hcb hsb hlb hte' hno', h1⟩

end Cactus
