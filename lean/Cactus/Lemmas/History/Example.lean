import Cactus.Lemmas.History.Main
import Cactus.Lemmas.Shared.Eval
/-!
# Non-vacuity of `history_layout_independent`

A concrete program: a 3-ring `0 → 1 → 2 → 0` with a tail `2 → 3`, built with `link`; a survivor
(object 4) adopting two further objects; the three program handles of the ring are dropped, the
last `drop` collects the group `{0, 1, 2, 3}`.  History `hB` is history `hA` with two `shuffle`s
inserted (the table of ring member 2 and the table of the survivor are permuted) and other hints.
Both are `fullQuiet`, `SameProgram hA hB` holds, `hA` ends without error — so the theorem applies —
and the two runs really differ: the group is destroyed in another order (the logs are different
lists) and the survivor's table has another order (the heaps are different lists).
-/
namespace Cactus.HistoryExample
open Cactus

def prog : List Op := [
  .act .new, .act .new, .act .new, .act .new,
  .act (.clone 0), .act (.link 4 2),        -- 2 → 0
  .act (.clone 2), .act (.link 4 1),        -- 1 → 2
  .act (.clone 1), .act (.link 4 0),        -- 0 → 1
  .act (.link 3 2),                          -- 2 → 3 (tail)
  .act .new, .act .new, .act .new,
  .act (.link 5 3), .act (.link 4 3),       -- survivor 4 → 6, 4 → 5
  .act (.drop 2), .act (.drop 1), .act (.drop 0)]

/-- layout A: no shuffle, empty hints -/
def hA : List (Op × List Nat) := prog.map (fun o => (o, []))

/-- layout B: the tables of object 2 and of object 4 are permuted before the drops, and the
collecting operations get the hint `[3, 1]` -/
def hB : List (Op × List Nat) :=
  (prog.take 16).map (fun o => (o, [])) ++ [(.shuffle 2 0, [7]), (.shuffle 3 0, [])]
    ++ (prog.drop 16).map (fun o => (o, [3, 1]))

theorem same : SameProgram hA hB := by
  unfold hA hB prog
  simp only [List.map_cons, List.map_nil, List.take_succ_cons, List.take_zero, List.drop_succ_cons,
    List.drop_zero, List.cons_append, List.nil_append]
  repeat (first
    | exact .nil
    | apply SameProgram.op _ _ _ (by intro q i h; cases h)
    | apply SameProgram.shuffleR)

theorem fullQuiet : ∀ oh ∈ hA, oh.1.fullQuiet := by decide

/-- the end state of `hA`: the group `{0, 1, 2, 3}` is gone, the survivor keeps its two adoptions -/
theorem run_hA : run hA =
    { heap := [.husk 0, .husk 0, .husk 0, .husk 0,
        .live 1 1 [(⟨6, .fwd⟩, 1), (⟨5, .fwd⟩, 1)] (.plain 4 [6, 5]),
        .live 1 1 [(⟨4, .bwd⟩, 1)] (.plain 5 []),
        .live 1 1 [(⟨4, .bwd⟩, 1)] (.plain 6 [])],
      roots := [4],
      log := [.traced 2 4 5, .traced 1 4 5, .traced 0 4 5,
        .destroyed 2, .destroyed 1, .destroyed 0, .destroyed 3,
        .freed 2, .freed 1, .freed 0, .freed 3],
      nextVid := 7 } := by decide +kernel

/-- the end state of `hB`: the survivor's table and the order of destruction differ -/
theorem run_hB : run hB =
    { heap := [.husk 0, .husk 0, .husk 0, .husk 0,
        .live 1 1 [(⟨5, .fwd⟩, 1), (⟨6, .fwd⟩, 1)] (.plain 4 [6, 5]),
        .live 1 1 [(⟨4, .bwd⟩, 1)] (.plain 5 []),
        .live 1 1 [(⟨4, .bwd⟩, 1)] (.plain 6 [])],
      roots := [4],
      log := [.traced 2 4 5, .traced 1 4 5, .traced 0 4 5,
        .destroyed 3, .destroyed 1, .destroyed 2, .destroyed 0,
        .freed 2, .freed 1, .freed 0, .freed 3],
      hint := [3, 1],
      nextVid := 7 } := by decide +kernel

theorem noErr : (run hA).err = none := by rw [run_hA]

theorem applies : (run hB).err = none ∧ (run hA).LayoutEqL (run hB) :=
  history_layout_independent hA hB same fullQuiet noErr

/-- … and is not an equality: the group is destroyed in a different order -/
theorem logs_differ : (run hA).log ≠ (run hB).log := by
  rw [run_hA, run_hB]
  decide

theorem destroyed_A : (run hA).destroyedVids = [2, 1, 0, 3] := by
  rw [run_hA]
  rfl
theorem destroyed_B : (run hB).destroyedVids = [3, 1, 2, 0] := by
  rw [run_hB]
  rfl

/-- … and the surviving table has a different order -/
theorem heaps_differ : (run hA).heap ≠ (run hB).heap := by
  rw [run_hA, run_hB]
  decide

/-- what the theorem gives for this pair -/
example : (run hA).destroyedVids.Perm (run hB).destroyedVids :=
  history_destroyed hA hB same fullQuiet noErr

example (o : Nat) : (run hA).strongNat o = (run hB).strongNat o :=
  history_strong_counts hA hB same fullQuiet noErr o

end Cactus.HistoryExample

/-! ## why `makeMut` is not `fullQuiet`

`make_mut` on a shared allocation clones the value — including the strong handles it stores — into
a fresh allocation, without recording an adoption: afterwards the fresh object (index 2) stores a
handle to object 1 that no table records, i.e. `Full` fails.  (`Full` is what makes the values of a
collected group hold handles to members only; without it the destructor block of a collection
drops handles to live outsiders and is no longer a closed form.) -/
namespace Cactus.HistoryExample
open Cactus

def hM : List (Op × List Nat) :=
  [(.act .new, []), (.act .new, []), (.act (.link 1 0), []), (.act (.clone 0), []),
   (.act (.makeMut 0), [])]

/-- the fresh object 2 holds a handle to object 1 and has an empty table -/
theorem run_hM : run hM =
    { heap := [.live 1 1 [(⟨1, .fwd⟩, 1)] (.plain 0 [1]),
        .live 2 1 [(⟨0, .bwd⟩, 1)] (.plain 1 []),
        .live 1 1 [] (.plain 2 [1])],
      roots := [2, 0],
      log := [.ret 2, .traced 0 2 2],
      nextVid := 3 } := by decide +kernel

example : (run hM).err = none ∧ (run hM).isLive 2 = true
    ∧ (run hM).H 2 1 = 1 ∧ (run hM).F 2 1 = 0 := by
  rw [run_hM]
  decide

example : ¬ (run hM).Full := by
  rw [run_hM]
  intro h
  exact absurd (h 2 1 rfl) (by decide)

end Cactus.HistoryExample
