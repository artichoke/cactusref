import Cactus.Lemmas.Final
/-!
# Counted runs

`Run k s t`: the machine goes from `s` to `t` in exactly `k` steps and in each of the `k` states
passed through (excluding `t`) there is no error and the stack is not empty — so `drain` with at
least `k` units of fuel goes from `s` through `t`, and with less fuel it ends in an error.
The block of destructors of a collected group takes a number of steps that depends only on the
multiset of its values (`blockSteps`), whatever their order.
-/
namespace Cactus
open State

inductive Run : Nat → State → State → Prop
  | zero (s : State) : Run 0 s s
  | succ {k : Nat} {s t : State} : s.err = none → s.stack ≠ [] → Run k (step s) t → Run (k + 1) s t

namespace Run

theorem one {s : State} (he : s.err = none) (hst : s.stack ≠ []) : Run 1 s (step s) :=
  .succ he hst (.zero _)

theorem trans {k j : Nat} {s t u : State} (h1 : Run k s t) (h2 : Run j t u) : Run (k + j) s u := by
  induction h1 with
  | zero s => rw [Nat.zero_add]; exact h2
  | succ he hst _ ih =>
    rw [Nat.add_right_comm]
    exact .succ he hst (ih h2)

theorem cast {k j : Nat} {s t : State} (h : Run k s t) (hk : k = j) : Run j s t := hk ▸ h

theorem drain_succ {s : State} (he : s.err = none) (hst : s.stack ≠ []) (f : Nat) :
    drain (f + 1) s = drain f (step s) := by
  cases hs : s.stack with
  | nil => exact absurd hs hst
  | cons a r => simp only [drain, he, hs]

theorem drain_eq {k : Nat} {s t : State} (h : Run k s t) (f : Nat) (hk : k ≤ f) :
    drain f s = drain (f - k) t := by
  induction h generalizing f with
  | zero s => rfl
  | @succ k s t he hst _ ih =>
    obtain ⟨f', rfl⟩ : ∃ f', f = f' + 1 := ⟨f - 1, by omega⟩
    rw [drain_succ he hst, ih f' (by omega), Nat.add_sub_add_right]

theorem drain_err {k : Nat} {s t : State} (h : Run k s t) (f : Nat) (hk : f < k) :
    (drain f s).err ≠ none := by
  induction h generalizing f with
  | zero s => omega
  | @succ k s t he hst _ ih =>
    cases f with
    | zero =>
      cases hs : s.stack with
      | nil => exact absurd hs hst
      | cons a r =>
        simp only [drain, hs]
        rw [fail_err_of_none s _ he]
        exact Option.some_ne_none _
    | succ f' =>
      rw [drain_succ he hst]
      exact ih f' (by omega)

end Run

/-- steps taken by the destructor and drop glue of one quiet value -/
def valSteps (v : Val) : Nat := 3 + 2 * v.held.length + 2 * v.weaks.length

def blockSteps (vs : List Val) : Nat := (vs.map valSteps).sum

theorem blockSteps_perm {vs vs' : List Val} (h : vs.Perm vs') : blockSteps vs = blockSteps vs' :=
  (h.map valSteps).sum_nat

end Cactus
