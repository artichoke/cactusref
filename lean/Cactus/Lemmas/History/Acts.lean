import Cactus.Lemmas.History.Good
/-!
# Fully recorded, quiet actions keep `Full` and quietness

Every `fullQuiet` action keeps `FQ noE` (`Full` and a quiet heap: `applyAct_FQ`) and a quiet control
state (`applyAct_quietCtl`).  An action that edits no table and no stored value and moves no value is
handled through its `ActShape` (it only changes counters and handles); `new`, `link`, `unlink`,
`storeWeak`, `tryUnwrap` and `dropValue` are handled one by one.
-/
namespace Cactus
open State

/-- in a safe state, a live object whose strong count is 1 and that is named by a root handle is
stored in no value, hence (under `Full`) recorded by no live object -/
theorem no_record_of_unique {s : State} (hs : s.Safe) (h : FQ noE s) {o : Nat} {ob : Obj}
    (hc : s.cell o = some ob) (hst : ob.strong = .cnt 1) (hext : 0 < s.ext o + s.pend o) :
    ∀ a, a ≠ o → s.isLive a = true → s.F a o = 0 := by
  intro a _ ha
  have hg := get_of_cell hc
  have hl : s.isLive o = true := by rw [isLive_of_cell hc, hst]; rfl
  have hC := hs.invC o hl
  rw [strongNat_of_get hg, hst] at hC
  simp only [Strong.toNat_cnt] at hC
  have hH := H_le_inHeap s a o
  rw [h.full a (fun e => e) ha o]
  omega

theorem FQ.of_shape {E : Nat → Prop} {a : Act} {s u : State} (hl : ¬ a.editsLinks)
    (hv : ¬ a.editsValue) (hm : ¬ a.movesValue) (h : ActShape a s u) (hq : FQ E s) : FQ E u := by
  refine h.pres (fun p hq => ?_) (fun t d _ _ hq => hq.push [d]) hq
  cases p with
  | fail e _ => exact hq.fail e
  | ret n => exact hq.emit _
  | incStrong o => exact hq.incStrong o
  | incWeak o => exact hq.incWeak o
  | setLinks _ _ _ he => exact absurd he hl
  | modVal _ _ _ he => exact absurd he hv
  | handles _ _ _ => exact hq.of_heap rfl
  | valsPush _ h | valsErase _ h | nextVid _ h | alloc _ h | giveUp _ h => exact absurd h hm

theorem applyAct_FQ {s : State} (hs : s.Safe) (h : FQ noE s) (fh fw : List Nat) (a : Act)
    (ha : a.fullQuiet) : FQ noE (applyAct s fh fw a) := by
  have hO := hs.invO
  have hB := hs.invB
  cases a with
  | new =>
    rw [applyAct]
    exact (h.alloc _ rfl ⟨rfl, rfl⟩).of_heap rfl
  | link r q =>
    rw [applyAct]
    cases h1 : s.useRoot r with
    | none => exact (h.badRoot r).badRoot q
    | some t =>
      cases h2 : s.useRoot q with
      | none => exact (h.badRoot r).badRoot q
      | some o =>
        simp only []
        split
        · exact h
        · exact h.link hO (useRoot_some h2).2 (useRoot_some h1).2 _
  | unlink q k =>
    rw [applyAct]
    cases h1 : s.useRoot q with
    | none => exact h.badRoot q
    | some o =>
      dsimp only
      cases hv : s.valOf o with
      | none => exact h.fail _
      | some v =>
        dsimp only
        cases hk : nthMod v.held k with
        | none => exact h
        | some t =>
          simp only []
          have ht : s.isLive t = true := hs.live_of_held hv (mem_of_nthMod hk)
          rw [isLive_modVal, ht]
          simp only [if_true]
          have h3 := h.unlink hO hB hv (getElem?_idxMod_of_nthMod hk)
            (fun v => { v with held := v.held.eraseIdx (idxMod v.held k) }) rfl (fun v hq => hq)
            (useRoot_some h1).2 ht
          exact h3.of_heap rfl
  | storeWeak w q =>
    rw [applyAct]
    split
    · exact FQ.modVal (s := { s with wroots := s.wroots.eraseIdx (idxMod s.wroots w) })
        (h.of_heap rfl) (fun v b => rfl) (fun v hq => hq)
    · exact h.badRoot q
    · exact h
  | tryUnwrap r =>
    rw [applyAct]
    cases hu : s.useRoot r with
    | none => exact h.badRoot r
    | some o =>
      dsimp only
      cases hc : s.cell o with
      | none => exact h.fail _
      | some ob =>
        dsimp only
        split
        · rename_i v hst hv
          refine FQ.emit ?_ _
          have hlo := (useRoot_some hu).2
          have hFx := no_record_of_unique hs h hc hst
            (by have := ext_pos_of_useRoot hu; omega)
          exact FQ.giveUp
            (s := { s with roots := s.roots.eraseIdx (idxMod s.roots r), vals := s.vals ++ [v] })
            (h.of_heap rfl) (InvO_of_heap_eq rfl hO) (InvB_of_heap_eq rfl hB) hlo hs.err hFx
        · exact h.fail _
        · exact h.emit _
  | dropValue i =>
    rw [applyAct]
    split
    · exact h.of_heap rfl
    · exact h
  | adopt _ _ | unadopt _ _ | store _ _ | take _ _ | makeMut _ | setPanic _ | setShallow _ =>
    exact absurd ha id
  | _ => exact h.of_shape id id id (applyAct_shape s fh fw _)

theorem forall_mem_pair {α : Type} {P : α → Prop} {a b : α} (ha : P a) (hb : P b) :
    ∀ x ∈ [a, b], P x :=
  List.forall_mem_cons.mpr ⟨ha, List.forall_mem_cons.mpr ⟨hb, nofun⟩⟩

namespace State.QuietCtl
variable {s s' : State}

theorem of_eq (h : s.QuietCtl) (hv : s'.vals = s.vals) (hst : s'.stack = s.stack)
    (hu : s'.unwinding = s.unwinding) : s'.QuietCtl :=
  ⟨by rw [hv]; exact h.vals, by rw [hst]; exact h.stack, by rw [hu]; exact h.unw⟩

theorem of_push (h : s.QuietCtl) (fs : List Frame) (hfs : ∀ f ∈ fs, f.okQ)
    (hv : ∀ v ∈ s'.vals, v ∈ s.vals) (hst : s'.stack = fs ++ s.stack)
    (hu : s'.unwinding = s.unwinding) : s'.QuietCtl := by
  refine ⟨fun v hvm => h.vals v (hv v hvm), ?_, by rw [hu]; exact h.unw⟩
  intro f hf
  rw [hst] at hf
  rcases List.mem_append.mp hf with h1 | h1
  · exact hfs f h1
  · exact h.stack f h1

theorem fail (h : s.QuietCtl) (e : Err) : (s.fail e).QuietCtl :=
  h.of_eq (by simp) (by simp) (by simp)

end State.QuietCtl

theorem State.QuietCtl.of_shape {a : Act} {s u : State} (ha : ¬ a.movesValue) (h : ActShape a s u)
    (hc : s.QuietCtl) : u.QuietCtl := by
  refine h.pres (fun p hq => hq.of_eq ?_ p.stack_eq p.unwinding) (fun t d hd hv hq => ?_) hc
  · cases p with
    | valsPush _ hm | valsErase _ hm | nextVid _ hm | alloc _ hm | giveUp _ hm => exact absurd hm ha
    | _ => simp
  · refine hq.of_push [d] (fun f hf => ?_) (fun v hv => hv) rfl rfl
    rw [List.mem_singleton] at hf
    subst hf
    cases f with
    | dropVal v => exact absurd (hv v rfl) ha
    | rcDrop _ => trivial
    | weakDrop _ => trivial
    | _ => cases hd

theorem applyAct_quietCtl {s : State} (hq : HeapQ s) (h : s.QuietCtl)
    (fh fw : List Nat) (a : Act) (ha : a.fullQuiet) : (applyAct s fh fw a).QuietCtl := by
  cases a with
  | new => exact h.of_eq rfl rfl rfl
  | tryUnwrap r =>
    rw [applyAct]
    cases s.useRoot r with
    | none => exact h.of_eq (by simp) (by simp) (by simp)
    | some o =>
      dsimp only
      cases hc : s.cell o with
      | none => exact h.fail _
      | some ob =>
        dsimp only
        split
        · rename_i v hst hv
          refine ⟨fun w hw => ?_, ?_, ?_⟩
          · simp only [emit_vals, State.giveUp_vals, List.mem_append, List.mem_singleton] at hw
            rcases hw with hw | rfl
            · exact h.vals w hw
            · exact hq o ob _ (get_of_cell hc) hv
          · simp only [emit_stack, giveUp_stack]; exact h.stack
          · simp only [emit_unwinding, State.giveUp_unwinding]; exact h.unw
        · exact h.fail _
        · exact h.of_eq rfl rfl rfl
  | dropValue i =>
    rw [applyAct]
    cases hv : nthMod s.vals i with
    | none => exact h
    | some v =>
      refine h.of_push [.dropVal v] (fun f hf => ?_) (fun w hw => List.mem_of_mem_eraseIdx hw) rfl rfl
      rw [List.mem_singleton] at hf
      subst hf
      exact h.vals v (mem_of_nthMod hv)
  | makeMut _ => exact absurd ha id
  | _ => exact h.of_shape id (applyAct_shape s fh fw _)

end Cactus
