import Cactus.Lemmas.History.Phases
/-!
# A whole collection as one big step

`Good.collect`: from a stable point whose top frame starts a collection, the machine runs
`blockSteps vs + 2` steps (the `rcDrop` step, the block of destructors, the `phase3` frame) and
arrives at a stable point again (`Good`), the closed form of which is given.
`Sim.collect`: two corresponding stable points arrive at corresponding stable points, in the same
number of steps.
-/
namespace Cactus
open State

namespace FQ

theorem of_map {E : Nat → Prop} {s s' : State} (h : FQ E s) (g : Nat → Obj → Obj)
    (hh : ∀ i, s'.heap[i]? = (s.heap[i]?).map (g i))
    (hg : ∀ i ob, (g i ob).links = ob.links ∧ (g i ob).value = ob.value
      ∧ (g i ob).strong = ob.strong ∧ (ob.freed = true → (g i ob).freed = true)) : FQ E s' := by
  have key : ∀ a, s'.isLive a = true →
      s.isLive a = true ∧ (∀ b, s'.F a b = s.F a b) ∧ ∀ b, s'.H a b = s.H a b := by
    intro a ha
    cases hga : s.heap[a]? with
    | none =>
      have := hh a
      rw [hga] at this
      rw [isLive_of_get_none this] at ha; cases ha
    | some ob =>
      have hga' := hh a
      rw [hga] at hga'
      simp only [Option.map_some] at hga'
      obtain ⟨g1, g2, g3, g4⟩ := hg a ob
      rw [isLive_of_get hga'] at ha
      have hf' : (g a ob).freed = false := by
        cases hf : (g a ob).freed <;> simp [hf] at ha ⊢
      have hf : ob.freed = false := by
        cases hf : ob.freed with
        | false => rfl
        | true => rw [g4 hf] at hf'; cases hf'
      refine ⟨?_, fun b => ?_, fun b => ?_⟩
      · rw [isLive_of_get hga, hf, ← g3]
        rw [hf'] at ha; exact ha
      · rw [F_def, F_def, tbl_of_get hga', tbl_of_get hga, hf, hf', g1]
      · rw [H_of_get hga', H_of_get hga, Obj.heldList_congr g2]
  refine ⟨fun a ha hl b => ?_, fun o ob' v hgo hv => ?_⟩
  · obtain ⟨k1, k2, k3⟩ := key a hl
    rw [k2, k3]; exact h.full a ha k1 b
  · have := hh o
    rw [hgo] at this
    cases hgo' : s.heap[o]? with
    | none => rw [hgo'] at this; cases this
    | some ob =>
      rw [hgo'] at this
      simp only [Option.map_some, Option.some.injEq] at this
      subst this
      exact h.quiet o ob v hgo' (by rw [← (hg o ob).2.1]; exact hv)

theorem teardown {s s' : State} {ks : List Nat} {vs : List Val} (h : FQ noE s)
    (hT : Teardown s s' ks vs) : FQ noE s' := by
  refine ⟨fun a _ ha b => ?_, fun o ob' v hgo hv => ?_⟩
  · obtain ⟨hl, hak⟩ := (hT.isLive_iff a).mp ha
    rw [F_def, hT.tbl_other hak, H_def]
    simp only [State.heldOf, hT.other a hak]
    exact h.full a (fun e => e) hl b
  · by_cases hok : o ∈ ks
    · obtain ⟨ob, n, hg, -, -, hg'⟩ := hT.key_obj hok
      rw [hgo] at hg'; cases hg'
      simp [p2Obj] at hv
    · rw [hT.other o hok] at hgo
      exact h.quiet o ob' v hgo hv

end FQ

theorem foldl_phase3One_ctl (l : List Nat) (s : State) :
    (l.foldl phase3One s).vals = s.vals ∧ (l.foldl phase3One s).unwinding = s.unwinding :=
  foldl_lift (Q := fun s t => t.vals = s.vals ∧ t.unwinding = s.unwinding) (fun _ => ⟨rfl, rfl⟩)
    (fun ⟨a, b⟩ ⟨c, d⟩ => ⟨c.trans a, d.trans b⟩)
    (fun s k => by
      rcases phase3One_cases s k with ⟨e, h⟩ | ⟨_, _, _, h⟩ | h <;> rw [h]
      · simp
      · exact ⟨rfl, rfl⟩
      · simp) l s

theorem Run.reachableC {k : Nat} {s t : State} (h : Run k s t) (hr : ReachableC s) : ReachableC t := by
  induction h with
  | zero s => exact hr
  | succ _ _ _ ih => exact ih (.step hr)

theorem relObj_keeps (ob : Obj) (c : Nat) :
    (relObj ob c).links = ob.links ∧ (relObj ob c).value = ob.value
      ∧ (relObj ob c).strong = ob.strong ∧ (ob.freed = true → (relObj ob c).freed = true) := by
  induction c generalizing ob with
  | zero => exact ⟨rfl, rfl, rfl, id⟩
  | succ c ih =>
    obtain ⟨h1, h2, h3, h4⟩ := ih (rel1 ob)
    have hk : (rel1 ob).links = ob.links ∧ (rel1 ob).value = ob.value ∧ (rel1 ob).strong = ob.strong
        ∧ (ob.freed = true → (rel1 ob).freed = true) := by
      unfold rel1
      split
      · exact ⟨rfl, rfl, rfl, fun _ => rfl⟩
      · exact ⟨rfl, rfl, rfl, id⟩
    exact ⟨h1.trans hk.1, h2.trans hk.2.1, h3.trans hk.2.2.1, fun hf => h4 (hk.2.2.2 hf)⟩

/-- the pieces of a collection started from `s`: `s2` is the state in which `dropCycle c` runs -/
structure CollectRun (s : State) (rest : List Frame) (s2 : State) (c : CMap) (t : State) : Prop where
  ready : CycleReady s2 c
  run : Run (blockSteps (s2.cyc2 c).2 + 1) (step s) t
  good : Good t
  goodW : GoodW (step s).heap (blockWeaks (reorder s.hint (s2.cyc2 c).2))
  ready3 : ∀ k ∈ c.keys,
    Ready3 (blockResult { step s with stack := rest } (reorder s.hint (s2.cyc2 c).2)) k
  final : t = c.keys.foldl State.phase3One
    (blockResult { step s with stack := rest } (reorder s.hint (s2.cyc2 c).2))

theorem collect_core {s : State} (hg : Good s) {o : Nat} {rest : List Frame}
    (hstk : s.stack = .rcDrop o :: rest) (s1 : State) (hd : DecFacts s1 o) (e : Ev)
    (hst1 : s1.stack = rest) (hhint1 : s1.hint = s.hint) (hvals1 : s1.vals = s.vals)
    (hunw1 : s1.unwinding = s.unwinding)
    (hne : (cycleRefs s1 o).cmap.isEmpty = false)
    (hext : hasExternalOwners s1 (cycleRefs s1 o).cmap = false)
    (hstep : step s = (s1.emit e).dropCycle (cycleRefs s1 o).cmap) :
    ∃ t, CollectRun s rest (s1.emit e) (cycleRefs s1 o).cmap t
      ∧ (step s).err = none
      ∧ (step s).stack = (reorder s.hint ((s1.emit e).cyc2 (cycleRefs s1 o).cmap).2).map Frame.dropVal
          ++ ([Frame.phase3 (cycleRefs s1 o).cmap.keys] ++ rest)
      ∧ (∀ v ∈ reorder s.hint ((s1.emit e).cyc2 (cycleRefs s1 o).cmap).2, v.quiet)
      ∧ Ready (step s).heap (blockHeld (reorder s.hint ((s1.emit e).cyc2 (cycleRefs s1 o).cmap).2))
          (blockWeaks (reorder s.hint ((s1.emit e).cyc2 (cycleRefs s1 o).cmap).2)) := by
  -- `s2 = s1.emit e` has the invariants of `s1` and the same reachability trace
  have hfq2 : FQ noE (s1.emit e) := hd.fq.emit e
  obtain ⟨hCR, hT, hsafe3, hready⟩ := collection_facts (s1.emit e) o _
    (congrArg TraceResult.cmap (cycleRefs_emit s1 e o)).symm (State.InvCore_emit hd.core e)
    (hd.rng.emit e) hd.safe hd.err hfq2.toFull hd.live hne hext
  generalize hcm : (cycleRefs s1 o).cmap = c at *
  rw [← hstep] at hT hsafe3 hready
  -- the values
  generalize hvs : ((s1.emit e).cyc2 c).2 = vs at *
  have hq : ∀ v ∈ reorder s.hint vs, v.quiet := by
    intro v hv
    obtain ⟨k, _, obk, hgk, hvk⟩ := hT.mem_vals ((mem_reorder s.hint _ v).mp hv)
    exact hfq2.quiet k obk v hgk hvk
  obtain ⟨d1, d2, d3, d4, d5, d6, d7, d8, d9, d10, d11⟩ := dropCycle_spec (s1.emit e) c hCR
  rw [← hstep] at d1 d2 d3 d4 d5 d6 d7 d8 d9 d10 d11
  rw [hvs] at d3
  have hst2 : (s1.emit e).stack = rest := hst1
  have hhint : (s1.emit e).hint = s.hint := hhint1
  rw [hst2, hhint, List.append_assoc] at d3
  have hperm := reorder_perm s.hint vs
  have hr : Ready (step s).heap (blockHeld (reorder s.hint vs)) (blockWeaks (reorder s.hint vs)) :=
    hready.perm (blockHeld_perm hperm.symm) (blockWeaks_perm hperm.symm)
  -- the block
  have hrun := run_block' (reorder s.hint vs) (step s) ([Frame.phase3 c.keys] ++ rest) d2 d3 hq hr
  rw [blockSteps_perm hperm] at hrun
  generalize hB : blockResult { step s with stack := [Frame.phase3 c.keys] ++ rest }
    (reorder s.hint vs) = B at hrun
  have hB0 : B = { blockResult { step s with stack := rest } (reorder s.hint vs) with
      stack := [Frame.phase3 c.keys] ++ rest } := by
    rw [← hB, blockResult_setStack _ (step s) _, blockResult_setStack _ (step s) rest]
  obtain ⟨k1, k2, k3⟩ := blockResult_spec
    ({ step s with stack := [Frame.phase3 c.keys] ++ rest } : State) (reorder s.hint vs) hr.1
  rw [hB] at k1 k2 k3
  have hstB : B.stack = Frame.phase3 c.keys :: rest := by rw [k1]; rfl
  have herB : B.err = none := by rw [k1]; exact d2
  have hinvB := runSteps_inv _ (step s) (fun _ => hsafe3.1) hsafe3.2.1
    (by rw [hrun.runSteps_eq]; exact herB)
  rw [hrun.runSteps_eq] at hinvB
  have hcoreB : B.InvCore := hinvB.1 herB
  obtain ⟨p1, p2⟩ := phase3_err_none herB hcoreB hstB
  have hstepB : step B = c.keys.foldl State.phase3One
      (blockResult { step s with stack := rest } (reorder s.hint vs)) := by
    have : step B = c.keys.foldl State.phase3One { B with stack := rest } :=
      step_eq_frame herB hstB
    rw [this]
    congr 1
    rw [← hB, blockResult_setStack _ (step s) _, blockResult_setStack _ (step s) rest]
  have hrun1 : Run 1 B (step B) := Run.one herB (by rw [hstB]; simp)
  have hrunT := hrun.trans hrun1
  -- readiness for phase 3
  have hr3 : ∀ k ∈ c.keys,
      Ready3 (blockResult { step s with stack := rest } (reorder s.hint vs)) k := by
    intro k hk
    obtain ⟨-, hph, -⟩ : B.InvK := hcoreB.2.2.2.2
    obtain ⟨obk, hgk, huk, -, hik⟩ := hph c.keys (by rw [hstB]; exact List.mem_cons_self) k hk
    have hck := cell_of_implicit hcoreB.1 hcoreB.2.2.2.1 hgk hik
    have hfk := freed_of_cell hck
    have hwk : obk.weak ≠ 0 := by
      intro h0
      have := ((hcoreB.1 k obk hgk).2.2.2).mpr h0
      rw [hfk] at this; cases this
    refine ⟨obk, ?_, hfk, by rw [huk]; rfl, by omega⟩
    have : B.heap = (blockResult { step s with stack := rest } (reorder s.hint vs)).heap := by
      rw [hB0]
    rw [← this]; exact hgk
  -- `Full` and quietness at the end
  have hfqd : FQ noE (step s) := hfq2.teardown hT
  have hfqB0 : FQ noE (blockResult { step s with stack := rest } (reorder s.hint vs)) := by
    exact (hfqd.of_heap (s' := { step s with stack := rest }) rfl).of_map
      (fun i ob => relObj ob ((rels (blockItems (reorder s.hint vs))).count i))
      (blockResult_items ({ step s with stack := rest } : State) _ hr.1).heap
      (fun i ob' => relObj_keeps ob' _)
  have c0 := (blockResult_spec ({ step s with stack := rest } : State) (reorder s.hint vs)
    hr.1).1
  subst hvs
  refine ⟨step B, ⟨hCR, ?_, ?_, hr.1, hr3, hstepB⟩, d2, d3, hq, hr⟩
  · exact hrunT
  · refine ⟨hrunT.reachableC (.step hg.rc), p1, ?_, ?_⟩
    · rw [hstepB]
      exact foldl_pres _ (fun u k hu => hu.phase3One k) _ hfqB0
    · have hctl0 := hg.ctl_pop hstk
      refine ⟨?_, ?_, ?_⟩
      · rw [hstepB, (foldl_phase3One_ctl _ _).1, c0]
        show ∀ v ∈ (step s).vals, v.quiet
        rw [d6]
        show ∀ v ∈ s1.vals, v.quiet
        rw [hvals1]
        exact hg.ctl.vals
      · rw [p2]; exact hctl0.stack
      · rw [hstepB, (foldl_phase3One_ctl _ _).2, c0]
        show (step s).unwinding = false
        rw [d9]
        show s1.unwinding = false
        rw [hunw1]
        exact hg.ctl.unw

theorem Good.collect {s : State} (hg : Good s) {o : Nat} {rest : List Frame} {ob : Obj} {n : Nat}
    (hc : Collects s o rest ob n) :
    ∃ t, CollectRun s rest ((decState s o rest ob n).emit
      (.traced o (cycleRefs (decState s o rest ob n) o).visited.length
        (cycleRefs (decState s o rest ob n) o).popped))
      (cycleRefs (decState s o rest ob n) o).cmap t :=
  (collect_core hg hc.stack (decState s o rest ob n) (hg.decFacts hc.stack hc.cell hc.strong) _
    rfl rfl rfl rfl hc.hne hc.hext hc.step_eq).imp fun _ h => h.1

theorem Sim.collect {s s' : State} (h : Sim s s') {o : Nat} {rest : List Frame} {ob ob' : Obj}
    {n : Nat} (hc : Collects s o rest ob n) (hc' : Collects s' o rest ob' n)
    (h1 : (decState s o rest ob n).LayoutEqL (decState s' o rest ob' n)) :
    ∃ k t t', Run k (step s) t ∧ Run k (step s') t' ∧ Sim t t' := by
  obtain ⟨t, r⟩ := h.good.collect hc
  obtain ⟨t', r'⟩ := h.good'.collect hc'
  have hd := h.good.decFacts hc.stack hc.cell hc.strong
  obtain ⟨c1, -, -, -, c5, c6⟩ :=
    cycleRefs_layoutL (decState s o rest ob n) (decState s' o rest ob' n) o h1 hd.core.1
      hd.core.2.1 hd.live
  -- the states before `dropCycle`
  have h2 : ((decState s o rest ob n).emit
      (.traced o (cycleRefs (decState s o rest ob n) o).visited.length
        (cycleRefs (decState s o rest ob n) o).popped)).LayoutEqL
      ((decState s' o rest ob' n).emit
        (.traced o (cycleRefs (decState s' o rest ob' n) o).visited.length
          (cycleRefs (decState s' o rest ob' n) o).popped)) := by
    rw [← c5, ← c6]
    exact h1.emit _
  obtain ⟨q1, q2, q3⟩ := dropCycle_leq h2 r.ready r'.ready c1 rest
  rw [← hc.step_eq, ← hc'.step_eq] at q1
  have hperm := ((reorder_perm s.hint _).trans q2).trans (reorder_perm s'.hint _).symm
  have hb := blockResult_leq q1 hperm r.goodW r'.goodW
  have hfin := phase3_fold_leq hb q3 r.ready.nodup r.ready3 r'.ready3
  rw [← r.final, ← r'.final] at hfin
  refine ⟨_, t, t', r.run, ?_, ⟨hfin, r.good, r'.good⟩⟩
  rw [blockSteps_perm q2]
  exact r'.run

end Cactus
