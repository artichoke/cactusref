import Cactus.Lemmas.CollectLayout
import Cactus.Lemmas.Contract
/-!
# The primitive state transformers respect `LayoutEqL`

`State.LayoutEqL s s'` (`Cactus.Lemmas.Layout`): the two states agree up to (1) the order of the
entries inside every link table, (2) the order of the events in the log, (3) the hint.  Every
primitive state transformer of the model respects the relation (the table operations
`insert`/`remove` need well-formed tables).
-/
namespace Cactus
open State

namespace Table

theorem nodup_of_map_nodup {α β : Type} (f : α → β) (l : List α) (h : (l.map f).Nodup) :
    l.Nodup :=
  (List.pairwise_map.1 h).imp fun hne heq => hne (congrArg f heq)

theorem nodup_of_WF (t : Table) (hw : t.WF) : t.Nodup := nodup_of_map_nodup _ t hw.1

theorem mem_iff_get (t : Table) (hw : t.WF) (l : Link) (c : Nat) :
    (l, c) ∈ t ↔ 0 < c ∧ t.get l = c := by
  constructor
  · intro h
    exact ⟨hw.2 _ h, mem_get t hw l c h⟩
  · rintro ⟨hc, hg⟩
    obtain ⟨c', hc'⟩ := (mem_keys_iff_get_pos t hw l).2 (hg ▸ hc)
    cases (mem_get t hw l c' hc').symm.trans hg
    exact hc'

theorem perm_of_get_eq (t u : Table) (hw : t.WF) (hu : u.WF) (h : ∀ l, t.get l = u.get l) :
    t.Perm u := by
  apply (List.perm_ext_iff_of_nodup (nodup_of_WF t hw) (nodup_of_WF u hu)).2
  rintro ⟨l, c⟩
  rw [mem_iff_get t hw, mem_iff_get u hu, h l]

theorem insert_perm (k : Link) (t u : Table) (hw : t.WF) (hp : t.Perm u) :
    (t.insert k).Perm (u.insert k) := by
  have hu := WF_perm t u hw hp
  apply perm_of_get_eq _ _ (WF_insert t hw k) (WF_insert u hu k)
  intro l
  rw [get_insert, get_insert, get_perm t u hw hp]

theorem remove_perm (k : Link) (n : Nat) (t u : Table) (hw : t.WF) (hp : t.Perm u) :
    (t.remove k n).Perm (u.remove k n) := by
  have hu := WF_perm t u hw hp
  apply perm_of_get_eq _ _ (WF_remove t hw k n) (WF_remove u hu k n)
  intro l
  rw [get_remove t hw, get_remove u hu, get_perm t u hw hp, get_perm t u hw hp]

end Table

namespace HeapEq

theorem set {h h' : List Obj} (e : HeapEq h h') (o : Nat) {a b : Obj} (hab : Obj.LayoutEq a b) :
    HeapEq (h.set o a) (h'.set o b) := by
  refine ⟨by simp [e.1], ?_⟩
  intro i x y hx hy
  by_cases hio : o = i
  · subst hio
    rw [List.getElem?_set] at hx hy
    simp only [if_true] at hx hy
    split at hx
    · split at hy
      · cases hx; cases hy; exact hab
      · cases hy
    · cases hx
  · rw [List.getElem?_set_ne hio] at hx hy
    exact e.2 i x y hx hy

theorem append {h h' : List Obj} (e : HeapEq h h') {a b : Obj} (hab : Obj.LayoutEq a b) :
    HeapEq (h ++ [a]) (h' ++ [b]) := by
  refine ⟨by rw [List.length_append, List.length_append, e.1]; rfl, fun i x y hx hy => ?_⟩
  rw [List.getElem?_append] at hx hy
  rw [← e.1] at hy
  split at hx
  · next hi =>
    rw [if_pos hi] at hy
    exact e.2 i x y hx hy
  · next hi =>
    rw [if_neg hi] at hy
    cases hk : i - h.length with
    | zero =>
      rw [hk] at hx hy
      cases hx
      cases hy
      exact hab
    | succ k =>
      rw [hk] at hx
      cases hx

theorem of_map {h h' g g' : List Obj} (e : HeapEq h h') (f f' : Nat → Obj → Obj)
    (hg : ∀ i, g[i]? = (h[i]?).map (f i)) (hg' : ∀ i, g'[i]? = (h'[i]?).map (f' i))
    (hf : ∀ i a b, h[i]? = some a → h'[i]? = some b → Obj.LayoutEq a b →
      Obj.LayoutEq (f i a) (f' i b)) :
    HeapEq g g' := by
  have hlen : ∀ (l m : List Obj) (φ : Nat → Obj → Obj), (∀ i, m[i]? = (l[i]?).map (φ i)) →
      m.length = l.length := by
    intro l m φ hm
    have hi : ∀ i, m.length ≤ i ↔ l.length ≤ i := fun i => by
      rw [← List.getElem?_eq_none_iff, ← List.getElem?_eq_none_iff, hm i, Option.map_eq_none_iff]
    exact Nat.le_antisymm ((hi _).2 (Nat.le_refl _)) ((hi _).1 (Nat.le_refl _))
  refine ⟨by rw [hlen h g f hg, hlen h' g' f' hg', e.1], ?_⟩
  intro i x y hx hy
  rw [hg i] at hx
  rw [hg' i] at hy
  rcases e.cases i with ⟨h1, h2⟩ | ⟨a, b, h1, h2, hab⟩
  · rw [h1] at hx; cases hx
  · rw [h1] at hx; rw [h2] at hy
    cases hx; cases hy
    exact hf i a b h1 h2 hab

end HeapEq

namespace State.LayoutEqL

section
variable {s s' : State} (h : s.LayoutEqL s')
include h

theorem cell_cases (o : Nat) :
    (s.cell o = none ∧ s'.cell o = none)
    ∨ ∃ a b, s.cell o = some a ∧ s'.cell o = some b ∧ Obj.LayoutEq a b :=
  h.toLayoutEq.cell_cases o

theorem isLive_eq (o : Nat) : s.isLive o = s'.isLive o := h.toLayoutEq.isLive_eq o
theorem strongOf_eq (o : Nat) : s.strongOf o = s'.strongOf o := h.toLayoutEq.strongOf_eq o
theorem strongNat_eq (o : Nat) : s.strongNat o = s'.strongNat o := h.toLayoutEq.strongNat_eq o
theorem weakNat_eq (o : Nat) : s.weakNat o = s'.weakNat o := h.toLayoutEq.weakNat_eq o
theorem heldOf_eq (o : Nat) : s.heldOf o = s'.heldOf o := h.toLayoutEq.heldOf_eq o
theorem weaksOf_eq (o : Nat) : s.weaksOf o = s'.weaksOf o := h.toLayoutEq.weaksOf_eq o
theorem H_eq (a b : Nat) : s.H a b = s'.H a b := h.toLayoutEq.H_eq a b
theorem tbl_perm (n : Nat) : (s.tbl n).Perm (s'.tbl n) := h.toLayoutEq.tbl_perm n
theorem F_eq (hB : s.InvB) (a b : Nat) : s.F a b = s'.F a b := h.toLayoutEq.F_eq hB a b

theorem tableOf_cases (n : Nat) :
    (s.tableOf n = none ∧ s'.tableOf n = none)
    ∨ ∃ t t', s.tableOf n = some t ∧ s'.tableOf n = some t' ∧ t.Perm t' :=
  h.toLayoutEq.tableOf_cases n

theorem valOf_eq (o : Nat) : s.valOf o = s'.valOf o := by
  unfold State.valOf
  rcases h.cell_cases o with ⟨h1, h2⟩ | ⟨a, b, h1, h2, hab⟩
  · rw [h1, h2]
  · rw [h1, h2]; exact hab.value

theorem useRoot_eq (r : Nat) : s.useRoot r = s'.useRoot r := by
  unfold State.useRoot
  rw [← h.roots]
  cases nthMod s.roots r with
  | none => rfl
  | some o => simp only [h.isLive_eq o]

theorem fail (e : Err) : (s.fail e).LayoutEqL (s'.fail e) := by
  unfold State.fail
  rw [← h.err]
  cases s.err with
  | none =>
    exact ⟨h.heap, h.roots, h.wroots, h.vals, h.raws, h.stack, h.log, rfl, h.unwinding, h.nextVid⟩
  | some x => exact h

theorem emit (e : Ev) : (s.emit e).LayoutEqL (s'.emit e) :=
  ⟨h.heap, h.roots, h.wroots, h.vals, h.raws, h.stack, h.log.append_right [e], h.err,
    h.unwinding, h.nextVid⟩

theorem push (fs : List Frame) : (s.push fs).LayoutEqL (s'.push fs) :=
  ⟨h.heap, h.roots, h.wroots, h.vals, h.raws, by simp [State.push, h.stack], h.log, h.err,
    h.unwinding, h.nextVid⟩

theorem setStack (st : List Frame) :
    ({ s with stack := st } : State).LayoutEqL { s' with stack := st } :=
  ⟨h.heap, h.roots, h.wroots, h.vals, h.raws, rfl, h.log, h.err, h.unwinding, h.nextVid⟩

theorem setHint (h1 h2 : List Nat) :
    ({ s with hint := h1 } : State).LayoutEqL { s' with hint := h2 } :=
  ⟨h.heap, h.roots, h.wroots, h.vals, h.raws, h.stack, h.log, h.err, h.unwinding, h.nextVid⟩

theorem onCell (o : Nat) (e : Err) {f g : Obj → State}
    (hf : ∀ a b, s.cell o = some a → s'.cell o = some b → Obj.LayoutEq a b →
      (f a).LayoutEqL (g b)) :
    (match s.cell o with | some ob => f ob | none => s.fail e).LayoutEqL
      (match s'.cell o with | some ob => g ob | none => s'.fail e) := by
  rcases h.cell_cases o with ⟨h1, h2⟩ | ⟨a, b, h1, h2, hab⟩
  · rw [h1, h2]; exact h.fail e
  · rw [h1, h2]; exact hf a b h1 h2 hab

theorem onNth {l l' : List Nat} (hl : l = l') (i : Nat) {f g : Nat → State}
    (hf : ∀ o, (f o).LayoutEqL (g o)) :
    (match nthMod l i with | some o => f o | none => s).LayoutEqL
      (match nthMod l' i with | some o => g o | none => s') := by
  subst hl
  cases nthMod l i with
  | none => exact h
  | some o => exact hf o

theorem onLive (o : Nat) (e : Err) {x y : State} (hx : x.LayoutEqL y) :
    (if s.isLive o then x else s.fail e).LayoutEqL (if s'.isLive o then y else s'.fail e) := by
  rw [← h.isLive_eq o]
  split
  · exact hx
  · exact h.fail e

theorem onLinks {l l' : Option Table} (hl : LinksEq l l') (e : Err) {f g : Table → State}
    (hf : ∀ t t', l = some t → l' = some t' → (f t).LayoutEqL (g t')) :
    (match (generalizing := false) l with | some t => f t | none => s.fail e).LayoutEqL
      (match (generalizing := false) l' with | some t => g t | none => s'.fail e) := by
  cases l with
  | none =>
    cases l' with
    | none => exact h.fail e
    | some t' => exact hl.elim
  | some t =>
    cases l' with
    | none => exact hl.elim
    | some t' => exact hf t t' rfl rfl

theorem setObj (o : Nat) {a b : Obj} (hab : Obj.LayoutEq a b) :
    (s.setObj o a).LayoutEqL (s'.setObj o b) :=
  ⟨h.heap.set o hab, h.roots, h.wroots, h.vals, h.raws, h.stack, h.log, h.err, h.unwinding,
    h.nextVid⟩

theorem badRoot (r : Nat) : (s.badRoot r).LayoutEqL (s'.badRoot r) := by
  exact h.onNth h.roots r fun o => h.onLive o _ h

theorem incStrong (o : Nat) : (s.incStrong o).LayoutEqL (s'.incStrong o) := by
  unfold State.incStrong
  refine h.onCell o _ fun a b _ _ hab => ?_
  simp only [← hab.strong]
  split
  · exact h.setObj o (by exact ⟨rfl, hab.weak, hab.value, hab.freed, hab.implicit, hab.links⟩)
  · exact h.fail _

theorem incWeak (o : Nat) : (s.incWeak o).LayoutEqL (s'.incWeak o) := by
  unfold State.incWeak
  refine h.onCell o _ fun a b _ _ hab => ?_
  simp only [← hab.weak]
  split
  · exact h.fail _
  · exact h.setObj o (by exact ⟨hab.strong, rfl, hab.value, hab.freed, hab.implicit, hab.links⟩)

theorem decWeakFree (o : Nat) (imp : Bool) :
    (s.decWeakFree o imp).LayoutEqL (s'.decWeakFree o imp) := by
  unfold State.decWeakFree
  refine h.onCell o _ fun a b _ _ hab => ?_
  simp only [← hab.weak]
  split
  · exact h.fail _
  · exact (h.setObj o (by exact ⟨hab.strong, rfl, hab.value, rfl, by simp [hab.implicit],
      hab.links⟩)).emit _
  · exact h.setObj o (by exact ⟨hab.strong, rfl, hab.value, hab.freed, by simp [hab.implicit],
      hab.links⟩)

theorem weakDrop (o : Nat) : (s.weakDrop o).LayoutEqL (s'.weakDrop o) := h.decWeakFree o false

theorem modVal (o : Nat) (f : Val → Val) : (s.modVal o f).LayoutEqL (s'.modVal o f) := by
  unfold State.modVal
  refine h.onCell o _ fun a b _ _ hab => ?_
  simp only [← hab.value]
  split
  · exact h.setObj o (by exact ⟨hab.strong, hab.weak, rfl, hab.freed, hab.implicit, hab.links⟩)
  · exact h.fail _

theorem alloc (v : Val) : (s.alloc v).LayoutEqL (s'.alloc v) :=
  ⟨h.heap.append (Obj.LayoutEq.refl _), h.roots, h.wroots, h.vals, h.raws, h.stack, h.log, h.err,
    h.unwinding, h.nextVid⟩

theorem linksErr_eq (o : Nat) : s.linksErr o = s'.linksErr o := by
  unfold State.linksErr
  rcases h.cell_cases o with ⟨h1, h2⟩ | ⟨a, b, h1, h2, hab⟩
  · rw [h1, h2]
  · rw [h1, h2]

theorem setLinks (o : Nat) (f g : Table → Table)
    (hfg : ∀ t t', s.tableOf o = some t → s'.tableOf o = some t' → (f t).Perm (g t')) :
    (s.setLinks o f).LayoutEqL (s'.setLinks o g) := by
  unfold State.setLinks
  refine h.onCell o _ fun a b h1 h2 hab => ?_
  refine h.onLinks hab.links _ fun t t' hla hlb => ?_
  apply h.setObj o
  refine ⟨hab.strong, hab.weak, hab.value, hab.freed, hab.implicit, ?_⟩
  show (f t).Perm (g t')
  apply hfg
  · rw [State.tableOf, h1]; exact hla
  · rw [State.tableOf, h2]; exact hlb

theorem beginSingle (o : Nat) : (s.beginSingle o).LayoutEqL (s'.beginSingle o) := by
  unfold State.beginSingle
  refine h.onCell o _ fun a b _ _ hab => ?_
  simp only [← hab.strong, ← hab.value]
  split
  · exact h.decWeakFree o true
  · split
    · exact (h.setObj o (by exact ⟨rfl, hab.weak, rfl, hab.freed, hab.implicit, hab.links⟩)).push _
    · exact h.fail _

theorem finishSingle (o : Nat) : (s.finishSingle o).LayoutEqL (s'.finishSingle o) := by
  unfold State.finishSingle
  refine h.onCell o _ fun a b _ _ hab => ?_
  refine h.onLinks hab.links _ fun _ _ _ _ => ?_
  exact (h.setObj o (by exact ⟨hab.strong, hab.weak, hab.value, hab.freed, hab.implicit,
    LinksEq.refl none⟩)).decWeakFree o true

theorem dropVal (v : Val) : (s.dropVal v).LayoutEqL (s'.dropVal v) := (h.emit _).push _

theorem dropFields (hs ws : List Nat) : (s.dropFields hs ws).LayoutEqL (s'.dropFields hs ws) := by
  cases hs with
  | cons x xs => exact h.push _
  | nil =>
    cases ws with
    | cons x xs => exact h.push _
    | nil => exact h

theorem phase3One (k : Nat) : (s.phase3One k).LayoutEqL (s'.phase3One k) := by
  unfold State.phase3One
  refine h.onCell k _ fun a b _ _ hab => ?_
  simp only [← hab.strong]
  split
  · exact h.decWeakFree k true
  · exact h

theorem withRoots {r r' : List Nat} (hr : r = r') :
    ({ s with roots := r } : State).LayoutEqL { s' with roots := r' } :=
  ⟨h.heap, hr, h.wroots, h.vals, h.raws, h.stack, h.log, h.err, h.unwinding, h.nextVid⟩

theorem withWroots {r r' : List Nat} (hr : r = r') :
    ({ s with wroots := r } : State).LayoutEqL { s' with wroots := r' } :=
  ⟨h.heap, h.roots, hr, h.vals, h.raws, h.stack, h.log, h.err, h.unwinding, h.nextVid⟩

theorem withVals {r r' : List Val} (hr : r = r') :
    ({ s with vals := r } : State).LayoutEqL { s' with vals := r' } :=
  ⟨h.heap, h.roots, h.wroots, hr, h.raws, h.stack, h.log, h.err, h.unwinding, h.nextVid⟩

theorem withRaws {r r' : List Nat} (hr : r = r') :
    ({ s with raws := r } : State).LayoutEqL { s' with raws := r' } :=
  ⟨h.heap, h.roots, h.wroots, h.vals, hr, h.stack, h.log, h.err, h.unwinding, h.nextVid⟩

theorem withNextVid {r r' : Nat} (hr : r = r') :
    ({ s with nextVid := r } : State).LayoutEqL { s' with nextVid := r' } :=
  ⟨h.heap, h.roots, h.wroots, h.vals, h.raws, h.stack, h.log, h.err, h.unwinding, hr⟩

theorem setCtl (r w : List Nat) (v : List Val) (rw' : List Nat) (n : Nat) :
    ({ s with roots := r, wroots := w, vals := v, raws := rw', nextVid := n } : State).LayoutEqL
      { s' with roots := r, wroots := w, vals := v, raws := rw', nextVid := n } :=
  ⟨h.heap, rfl, rfl, rfl, rfl, h.stack, h.log, h.err, h.unwinding, rfl⟩

end

end State.LayoutEqL

end Cactus
