import Cactus.Lemmas.History.RcDropSim
/-!
# The phases of a collection on layout-equal states

* `dropCycle_leq`: phases 1 and 2 from layout-equal states with cycle maps that have the same key
  *set* give layout-equal heaps and permuted value lists;
* `blockResult_leq`: the block of destructors (closed form) respects `LayoutEqL` and permutation
  of the block;
* `phase3_fold_leq`: phase 3 over permuted key lists respects `LayoutEqL`.
-/
namespace Cactus
open State

theorem HeapEq.of_keys {h h' g g' : List Obj} (e : HeapEq h h') {ks ks' : List Nat}
    (hks : ∀ i, i ∈ ks ↔ i ∈ ks') (f : Obj → Obj)
    (hf : ∀ {a b}, Obj.LayoutEq a b → Obj.LayoutEq (f a) (f b))
    (hlen : g.length = h.length) (hk : ∀ k ∈ ks, ∀ ob, h[k]? = some ob → g[k]? = some (f ob))
    (ho : ∀ i, i ∉ ks → g[i]? = h[i]?)
    (hlen' : g'.length = h'.length) (hk' : ∀ k ∈ ks', ∀ ob, h'[k]? = some ob → g'[k]? = some (f ob))
    (ho' : ∀ i, i ∉ ks' → g'[i]? = h'[i]?) : HeapEq g g' := by
  refine ⟨by rw [hlen, hlen', e.1], fun i x y hx hy => ?_⟩
  by_cases hi : i ∈ ks
  · have hlt : i < h.length := hlen ▸ (List.getElem?_eq_some_iff.mp hx).1
    have hlt' : i < h'.length := e.1 ▸ hlt
    rw [hk i hi _ (List.getElem?_eq_getElem hlt)] at hx
    rw [hk' i ((hks i).mp hi) _ (List.getElem?_eq_getElem hlt')] at hy
    cases hx
    cases hy
    exact hf (e.2 i _ _ (List.getElem?_eq_getElem hlt) (List.getElem?_eq_getElem hlt'))
  · rw [ho i hi] at hx
    rw [ho' i (fun hm => hi ((hks i).mpr hm))] at hy
    exact e.2 i x y hx hy

theorem State.LayoutEqL.of_ctl {u u' t t' : State} (h : u.LayoutEqL u')
    (c : t = { u with heap := t.heap, log := t.log })
    (c' : t' = { u' with heap := t'.heap, log := t'.log }) (hh : HeapEq t.heap t'.heap)
    (hl : t.log.Perm t'.log) : t.LayoutEqL t' := by
  rw [c, c']
  exact ⟨hh, h.roots, h.wroots, h.vals, h.raws, h.stack, hl, h.err, h.unwinding, h.nextVid⟩

/-- a member after phase 3: the implicit weak reference is released -/
def p3Obj (ob : Obj) : Obj := { rel1 ob with implicit := false }

def Ready3 (u : State) (k : Nat) : Prop :=
  ∃ ob, u.heap[k]? = some ob ∧ ob.freed = false ∧ ob.strong.isDead = true ∧ 1 ≤ ob.weak

theorem phase3One_ready (u : State) (k : Nat) (ob : Obj) (hg : u.heap[k]? = some ob)
    (hf : ob.freed = false) (hd : ob.strong.isDead = true) (hw : 1 ≤ ob.weak) :
    u.phase3One k = { u with heap := u.heap.set k (p3Obj ob),
                             log := u.log ++ (if ob.weak = 1 then [Ev.freed k] else []) } := by
  unfold State.phase3One
  rw [cell_of_not_freed hg hf]
  dsimp only
  rw [if_pos hd, decWeakFree_good u k ob true hg hf hw, Bool.not_true, Bool.and_false]
  rfl

theorem phase3_fold_spec (ks : List Nat) :
    ∀ (u : State), ks.Nodup → (∀ k ∈ ks, Ready3 u k) →
      let u3 := ks.foldl State.phase3One u
      u3 = { u with heap := u3.heap, log := u3.log }
      ∧ u3.heap.length = u.heap.length
      ∧ (∀ k ∈ ks, ∀ ob, u.heap[k]? = some ob → u3.heap[k]? = some (p3Obj ob))
      ∧ (∀ i, i ∉ ks → u3.heap[i]? = u.heap[i]?)
      ∧ u3.log = u.log ++ (ks.filter (fun k => wk u.heap k == 1)).map Ev.freed := by
  induction ks with
  | nil => intro u _ _; exact ⟨rfl, rfl, nofun, fun _ _ => rfl, (List.append_nil _).symm⟩
  | cons k ks ih =>
    intro u hnd hr
    obtain ⟨hk, hnd'⟩ := List.nodup_cons.mp hnd
    obtain ⟨ob, hg, hf, hd, hw⟩ := hr k List.mem_cons_self
    have hstep := phase3One_ready u k ob hg hf hd hw
    have hlt : k < u.heap.length := (List.getElem?_eq_some_iff.mp hg).1
    -- the other keys are not touched by the step
    have hne : ∀ {i}, i ∈ ks → k ≠ i := fun hi e => hk (e ▸ hi)
    have hget : ∀ {i}, k ≠ i → (u.phase3One k).heap[i]? = u.heap[i]? := fun hki => by
      rw [hstep]; exact List.getElem?_set_ne hki
    obtain ⟨h1, h2, h3, h4, h5⟩ := ih (u.phase3One k) hnd' fun k' hk' => by
      obtain ⟨ob', hg', rest⟩ := hr k' (List.mem_cons_of_mem _ hk')
      exact ⟨ob', (hget (hne hk')).trans hg', rest⟩
    rw [List.foldl_cons]
    generalize ks.foldl State.phase3One (u.phase3One k) = u3 at h1 h2 h3 h4 h5 ⊢
    refine ⟨?_, ?_, ?_, ?_, ?_⟩
    · rw [h1, hstep]
    · rw [h2, hstep]; exact List.length_set
    · intro k' hk' ob' hg'
      rcases List.mem_cons.mp hk' with rfl | hk''
      · rw [hg] at hg'
        cases hg'
        rw [h4 _ hk, hstep]
        exact List.getElem?_set_self hlt
      · exact h3 k' hk'' ob' ((hget (hne hk'')).trans hg')
    · intro i hi
      rw [List.mem_cons, not_or] at hi
      rw [h4 i hi.2, hget (Ne.symm hi.1)]
    · have hfilt : ks.filter (fun k' => wk (u.phase3One k).heap k' == 1)
          = ks.filter (fun k' => wk u.heap k' == 1) :=
        List.filter_congr fun k' hk' => by rw [wk, wk, hget (hne hk')]
      have hwk : wk u.heap k = ob.weak := by rw [wk, hg]
      rw [h5, hfilt, hstep, List.filter_cons, hwk, List.append_assoc]
      by_cases h1w : ob.weak = 1
      · rw [if_pos h1w, if_pos (by rw [h1w]; rfl)]; rfl
      · rw [if_neg h1w, if_neg (by simpa using h1w)]; rfl

theorem rel1_layoutEq {a b : Obj} (h : Obj.LayoutEq a b) : Obj.LayoutEq (rel1 a) (rel1 b) := by
  unfold rel1
  rw [← h.weak]
  split
  · exact ⟨h.strong, rfl, h.value, rfl, h.implicit, h.links⟩
  · exact ⟨h.strong, rfl, h.value, h.freed, h.implicit, h.links⟩

theorem p3Obj_layoutEq {a b : Obj} (h : Obj.LayoutEq a b) : Obj.LayoutEq (p3Obj a) (p3Obj b) :=
  have h1 := rel1_layoutEq h
  ⟨h1.strong, h1.weak, h1.value, h1.freed, rfl, h1.links⟩

theorem HeapEq.wk_eq {h h' : List Obj} (e : HeapEq h h') (i : Nat) : wk h i = wk h' i := by
  unfold wk
  rcases e.cases i with ⟨h1, h2⟩ | ⟨a, b, h1, h2, hab⟩
  · rw [h1, h2]
  · rw [h1, h2]; exact hab.weak

theorem phase3_fold_leq {u u' : State} (h : u.LayoutEqL u') {ks ks' : List Nat}
    (hp : ks.Perm ks') (hnd : ks.Nodup) (hr : ∀ k ∈ ks, Ready3 u k) (hr' : ∀ k ∈ ks', Ready3 u' k) :
    (ks.foldl State.phase3One u).LayoutEqL (ks'.foldl State.phase3One u') := by
  obtain ⟨a1, a2, a3, a4, a5⟩ := phase3_fold_spec ks u hnd hr
  obtain ⟨b1, b2, b3, b4, b5⟩ := phase3_fold_spec ks' u' (hp.nodup_iff.mp hnd) hr'
  refine h.of_ctl a1 b1
    (h.heap.of_keys (fun _ => hp.mem_iff) p3Obj p3Obj_layoutEq a2 a3 a4 b2 b3 b4) ?_
  rw [a5, b5]
  refine h.log.append (List.Perm.map _ ?_)
  rw [List.filter_congr (fun k _ => by rw [h.heap.wk_eq k] : ∀ k ∈ ks, _ = (wk u'.heap k == 1))]
  exact hp.filter _

theorem relObj_layoutEq {a b : Obj} (h : Obj.LayoutEq a b) (c : Nat) :
    Obj.LayoutEq (relObj a c) (relObj b c) := by
  induction c generalizing a b with
  | zero => exact h
  | succ c ih => exact ih (rel1_layoutEq h)

theorem blockResult_leq {u u' : State} (h : u.LayoutEqL u') {vs vs' : List Val} (hp : vs.Perm vs')
    (hgood : GoodW u.heap (blockWeaks vs)) (hgood' : GoodW u'.heap (blockWeaks vs')) :
    (blockResult u vs).LayoutEqL (blockResult u' vs') := by
  have h1 := blockResult_items u vs hgood
  have h2 := blockResult_items u' vs' hgood'
  have hr := rels_blockItems_perm hp
  refine h.of_ctl h1.ctl h2.ctl
    (HeapEq.of_map h.heap _ _ h1.heap h2.heap fun i a b _ _ hab => ?_)
    (h1.log_perm h2 h.log h.heap.wk_eq hr (evs_blockItems_perm hp))
  rw [hr.count_eq]
  exact relObj_layoutEq hab _

theorem vals_eq_filterMap {vs : List Val} {L : List (Option Val)} (h : vs.map some = L) :
    vs = L.filterMap id := by
  rw [← h, List.filterMap_map]
  exact (List.filterMap_some).symm

theorem p2Obj_layoutEq {a b : Obj} (h : Obj.LayoutEq a b) : Obj.LayoutEq (p2Obj a) (p2Obj b) :=
  ⟨rfl, h.weak, rfl, h.freed, h.implicit, trivial⟩

theorem dropCycle_leq {s2 s2' : State} (h : s2.LayoutEqL s2') {c c' : CMap}
    (hR : CycleReady s2 c) (hR' : CycleReady s2' c')
    (hks : ∀ k, k ∈ c.keys ↔ k ∈ c'.keys) (st : List Frame) :
    ({ s2.dropCycle c with stack := st } : State).LayoutEqL { s2'.dropCycle c' with stack := st }
    ∧ (s2.cyc2 c).2.Perm (s2'.cyc2 c').2
    ∧ c.keys.Perm c'.keys := by
  have hperm : c.keys.Perm c'.keys := (List.perm_ext_iff_of_nodup hR.nodup hR'.nodup).mpr hks
  obtain ⟨-, -, p3, p4, p5, p6⟩ := phase2_spec s2 c hR
  obtain ⟨-, -, q3, q4, q5, q6⟩ := phase2_spec s2' c' hR'
  refine ⟨?_, ?_, hperm⟩
  · rw [dropCycle_eq s2 c hR, dropCycle_eq s2' c' hR']
    exact ⟨h.heap.of_keys hks p2Obj p2Obj_layoutEq p3 p4 p5 q3 q4 q5, h.roots, h.wroots, h.vals,
      h.raws, rfl, h.log, h.err, h.unwinding, h.nextVid⟩
  · rw [vals_eq_filterMap p6, vals_eq_filterMap q6]
    have hval : ∀ k, (s2'.heap[k]?).bind (fun ob : Obj => ob.value)
        = (s2.heap[k]?).bind (fun ob : Obj => ob.value) := fun k => by
      rcases h.heap.cases k with ⟨h1, h2⟩ | ⟨a, b, h1, h2, hab⟩
      · rw [h1, h2]
      · rw [h1, h2]; exact hab.value.symm
    rw [List.map_congr_left (fun k _ => hval k)]
    exact (hperm.map _).filterMap _

end Cactus
