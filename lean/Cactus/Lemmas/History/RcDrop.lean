import Cactus.Lemmas.History.Frames
/-!
# `Rc::drop`, the paths that do not start a collection

Case analysis of the `rcDrop o` frame: dead target (no-op), last handle with an empty table,
last handle with a non-empty table (purge), plain decrement, decrement followed by a trace that
finds an external owner.  All of them run in lock-step and keep `Good`.  The remaining case (the
trace finds an orphaned group) is `Collect.lean`.
-/
namespace Cactus
open State

/-- the trace branch of `Rc::drop` in a state satisfying the invariants: the four error exits are
dead code, what is left is the orphan test -/
theorem traceBranch_eq (s1 : State) (o : Nat) (hI : s1.InvCore) (ho : s1.isLive o = true) :
    s1.traceBranch o =
      if (cycleRefs s1 o).cmap.isEmpty = true ∨ hasExternalOwners s1 (cycleRefs s1 o).cmap = true
      then s1.emit (.traced o (cycleRefs s1 o).visited.length (cycleRefs s1 o).popped)
      else (s1.emit (.traced o (cycleRefs s1 o).visited.length (cycleRefs s1 o).popped)).dropCycle
        (cycleRefs s1 o).cmap :=
  State.traceBranch_eq_of_inv s1 o hI.1 hI.2.1 ho

theorem State.isLive_of_cell_cnt {s : State} {o : Nat} {ob : Obj} {n : Nat}
    (hc : s.cell o = some ob) (hs : ob.strong = .cnt (n + 1)) : s.isLive o = true := by
  rw [isLive_of_cell hc, hs]; rfl

/-- popping the frame and setting a strong count leaves every table as it was -/
theorem State.tableOf_pop_setStrong {s : State} {o : Nat} {ob : Obj} (hg : s.heap[o]? = some ob)
    (rest : List Frame) (c : Strong) (p : Nat) :
    (({ s with stack := rest } : State).setObj o { ob with strong := c }).tableOf p = s.tableOf p :=
  tableOf_setObj_of_links_eq (s := ({ s with stack := rest } : State))
    (ob' := { ob with strong := c }) hg rfl rfl p

/-- the state in which the trace of `Rc::drop` runs: the frame popped, the count decremented -/
def decState (s : State) (o : Nat) (rest : List Frame) (ob : Obj) (n : Nat) : State :=
  ({ s with stack := rest } : State).setObj o { ob with strong := .cnt (n + 1) }

structure DecFacts (s1 : State) (o : Nat) : Prop where
  core : s1.InvCore
  rng : s1.InvR
  safe : s1.InvSCore
  err : s1.err = none
  fq : FQ noE s1
  live : s1.isLive o = true

theorem Good.decFacts {s : State} (hg : Good s) {o : Nat} {rest : List Frame} {ob : Obj} {n : Nat}
    (hst : s.stack = .rcDrop o :: rest) (hc : s.cell o = some ob) (hs : ob.strong = .cnt (n + 2)) :
    DecFacts (decState s o rest ob n) o := by
  have hsafe := hg.safe
  have hgo : s.heap[o]? = some ob := get_of_cell hc
  have hg0 : ({ s with stack := rest } : State).heap[o]? = some ob := hgo
  have hfr := freed_of_cell hc
  have hc0 : ({ s with stack := rest } : State).cell o = some ob := hc
  refine ⟨rcDrop_inv_dec_state hg.err hst (fun _ => hsafe.core) hc hs, ?_, ?_, hg.err, ?_, ?_⟩
  · exact (hsafe.rng.pop hst).setObj_of_cell _ hc0 (Or.inr rfl)
  · exact dec_InvSCore hg0 hs hfr (Cactus.pop_InvSCore hst hsafe.safe)
  · exact (hg.fq.of_heap (s' := { s with stack := rest }) rfl).setObj_keep hg0 rfl
      (fun hd => by rw [hs] at hd; cases hd) rfl rfl
  · unfold decState
    rw [dec_isLive hg0 hs]
    exact isLive_of_cell_cnt hc hs

section leaves
variable {s : State} (hg : Good s) {o : Nat} {rest : List Frame}
  (hst : s.stack = .rcDrop o :: rest)
include hg hst

theorem Good.step_rcDrop_eq : step s = ({ s with stack := rest } : State).rcDrop o :=
  step_eq_frame hg.err hst

theorem Good.rcDrop_cell : ∃ ob, s.cell o = some ob := by
  have hp : 0 < s.pend o := by
    rw [pend_pop_rcDrop hst o, if_pos rfl]; exact Nat.add_pos_left Nat.one_pos _
  obtain ⟨ob, hc, -⟩ := hg.safe.cell_of_pend hp
  exact ⟨ob, hc⟩

theorem Good.of_step_rcDrop {u : State} (e : ({ s with stack := rest } : State).rcDrop o = u)
    (hfq : FQ noE u) (hctl : u.QuietCtl) : step s = u ∧ Good (step s) := by
  have e' : step s = u := (hg.step_rcDrop_eq hst).trans e
  refine ⟨e', .step hg.rc, ?_, ?_, ?_⟩
  · rw [hg.step_rcDrop_eq hst]; exact rcDrop_noerr hg.safe hst
  · rw [e']; exact hfq
  · rw [e']; exact hctl

theorem Good.step_rcDrop_dead {ob : Obj} (hc : s.cell o = some ob)
    (hd : ob.strong.isDead = true) :
    step s = ({ s with stack := rest } : State) ∧ Good (step s) :=
  hg.of_step_rcDrop hst (rcDrop_dead_noop _ o ob hc hd) (hg.fq.of_heap rfl) (hg.ctl_pop hst)

theorem Good.step_rcDrop_dec_empty {ob : Obj} {n : Nat} {t : Table} (hc : s.cell o = some ob)
    (hs : ob.strong = .cnt (n + 2)) (hl : ob.links = some t) (hte : t.isEmpty = true) :
    step s = decState s o rest ob n ∧ Good (step s) :=
  hg.of_step_rcDrop hst (rcDrop_eq_dec_empty _ o ob n t hc hs hl hte) (hg.decFacts hst hc hs).fq
    ((hg.ctl_pop hst).of_eq rfl rfl rfl)

theorem Good.step_rcDrop_trace_keep {ob : Obj} {n : Nat} {t : Table} (hc : s.cell o = some ob)
    (hs : ob.strong = .cnt (n + 2)) (hl : ob.links = some t) (hte : t.isEmpty = false)
    (hno : (cycleRefs (decState s o rest ob n) o).cmap.isEmpty = true
      ∨ hasExternalOwners (decState s o rest ob n) (cycleRefs (decState s o rest ob n) o).cmap = true) :
    step s = (decState s o rest ob n).emit (.traced o (cycleRefs (decState s o rest ob n) o).visited.length
        (cycleRefs (decState s o rest ob n) o).popped)
    ∧ Good (step s) := by
  have hd := hg.decFacts hst hc hs
  refine hg.of_step_rcDrop hst ?_ (hd.fq.emit _) ((hg.ctl_pop hst).of_eq rfl rfl rfl)
  rw [State.rcDrop_eq_traceBranch ({ s with stack := rest } : State) o ob n t hc hs hl hte]
  exact (traceBranch_eq _ o hd.core hd.live).trans (if_pos hno)

omit hst in
/-- the frame holds the last handle: the value is in place, and the frames that tear the object down
are quiet; with the count at zero the object is dead, so `Full` asks nothing of it -/
theorem Good.last_handle {ob : Obj} (hc : s.cell o = some ob) (hs : ob.strong = .cnt 1) :
    ∃ v, ob.value = some v ∧ (∀ g ∈ [Frame.dropVal v, .finishSingle o], g.okQ)
      ∧ FQ noE (({ s with stack := rest } : State).setObj o { ob with strong := .cnt 0 })
      ∧ (({ s with stack := rest } : State).setObj o { ob with strong := .cnt 0 }).cell o
          = some { ob with strong := .cnt 0 } := by
  have hgo : s.heap[o]? = some ob := get_of_cell hc
  have hg0 : ({ s with stack := rest } : State).heap[o]? = some ob := hgo
  obtain ⟨hvS, -, -, -⟩ := (hg.safe.invO o ob hgo).1 0 hs
  obtain ⟨v, hv⟩ := Option.isSome_iff_exists.1 hvS
  refine ⟨v, hv, forall_mem_pair (hg.fq.quiet o ob v hgo hv) trivial,
    (hg.fq.of_heap (s' := { s with stack := rest }) rfl).setObj_dead hg0 (by simp) (Or.inr rfl), ?_⟩
  rw [cell_setObj_same' _ (get_lt hg0)]
  simp [freed_of_cell hc]

theorem Good.step_rcDrop_single_empty {ob : Obj} {t : Table} (hc : s.cell o = some ob)
    (hs : ob.strong = .cnt 1) (hl : ob.links = some t) (hte : t.isEmpty = true) :
    step s = (({ s with stack := rest } : State).setObj o { ob with strong := .cnt 0 }).beginSingle o
    ∧ Good (step s) := by
  obtain ⟨v, hv, hq, hfq1, hc1⟩ := hg.last_handle (rest := rest) hc hs
  refine hg.of_step_rcDrop hst (rcDrop_eq_single_empty _ o ob t hc hs hl hte) (hfq1.beginSingle o) ?_
  rw [beginSingle_of_cnt hc1 rfl (v := v) hv]
  exact (hg.ctl_pop hst).of_push [.dropVal v, .finishSingle o] hq (fun w hw => hw) rfl rfl

theorem Good.step_rcDrop_single_purge {ob : Obj} {t : Table} (hc : s.cell o = some ob)
    (hs : ob.strong = .cnt 1) (hl : ob.links = some t) (hte : t.isEmpty = false) :
    step s = ((({ s with stack := rest } : State).setObj o { ob with strong := .cnt 0 }).purgePeers
      o).beginSingle o
    ∧ Good (step s) := by
  obtain ⟨v, hv, hq, hfq1, hc1⟩ := hg.last_handle (rest := rest) hc hs
  have hgo : s.heap[o]? = some ob := get_of_cell hc
  have hfr := freed_of_cell hc
  have hsafe := hg.safe
  have hlive := isLive_of_cell_cnt hc hs
  have ht : s.tableOf o = some t := by rw [tableOf_of_get hgo]; simp [hfr, hl]
  have hT := tableOf_pop_setStrong hgo rest (.cnt 0)
  have hdead1 : (({ s with stack := rest } : State).setObj o { ob with strong := .cnt 0 }).isLive o
      = false := by
    rw [isLive_of_cell hc1]; rfl
  have hfq2 := hfq1.purgePeers hsafe.invO hsafe.invB hlive hT hg.err (Or.inr hdead1)
    (fun a hao hla => by
      rw [isLive_setObj_other _ _ hao] at hla
      rw [F_setObj_other _ _ hao]
      exact no_record_of_unique hsafe hg.fq hc hs (Nat.add_pos_right _ (by
        rw [pend_pop_rcDrop hst o, if_pos rfl]; exact Nat.add_pos_left Nat.one_pos _)) a hao hla)
  obtain ⟨-, -, -, hLO⟩ := purgePeers_of_InvB hsafe.invO hsafe.invB hlive hT ht hg.err
  obtain ⟨ob2, hg2, q1, -, q3, q4, -⟩ := hLO.obj o _ (get_of_cell hc1)
  refine hg.of_step_rcDrop hst (rcDrop_eq_single_purge _ o ob t hc hs hl hte) (hfq2.beginSingle o) ?_
  rw [beginSingle_of_cnt (cell_of_not_freed hg2 (q4.trans hfr)) q1 (v := v) (q3.trans hv)]
  exact (hg.ctl_pop hst).of_push [.dropVal v, .finishSingle o] hq (fun w hw => by simpa using hw)
    (by simp [State.push]) (by simp)

end leaves

end Cactus
