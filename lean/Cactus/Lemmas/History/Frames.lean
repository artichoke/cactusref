import Cactus.Lemmas.History.ActsSim
import Cactus.Lemmas.History.Run
/-!
# Lock-step machine steps

`Sim s s'`: the two runs are at corresponding stable points, i.e. with no collection in progress
(`LayoutEqL`, both `Good`).
Every frame kind except the `rcDrop` that starts a collection is run in lock-step:
`Sim s s' → Sim (step s) (step s')`.
-/
namespace Cactus
open State

structure Sim (s s' : State) : Prop where
  leq : s.LayoutEqL s'
  good : Good s
  good' : Good s'

theorem Good.ctl_pop {s : State} (hg : Good s) {f : Frame} {rest : List Frame}
    (hst : s.stack = f :: rest) : ({ s with stack := rest } : State).QuietCtl :=
  ⟨hg.ctl.vals, fun g hm => hg.ctl.stack g (by rw [hst]; exact List.mem_cons_of_mem _ hm), hg.ctl.unw⟩

theorem Good.step_simple {s : State} (hg : Good s) {f : Frame} {rest : List Frame}
    (hst : s.stack = f :: rest) (hf : ∀ o, f ≠ .rcDrop o) : Good (step s) := by
  have hs := hg.safe
  have he := hg.err
  have hok : f.okQ := hg.ctl.stack f (by rw [hst]; exact List.mem_cons_self)
  have hfq0 : FQ noE ({ s with stack := rest } : State) := hg.fq.of_heap rfl
  have hc0 := hg.ctl_pop hst
  suffices h : (step s).err = none ∧ FQ noE (step s) ∧ (step s).QuietCtl from
    ⟨.step hg.rc, h.1, h.2.1, h.2.2⟩
  rw [step_eq_frame he hst]
  cases f <;> try dsimp only
  case rcDrop o => exact absurd rfl (hf o)
  case weakDrop o =>
    exact ⟨weakDrop_noerr hs hst, hfq0.decWeakFree o false,
      hc0.of_eq (by simp [State.weakDrop]) (by simp [State.weakDrop]) (by simp [State.weakDrop])⟩
  case dropVal v =>
    have hq : v.quiet := hok
    refine ⟨he, hfq0.dropVal v, ?_⟩
    rw [dropVal_quiet _ hq]
    exact hc0.of_push [.script v.held v.weaks [], .dropFields v.held v.weaks]
      (forall_mem_pair rfl trivial) (fun w hw => hw) rfl rfl
  case script hh ww acts =>
    have ha : acts = [] := hok
    subst ha
    exact ⟨he, hfq0, hc0⟩
  case panic => exact absurd hok id
  case dropFields hh ww =>
    refine ⟨?_, hfq0.dropFields hh ww, ?_⟩
    · obtain ⟨fs, hfs⟩ := dropFields_eq_push ({ s with stack := rest } : State) hh ww
      rw [hfs]; exact he
    · cases hh with
      | cons x xs =>
        exact hc0.of_push [.rcDrop x, .dropFields xs ww] (forall_mem_pair trivial trivial)
          (fun w hw => hw) rfl rfl
      | nil =>
        cases ww with
        | cons x xs =>
          exact hc0.of_push [.weakDrop x, .dropFields [] xs] (forall_mem_pair trivial trivial)
            (fun w hw => hw) rfl rfl
        | nil => exact hc0
  case finishSingle o =>
    refine ⟨finishSingle_noerr hs hst, hfq0.finishSingle o ?_, ?_⟩
    · obtain ⟨ob, hgo, hu, -, -⟩ := hs.invK.1 o (by rw [hst]; exact List.mem_cons_self)
      show s.isLive o = false
      rw [isLive_of_get hgo, hu]; simp
    · exact hc0.of_eq (by unfold State.finishSingle; repeat' split <;> simp)
        (finishSingle_stack _ _) (by unfold State.finishSingle; repeat' split <;> simp)
  case phase3 ks => exact absurd hok id

theorem step_leq_simple {s s' : State} (h : s.LayoutEqL s') (he : s.err = none)
    {f : Frame} {rest : List Frame} (hst : s.stack = f :: rest) (hok : f.okQ)
    (hf : ∀ o, f ≠ .rcDrop o) : (step s).LayoutEqL (step s') := by
  have h0 := h.setStack rest
  rw [step_eq_frame he hst, step_eq_frame (h.err ▸ he) (h.stack ▸ hst)]
  cases f with
  | rcDrop o => exact absurd rfl (hf o)
  | weakDrop o => exact h0.weakDrop o
  | dropVal v => exact h0.dropVal v
  | script hh ww acts =>
    have ha : acts = [] := hok
    subst ha
    exact h0
  | panic => exact absurd hok id
  | dropFields hh ww => exact h0.dropFields hh ww
  | finishSingle o => exact h0.finishSingle o
  | phase3 ks => exact absurd hok id

theorem Sim.step_simple {s s' : State} (h : Sim s s') {f : Frame} {rest : List Frame}
    (hst : s.stack = f :: rest) (hf : ∀ o, f ≠ .rcDrop o) : Sim (step s) (step s') :=
  ⟨step_leq_simple h.leq h.good.err hst (h.good.ctl.stack f (by rw [hst]; exact List.mem_cons_self)) hf,
    h.good.step_simple hst hf,
    h.good'.step_simple (by rw [← h.leq.stack]; exact hst) hf⟩

end Cactus
