import Cactus.Lemmas.History.Main
/-!
# Hint independence of whole histories (the special case without `shuffle`)

`history_hint_independent`: replacing the hints of a history by any others changes nothing but the
order of the log events inside collected groups.  This is the instance of
`history_layout_independent` in which `SameProgram` is built from `op` constructors only.
-/
namespace Cactus
open State

theorem sameProgram_of_hints (ops : List (Op × List Nat)) (hints : List (List Nat))
    (hns : ∀ oh ∈ ops, ∀ q i, oh.1 ≠ .shuffle q i) :
    SameProgram ops (ops.zipWith (fun oh h => (oh.1, h)) hints
      ++ (ops.drop hints.length)) := by
  induction ops generalizing hints with
  | nil => cases hints <;> exact .nil
  | cons oh ops ih =>
    obtain ⟨o, h⟩ := oh
    cases hints with
    | nil =>
      simp only [List.zipWith_nil_right, List.length_nil, List.drop_zero, List.nil_append]
      have := ih [] (fun x hx => hns x (List.mem_cons_of_mem _ hx))
      simp only [List.zipWith_nil_right, List.length_nil, List.drop_zero, List.nil_append] at this
      exact .op o h h (hns (o, h) List.mem_cons_self) this
    | cons h2 hints =>
      simp only [List.zipWith_cons_cons, List.length_cons, List.drop_succ_cons, List.cons_append]
      exact .op o h h2 (hns (o, h) List.mem_cons_self)
        (ih hints (fun x hx => hns x (List.mem_cons_of_mem _ hx)))

/-- **hint independence of whole histories**: replacing the hints of a history (of `fullQuiet`
operations without `shuffle`) by any others changes nothing but the order of the log events
inside collected groups -/
theorem history_hint_independent (ops : List (Op × List Nat)) (hints : List (List Nat))
    (hns : ∀ oh ∈ ops, ∀ q i, oh.1 ≠ .shuffle q i)
    (hfq : ∀ oh ∈ ops, oh.1.fullQuiet)
    (he1 : (run ops).err = none) :
    let ops2 := ops.zipWith (fun oh h => (oh.1, h)) hints ++ ops.drop hints.length
    (run ops2).err = none ∧ (run ops).LayoutEqL (run ops2) :=
  history_layout_independent ops _ (sameProgram_of_hints ops hints hns) hfq he1

end Cactus
