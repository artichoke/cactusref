import Cactus.Lemmas.History.Full
/-!
# Fully recorded, quiet programs

* `Act.fullQuiet`, `Op.fullQuiet`: the syntactic class of operations for which
  `history_layout_independent` is proved.
* `Good s`: the invariant carried along a history of such operations at every *stable point*
  (no collection in progress): reachable by a contract-respecting history, no error, `Full`,
  every value quiet, no script/panic/`phase3` frame on the stack, not unwinding.
* `FQ` (`Full` + quiet heap) is kept by the purge loop, by giving up an unrecorded allocation, and
  by `link` and `unlink`.
-/
namespace Cactus
open State

/-- the acts of a *fully recorded, quiet* program: stored strong handles are created and removed
only through the composites `link` (= adopt; store) and `unlink` (= take; unadopt), so that `Full`
holds at every operation boundary; no destructor scripts, no panicking destructors.  Excluded:
`adopt unadopt store take` (break `Full`), `makeMut` (its clone branch copies stored handles
without recording them), `setPanic setShallow` and the three destructor-only acts. -/
def Act.fullQuiet : Act → Prop
  | .new => True
  | .clone _ => True
  | .drop _ => True
  | .link _ _ => True
  | .unlink _ _ => True
  | .downgrade _ => True
  | .upgrade _ => True
  | .cloneWeak _ => True
  | .dropWeak _ => True
  | .storeWeak _ _ => True
  | .tryUnwrap _ => True
  | .dropValue _ => True
  | .getMut _ => True
  | .intoRaw _ => True
  | .fromRaw _ => True
  | .incStrong _ => True
  | .decStrong _ => True
  | .ptrEq _ _ => True
  | .counts _ => True
  | .wcounts _ => True
  | _ => False

instance : DecidablePred Act.fullQuiet := fun a => by
  unfold Act.fullQuiet
  split <;> infer_instance

/-- `.act a` with `a.fullQuiet`; `shuffle` allowed; `setScript` not allowed -/
def Op.fullQuiet : Op → Prop
  | .act a => a.fullQuiet
  | .setScript _ _ => False
  | .shuffle _ _ => True

instance : DecidablePred Op.fullQuiet := fun o => by
  unfold Op.fullQuiet
  split <;> infer_instance

theorem Act.fullQuiet.respects {a : Act} (h : a.fullQuiet) : a.respects := by
  cases a <;> simp only [Act.fullQuiet] at h <;> trivial

theorem Op.fullQuiet.respects {o : Op} (h : o.fullQuiet) : o.respects := by
  cases o with
  | act a => exact Act.fullQuiet.respects h
  | setScript q acts => exact absurd h id
  | shuffle q i => trivial

/-- frames that may be on the stack at a stable point of a quiet program -/
def Frame.okQ : Frame → Prop
  | .dropVal v => v.quiet
  | .script _ _ acts => acts = []
  | .panic => False
  | .phase3 _ => False
  | _ => True

structure State.QuietCtl (s : State) : Prop where
  vals : ∀ v ∈ s.vals, v.quiet
  stack : ∀ f ∈ s.stack, f.okQ
  unw : s.unwinding = false

structure Good (s : State) : Prop where
  rc : ReachableC s
  err : s.err = none
  fq : FQ noE s
  ctl : s.QuietCtl

namespace Good
variable {s : State}

theorem safe (h : Good s) : s.Safe :=
  ⟨h.err, (reachable_core h.rc.reachable h.err).1, (reachable_core h.rc.reachable h.err).2,
    reachableP_invS (h.rc.reachableP h.err) h.err⟩

theorem full (h : Good s) : s.Full := h.fq.toFull

theorem P (h : Good s) : s.P := full_contract h.full

theorem init : Good {} := by
  refine ⟨.init, rfl, ⟨fun a _ ha => ?_, fun o ob v hg => ?_⟩, ⟨fun v hv => ?_, fun f hf => ?_, rfl⟩⟩
  · simp [State.isLive] at ha
  · simp at hg
  · simp at hv
  · simp at hf

end Good

namespace FQ
variable {E : Nat → Prop}

/-- `purgePeers x` in a state whose readable tables are those of a state with `InvO`, `InvB` in
which `x` is live; `x` itself is exempt or already dead, and no live object records `x` -/
theorem purgePeers {s s1 : State} {x : Nat} (h : FQ E s1) (hO : s.InvO) (hB : s.InvB)
    (hx : s.isLive x = true) (hT : ∀ p, s1.tableOf p = s.tableOf p) (herr : s1.err = none)
    (hEx : E x ∨ s1.isLive x = false)
    (hFx : ∀ a, a ≠ x → s1.isLive a = true → s1.F a x = 0) : FQ E (s1.purgePeers x) := by
  obtain ⟨t, ht⟩ := live_tableOf hO hx
  obtain ⟨-, c2, c3, hLO⟩ := purgePeers_of_InvB hO hB hx hT ht herr
  refine ⟨fun a ha hl b => ?_, fun o ob' v hg hv => ?_⟩
  · rw [isLive_purgePeers] at hl
    rw [H_purgePeers]
    by_cases hax : a = x
    · subst hax
      rcases hEx with he | hd
      · exact absurd he ha
      · rw [hd] at hl; cases hl
    · have hfull := h.full a ha hl
      obtain ⟨hn, hs⟩ := c3 a hax
      cases hta : s.tableOf a with
      | none =>
        rw [F_of_tableOf_none (hn.mpr hta), ← hfull b, F_of_tableOf_none ((hT a).trans hta)]
      | some tp =>
        obtain ⟨tp', e1, -, z1, -, e2, -⟩ := hs tp hta
        rw [F_of_tableOf e1]
        by_cases hb : b = x
        · subst hb
          rw [z1, ← hfull b, hFx a hax hl]
        · rw [e2 ⟨b, .fwd⟩ (by simp [hb]) (by simp), ← hfull b, F_of_tableOf ((hT a).trans hta)]
  · have hlt : o < s1.heap.length := by
      rw [← hLO.heap_length]; exact get_lt hg
    obtain ⟨ob, hgo⟩ : ∃ ob, s1.heap[o]? = some ob := ⟨_, List.getElem?_eq_getElem hlt⟩
    obtain ⟨ob2, hg2, q⟩ := hLO.obj o ob hgo
    rw [hg] at hg2; cases hg2
    exact h.quiet o ob v hgo (by rw [← q.2.2.1]; exact hv)

theorem giveUp {s : State} {o : Nat} (h : FQ noE s) (hO : s.InvO) (hB : s.InvB)
    (ho : s.isLive o = true) (herr : s.err = none)
    (hFx : ∀ a, a ≠ o → s.isLive a = true → s.F a o = 0) : FQ noE (s.giveUp o) := by
  have h1 : FQ (fun a => a = o) (s.purgePeers o) :=
    (h.mono (fun _ e => absurd e id)).purgePeers hO hB ho (fun _ => rfl) herr (Or.inl rfl) hFx
  unfold State.giveUp
  split
  · rename_i ob hc
    have hg := get_of_cell hc
    have h2 := h1.setObj_dead (ob' := { ob with strong := .cnt 0, value := none, links := none })
      hg (by simp) (Or.inl rfl)
    refine (h2.close ?_).decWeakFree o true
    intro a ha
    subst ha
    rw [isLive_setObj_same _ (get_lt hg)]
    simp
  · exact (h1.close (fun a ha => by
      subst ha
      rename_i hc
      exact isLive_of_cell_none hc)).fail _

theorem link {s : State} (h : FQ noE s) (hO : s.InvO) {o t : Nat} (ho : s.isLive o = true)
    (ht : s.isLive t = true) (rs : List Nat) :
    FQ noE (({ s.adopt o t false with roots := rs } : State).modVal o
      (fun v => { v with held := v.held ++ [t] })) := by
  obtain ⟨v, hv⟩ := valOf_of_live hO ho
  have hv1 : ({ s.adopt o t false with roots := rs } : State).valOf o = some v := by
    show (s.adopt o t false).valOf o = some v
    rw [adopt_diff, valOf_setLinks, valOf_setLinks]; exact hv
  obtain ⟨to, hto⟩ := live_tableOf hO ho
  obtain ⟨tt, htt⟩ := live_tableOf hO ht
  refine ⟨fun a _ ha b => ?_, ?_⟩
  · have ha' : s.isLive a = true := by
      rw [isLive_modVal] at ha
      have : (s.adopt o t false).isLive a = true := ha
      rwa [isLive_adopt] at this
    have hab := h.full a (fun e => e) ha' b
    rw [F_modVal]
    show (s.adopt o t false).F a b = _
    rw [F_adopt_diff (by rw [hto]; rfl) (by rw [htt]; rfl)]
    by_cases hao : a = o
    · subst hao
      rw [H_def, heldOf_modVal_same _ hv1]
      rw [H_def, heldOf_of_valOf hv] at hab
      simp only [count_append, count_singleton_ite]
      by_cases hbt : b = t
      · subst hbt; simp; omega
      · have : ¬ t = b := fun e => hbt e.symm
        simp [hbt, this]; omega
    · rw [H_modVal_other _ _ hao]
      show _ = (s.adopt o t false).H a b
      rw [H_adopt]
      simp [hao]; exact hab
  · have h1 : HeapQ (s.adopt o t false) := by
      rw [adopt_diff]
      exact (h.quiet.setLinks _ _).setLinks _ _
    have h2 : HeapQ ({ s.adopt o t false with roots := rs } : State) := h1.of_heap rfl
    exact h2.modVal o (fun v hq => hq)

theorem unlink {s : State} (h : FQ noE s) (hO : s.InvO) (hB : s.InvB) {o t : Nat} {v : Val}
    (hv : s.valOf o = some v) {i : Nat} (hk : v.held[i]? = some t) (f : Val → Val)
    (hf : (f v).held = v.held.eraseIdx i) (hfq : ∀ v, v.quiet → (f v).quiet)
    (ho : s.isLive o = true) (ht : s.isLive t = true) :
    FQ noE ((s.modVal o f).unadopt o t false) := by
  have hH : ∀ a b, (s.modVal o f).H a b
      = if a = o then (v.held.eraseIdx i).count b else s.H a b := by
    intro a b
    by_cases hao : a = o
    · subst hao; rw [if_pos rfl, H_def, heldOf_modVal_same _ hv, hf]
    · rw [if_neg hao, H_modVal_other _ _ hao]
  have hHo : ∀ b, s.H o b = v.held.count b := fun b => by rw [H_def, heldOf_of_valOf hv]
  obtain ⟨to, hto⟩ := live_tableOf hO ho
  obtain ⟨tt, htt⟩ := live_tableOf hO ht
  refine ⟨fun a _ ha b => ?_, ?_⟩
  · have ha' : s.isLive a = true := by simpa using ha
    have hab := h.full a (fun e => e) ha' b
    rw [F_unadopt_diff (ta := to) (tb := tt) (by simpa using hto) (by simpa using htt)
      (hB.1 o to hto).1 (hB.1 t tt htt).1, H_unadopt, hH]
    simp only [F_modVal]
    by_cases hao : a = o
    · subst hao
      rw [hHo] at hab
      by_cases hbt : b = t
      · subst hbt
        have := count_eraseIdx_of_eq v.held i b hk
        simp; omega
      · have : v.held[i]? ≠ some b := by rw [hk]; intro e; cases e; exact hbt rfl
        rw [count_eraseIdx_of_ne v.held i b this]
        simp [hbt]; exact hab
    · simp [hao]; exact hab
  · rw [unadopt_diff]
    exact ((h.quiet.modVal o hfq).setLinks _ _).setLinks _ _

end FQ

end Cactus
