import Cactus.Lemmas.History.Rel
/-!
# `Full` and quietness are kept by the primitive state transformers

`FQ E s`: every live object outside the exempt set `E` records exactly the handles its value
stores (`Full` restricted to the complement of `E`) and every value in the heap is quiet (no
destructor script, not panicking).  The exempt set is needed inside `try_unwrap` (the purge clears
the table of the object that is given up before its value is moved out).
-/
namespace Cactus
open State

def HeapQ (s : State) : Prop :=
  ∀ (o : Nat) (ob : Obj) (v : Val), s.heap[o]? = some ob → ob.value = some v → v.quiet

namespace HeapQ
variable {s : State}

theorem of_heap {s' : State} (h : HeapQ s) (hh : s'.heap = s.heap) : HeapQ s' :=
  fun o ob v hg hv => h o ob v (hh ▸ hg) hv

theorem fail (h : HeapQ s) (e : Err) : HeapQ (s.fail e) := h.of_heap (fail_heap s e)

theorem setObj (h : HeapQ s) {o : Nat} {ob ob' : Obj} (hg : s.heap[o]? = some ob)
    (hq : ∀ v, ob'.value = some v → v.quiet ∨ ob.value = some v) : HeapQ (s.setObj o ob') := by
  intro x obx v hx hv
  by_cases hxo : x = o
  · subst hxo
    rw [getElem?_setObj_same _ (get_lt hg)] at hx
    cases hx
    rcases hq v hv with hqv | hov
    · exact hqv
    · exact h x ob v hg hov
  · rw [getElem?_setObj_other s _ hxo] at hx
    exact h x obx v hx hv

theorem setLinks (h : HeapQ s) (o : Nat) (f : Table → Table) : HeapQ (s.setLinks o f) := by
  rcases setLinks_cases s o f with ⟨e, he⟩ | ⟨ob, t, hc, hl, he⟩ <;> rw [he]
  · exact h.fail e
  · exact h.setObj (get_of_cell hc) (fun v hv => Or.inr hv)

theorem modVal (h : HeapQ s) (o : Nat) {f : Val → Val} (hq : ∀ v, v.quiet → (f v).quiet) :
    HeapQ (s.modVal o f) := by
  rcases modVal_cases s o f with ⟨e, he⟩ | ⟨ob, v, hc, hv, he⟩ <;> rw [he]
  · exact h.fail e
  · refine h.setObj (get_of_cell hc) (fun v' hv' => Or.inl ?_)
    simp only [Option.some.injEq] at hv'
    subst hv'
    exact hq v (h o ob v (get_of_cell hc) hv)

end HeapQ

structure FQ (E : Nat → Prop) (s : State) : Prop where
  full : ∀ a, ¬ E a → s.isLive a = true → ∀ b, s.F a b = s.H a b
  quiet : HeapQ s

abbrev noE : Nat → Prop := fun _ => False

namespace FQ
variable {E : Nat → Prop} {s : State}

theorem toFull (h : FQ noE s) : s.Full := fun a b ha => h.full a (fun e => e) ha b

theorem of_full (hF : s.Full) (hq : HeapQ s) : FQ E s := ⟨fun a _ ha b => hF a b ha, hq⟩

theorem mono {E' : Nat → Prop} (h : FQ E s) (hE : ∀ a, E a → E' a) : FQ E' s :=
  ⟨fun a ha => h.full a (fun e => ha (hE a e)), h.quiet⟩

theorem close (h : FQ E s) (hd : ∀ a, E a → s.isLive a = false) : FQ noE s := by
  refine ⟨fun a _ ha b => ?_, h.quiet⟩
  by_cases he : E a
  · rw [hd a he] at ha; cases ha
  · exact h.full a he ha b

theorem of_heap {s' : State} (h : FQ E s) (hh : s'.heap = s.heap) : FQ E s' := by
  refine ⟨fun a ha hl b => ?_, h.quiet.of_heap hh⟩
  rw [isLive_congr hh] at hl
  rw [F_congr hh, H_congr hh]
  exact h.full a ha hl b

theorem fail (h : FQ E s) (e : Err) : FQ E (s.fail e) := h.of_heap (fail_heap s e)
theorem emit (h : FQ E s) (e : Ev) : FQ E (s.emit e) := h.of_heap rfl
theorem push (h : FQ E s) (fs : List Frame) : FQ E (s.push fs) := h.of_heap rfl

theorem badRoot (h : FQ E s) (r : Nat) : FQ E (s.badRoot r) := by
  rcases badRoot_cases s r with e | ⟨e, he⟩
  · rw [e]; exact h
  · rw [he]; exact h.fail e

theorem setObj (h : FQ E s) {o : Nat} {ob ob' : Obj} (hg : s.heap[o]? = some ob)
    (hfull : ¬ E o → (!ob'.freed && !ob'.strong.isDead) = true →
      ((!ob.freed && !ob.strong.isDead) = true →
        ∀ b, (ob.links.getD []).get ⟨b, .fwd⟩ = ob.heldList.count b) →
      ∀ b, (ob'.links.getD []).get ⟨b, .fwd⟩ = ob'.heldList.count b)
    (hq : ∀ v, ob'.value = some v → v.quiet ∨ ob.value = some v) :
    FQ E (s.setObj o ob') := by
  have hlt := get_lt hg
  refine ⟨fun a ha hl b => ?_, h.quiet.setObj hg hq⟩
  · by_cases hao : a = o
    · subst hao
      rw [isLive_setObj_same ob' hlt] at hl
      have hf' : ob'.freed = false := by
        cases hf : ob'.freed <;> simp [hf] at hl ⊢
      rw [F_setObj_same ob' hlt, H_setObj_same ob' hlt, hf']
      apply hfull ha hl
      intro hlo b
      have hf : ob.freed = false := by
        cases hf : ob.freed <;> simp [hf] at hlo ⊢
      have := h.full a ha (by rw [isLive_of_get hg]; exact hlo) b
      rw [F_def, tbl_of_get hg, hf, H_of_get hg] at this
      exact this
    · rw [isLive_setObj_other s ob' hao] at hl
      rw [F_setObj_other s ob' hao, H_setObj_other s ob' hao]
      exact h.full a ha hl b

theorem setObj_dead (h : FQ E s) {o : Nat} {ob ob' : Obj} (hg : s.heap[o]? = some ob)
    (hd : (!ob'.freed && !ob'.strong.isDead) = false)
    (hv : ob'.value = none ∨ ob'.value = ob.value) : FQ E (s.setObj o ob') := by
  refine h.setObj hg (fun _ hl => by rw [hd] at hl; cases hl) (fun v hvv => Or.inr ?_)
  rcases hv with hv | hv
  · rw [hv] at hvv; cases hvv
  · rw [← hv]; exact hvv

theorem setObj_keep (h : FQ E s) {o : Nat} {ob ob' : Obj} (hg : s.heap[o]? = some ob)
    (hf : ob'.freed = ob.freed) (hs : ob.strong.isDead = true → ob'.strong.isDead = true)
    (hl : ob'.links = ob.links) (hv : ob'.value = ob.value) : FQ E (s.setObj o ob') := by
  refine h.setObj hg (fun _ hlive hold b => ?_) (fun v hvv => Or.inr (by rw [← hv]; exact hvv))
  rw [hl, Obj.heldList_congr hv]
  apply hold
  rw [hf] at hlive
  cases hd : ob.strong.isDead with
  | false => simp only [Bool.and_eq_true, Bool.not_eq_true'] at hlive ⊢; exact ⟨hlive.1, trivial⟩
  | true => simp [hs hd] at hlive

theorem incStrong (h : FQ E s) (o : Nat) : FQ E (s.incStrong o) := by
  rcases incStrong_cases s o with ⟨e, he⟩ | ⟨ob, n, hc, hs, he⟩ <;> rw [he]
  · exact h.fail e
  · exact h.setObj_keep (ob' := { ob with strong := .cnt (n + 2) }) (get_of_cell hc) rfl
      (fun hd => by rw [hs] at hd; cases hd) rfl rfl

theorem incWeak (h : FQ E s) (o : Nat) : FQ E (s.incWeak o) := by
  rcases incWeak_cases s o with ⟨e, he⟩ | ⟨ob, hc, hw, he⟩ <;> rw [he]
  · exact h.fail e
  · exact h.setObj_keep (ob' := { ob with weak := ob.weak + 1 }) (get_of_cell hc) rfl
      (fun hd => hd) rfl rfl

theorem decWeakFree (h : FQ E s) (o : Nat) (imp : Bool) : FQ E (s.decWeakFree o imp) := by
  rcases decWeakFree_cases s o imp with ⟨e, he⟩ | ⟨ob, hc, hw, he⟩ | ⟨ob, w, hc, hw, he⟩ <;> rw [he]
  · exact h.fail e
  · exact (h.setObj_dead
      (ob' := { ob with weak := 0, freed := true, implicit := ob.implicit && !imp })
      (get_of_cell hc) (by simp) (Or.inr rfl)).emit _
  · exact h.setObj_keep (ob' := { ob with weak := w + 1, implicit := ob.implicit && !imp })
      (get_of_cell hc) rfl (fun hd => hd) rfl rfl

theorem setLinks (h : FQ E s) {o : Nat} {f : Table → Table}
    (hf : ∀ t, s.tableOf o = some t → ∀ b, (f t).get ⟨b, .fwd⟩ = t.get ⟨b, .fwd⟩) :
    FQ E (s.setLinks o f) := by
  rcases setLinks_cases s o f with ⟨e, he⟩ | ⟨ob, t, hc, hl, he⟩ <;> rw [he]
  · exact h.fail e
  · refine h.setObj (get_of_cell hc) (fun _ hlive hold b => ?_) (fun v hv => Or.inr hv)
    have ht : s.tableOf o = some t := by rw [tableOf_of_cell hc, hl]
    have := hold hlive b
    rw [hl] at this
    simp only [Option.getD_some] at this ⊢
    rw [hf t ht b]
    exact this

theorem modVal (h : FQ E s) {o : Nat} {f : Val → Val}
    (hf : ∀ v b, (f v).held.count b = v.held.count b) (hq : ∀ v, v.quiet → (f v).quiet) :
    FQ E (s.modVal o f) := by
  rcases modVal_cases s o f with ⟨e, he⟩ | ⟨ob, v, hc, hv, he⟩ <;> rw [he]
  · exact h.fail e
  · refine h.setObj (get_of_cell hc) (fun _ hlive hold b => ?_) (fun v' hv' => Or.inl ?_)
    · have := hold hlive b
      rw [Obj.heldList_of_some hv] at this
      simp only [Obj.heldList_mk_some]
      rw [hf v b]
      exact this
    · simp only [Option.some.injEq] at hv'
      subst hv'
      exact hq v (h.quiet o ob v (get_of_cell hc) hv)

theorem alloc (h : FQ E s) (v : Val) (hv : v.held = []) (hq : v.quiet) : FQ E (s.alloc v) := by
  refine ⟨fun a ha hl b => ?_, fun x obx w hx hw => ?_⟩
  · rcases (isLive_alloc_iff s v a).mp hl with hl' | rfl
    · rw [F_alloc, H_alloc, if_neg (Nat.ne_of_gt (isLive_lt hl'))]
      exact h.full a ha hl' b
    · rw [F_alloc_new, H_alloc_new, hv]; rfl
  · by_cases hxl : x = s.heap.length
    · subst hxl
      rw [getElem?_alloc_new] at hx
      cases hx
      simp only [Obj.fresh] at hw
      cases hw
      exact hq
    · rw [getElem?_alloc_old s v hxl] at hx
      exact h.quiet x obx w hx hw

theorem beginSingle (h : FQ E s) (o : Nat) : FQ E (s.beginSingle o) := by
  unfold State.beginSingle
  split
  · rename_i ob hc
    split
    · exact h.decWeakFree o true
    · split
      · rename_i v hv
        exact (h.setObj_dead (ob' := { ob with strong := .uninit, value := none })
          (get_of_cell hc) (by simp) (Or.inl rfl)).push _
      · exact h.fail _
  · exact h.fail _

theorem finishSingle (h : FQ E s) (o : Nat) (hd : s.isLive o = false) : FQ E (s.finishSingle o) := by
  unfold State.finishSingle
  split
  · rename_i ob hc
    split
    · have hg := get_of_cell hc
      rw [isLive_of_get hg] at hd
      exact (h.setObj_dead (ob' := { ob with links := none }) hg hd (Or.inr rfl)).decWeakFree o true
    · exact h.fail _
  · exact h.fail _

theorem phase3One (h : FQ E s) (k : Nat) : FQ E (s.phase3One k) := by
  unfold State.phase3One
  split
  · split
    · exact h.decWeakFree k true
    · exact h
  · exact h.fail _

theorem dropFields (h : FQ E s) (hs ws : List Nat) : FQ E (s.dropFields hs ws) := by
  obtain ⟨fs, hfs⟩ := dropFields_eq_push s hs ws
  rw [hfs]; exact h.push fs

theorem dropVal (h : FQ E s) (v : Val) : FQ E (s.dropVal v) := h.of_heap rfl

end FQ

end Cactus
