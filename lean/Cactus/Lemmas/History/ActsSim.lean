import Cactus.Lemmas.History.Acts
/-!
# The actions run in lock-step on layout-equal states

`applyAct_sim`: for every `fullQuiet` action, `LayoutEqL s s' → LayoutEqL (applyAct s a)
(applyAct s' a)`.  The purge loop (`try_unwrap`, and later `Rc::drop`) folds over a table in table
order; its effect on every peer table is characterised by its counts (`purgePeers_of_InvB`), so
the two results agree up to the order of entries (`Table.perm_of_get_eq`).
-/
namespace Cactus
open State

theorem Obj.LayoutEq.exists_eq {a b : Obj} (h : Obj.LayoutEq a b) :
    ∃ l', LinksEq a.links l' ∧ b = { a with links := l' } := by
  refine ⟨b.links, h.links, ?_⟩
  cases a; cases b
  have h1 := h.strong; have h2 := h.weak; have h3 := h.value; have h4 := h.freed
  have h5 := h.implicit
  simp only at h1 h2 h3 h4 h5
  subst h1 h2 h3 h4 h5
  rfl

def State.TablesWF (s : State) : Prop := ∀ o t, s.tableOf o = some t → t.WF

theorem State.TablesWF.of_InvB {s : State} (h : s.InvB) : s.TablesWF := fun o t ht => (h.1 o t ht).1

theorem State.TablesWF.setLinks {s : State} (h : s.TablesWF) (o : Nat) (f : Table → Table)
    (hf : ∀ t, t.WF → (f t).WF) : (s.setLinks o f).TablesWF := by
  intro x t ht
  rw [tableOf_setLinks] at ht
  split at ht
  · obtain ⟨t0, hto, rfl⟩ := Option.map_eq_some_iff.1 ht
    exact hf t0 (h o t0 hto)
  · exact h x t ht

theorem State.TablesWF.of_tableOf_eq {s s' : State} (h : s.TablesWF)
    (ht : ∀ o, s'.tableOf o = s.tableOf o) : s'.TablesWF := fun o t hto => h o t (ht o ▸ hto)

theorem State.LinksOnly.obj_of_get {s1 s2 : State} (hLO : s1.LinksOnly s2) {i : Nat} {a2 : Obj}
    (ha2 : s2.heap[i]? = some a2) :
    ∃ a, s1.heap[i]? = some a ∧ a.EqButLinks a2 ∧ (a.freed = false → s2.tableOf i = a2.links) := by
  have hlt : i < s1.heap.length := by rw [← hLO.heap_length]; exact get_lt ha2
  obtain ⟨a2', hg2, q⟩ := hLO.obj i _ (List.getElem?_eq_getElem hlt)
  rw [ha2] at hg2; cases hg2
  refine ⟨_, List.getElem?_eq_getElem hlt, q, fun hf => ?_⟩
  rw [tableOf_of_get ha2, q.2.2.2.1.trans hf]; rfl

namespace State.LayoutEqL

section
variable {s s' : State} (h : s.LayoutEqL s')
include h

theorem mapRoots (f : List Nat → List Nat) :
    ({ s with roots := f s.roots } : State).LayoutEqL { s' with roots := f s'.roots } :=
  h.withRoots (congrArg f h.roots)

theorem mapWroots (f : List Nat → List Nat) :
    ({ s with wroots := f s.wroots } : State).LayoutEqL { s' with wroots := f s'.wroots } :=
  h.withWroots (congrArg f h.wroots)

theorem mapRaws (f : List Nat → List Nat) :
    ({ s with raws := f s.raws } : State).LayoutEqL { s' with raws := f s'.raws } :=
  h.withRaws (congrArg f h.raws)

theorem onRoot (r : Nat) {f g : Nat → State}
    (hf : ∀ o, s.useRoot r = some o → (f o).LayoutEqL (g o)) :
    (match s.useRoot r with | some o => f o | none => s.badRoot r).LayoutEqL
      (match s'.useRoot r with | some o => g o | none => s'.badRoot r) := by
  rw [← h.useRoot_eq r]
  cases hu : s.useRoot r with
  | none => exact h.badRoot r
  | some o => exact hf o hu

theorem onRoot2 (r q : Nat) {f g : Nat → Nat → State}
    (hf : ∀ a b, (f a b).LayoutEqL (g a b)) :
    (match s.useRoot r, s.useRoot q with
      | some a, some b => f a b
      | _, _ => (s.badRoot r).badRoot q).LayoutEqL
      (match s'.useRoot r, s'.useRoot q with
      | some a, some b => g a b
      | _, _ => (s'.badRoot r).badRoot q) := by
  rw [← h.useRoot_eq r, ← h.useRoot_eq q]
  cases s.useRoot r with
  | none => exact (h.badRoot r).badRoot q
  | some a =>
    cases s.useRoot q with
    | none => exact (h.badRoot r).badRoot q
    | some b => exact hf a b

theorem setLinks_of (hW : s.TablesWF) (o : Nat) (f : Table → Table)
    (hf : ∀ t t', t.WF → t.Perm t' → (f t).Perm (f t')) :
    (s.setLinks o f).LayoutEqL (s'.setLinks o f) := by
  apply h.setLinks o f f
  intro t t' ht ht'
  rcases h.tableOf_cases o with ⟨h1, -⟩ | ⟨t0, t0', h1, h2, hp⟩
  · rw [h1] at ht; cases ht
  · rw [h1] at ht; rw [h2] at ht'
    cases ht; cases ht'
    exact hf t t' (hW o t h1) hp

theorem adopt (hW : s.TablesWF) (a b : Nat) (same : Bool) :
    (s.adopt a b same).LayoutEqL (s'.adopt a b same) := by
  unfold State.adopt
  split
  · exact h.setLinks_of hW a _ (Table.insert_perm _)
  · exact (h.setLinks_of hW a _ (Table.insert_perm _)).setLinks_of
      (hW.setLinks a _ (fun t hw => Table.WF_insert t hw _)) b _ (Table.insert_perm _)

theorem unadopt (hW : s.TablesWF) (a b : Nat) (same : Bool) :
    (s.unadopt a b same).LayoutEqL (s'.unadopt a b same) := by
  unfold State.unadopt
  split
  · exact h.setLinks_of hW a _ (Table.remove_perm _ _)
  · exact (h.setLinks_of hW a _ (Table.remove_perm _ _)).setLinks_of
      (hW.setLinks a _ (fun t hw => Table.WF_remove t hw _ _)) b _ (Table.remove_perm _ _)

end

theorem purgePeers {u u' s1 s1' : State} {x : Nat} (h : s1.LayoutEqL s1')
    (hO : u.InvO) (hB : u.InvB) (hx : u.isLive x = true) (hT : ∀ p, s1.tableOf p = u.tableOf p)
    (hO' : u'.InvO) (hB' : u'.InvB) (hx' : u'.isLive x = true)
    (hT' : ∀ p, s1'.tableOf p = u'.tableOf p)
    (herr : s1.err = none) :
    (s1.purgePeers x).LayoutEqL (s1'.purgePeers x) := by
  have herr' : s1'.err = none := by rw [← h.err]; exact herr
  obtain ⟨t, ht⟩ := live_tableOf hO hx
  obtain ⟨t', ht'⟩ := live_tableOf hO' hx'
  obtain ⟨e1, c2, c3, hLO⟩ := purgePeers_of_InvB hO hB hx hT ht herr
  obtain ⟨e1', c2', c3', hLO'⟩ := purgePeers_of_InvB hO' hB' hx' hT' ht' herr'
  refine ⟨⟨by rw [hLO.heap_length, hLO'.heap_length, h.heap.1], ?_⟩, by rw [hLO.roots, hLO'.roots, h.roots],
    by rw [hLO.wroots, hLO'.wroots, h.wroots], by rw [hLO.vals, hLO'.vals, h.vals],
    by rw [hLO.raws, hLO'.raws, h.raws], by rw [hLO.stack, hLO'.stack, h.stack],
    by rw [hLO.log, hLO'.log]; exact h.log, by rw [e1, e1'],
    by rw [hLO.unwinding, hLO'.unwinding, h.unwinding], by rw [hLO.nextVid, hLO'.nextVid, h.nextVid]⟩
  intro i a2 b2 ha2 hb2
  obtain ⟨a, hga, ⟨q1, q2, q3, q4, q5, -, q7⟩, ta⟩ := hLO.obj_of_get ha2
  obtain ⟨b, hgb, ⟨r1, r2, r3, r4, r5, -, r7⟩, tb⟩ := hLO'.obj_of_get hb2
  have hab := h.heap.2 i a b hga hgb
  refine ⟨by rw [q1, r1, hab.strong], by rw [q2, r2, hab.weak], by rw [q3, r3, hab.value],
    by rw [q4, r4, hab.freed], by rw [q5, r5, hab.implicit], ?_⟩
  -- the tables
  cases hfa : a.freed with
  | true =>
    have hfb : b.freed = true := by rw [← hab.freed]; exact hfa
    rw [q7 hfa, r7 hfb]; exact hab.links
  | false =>
    have hfb : b.freed = false := by rw [← hab.freed]; exact hfa
    have ta2 := ta hfa
    have tb2 := tb hfb
    by_cases hix : i = x
    · subst hix
      rw [← ta2, ← tb2, c2, c2']
      exact List.Perm.refl _
    · obtain ⟨n1, s1spec⟩ := c3 i hix
      obtain ⟨n1', s1spec'⟩ := c3' i hix
      rcases h.tableOf_cases i with ⟨k1, k2⟩ | ⟨tp, tp', k1, k2, hp⟩
      · rw [hT] at k1; rw [hT'] at k2
        rw [← ta2, ← tb2, n1.mpr k1, n1'.mpr k2]
        trivial
      · rw [hT] at k1; rw [hT'] at k2
        obtain ⟨tq, f1, w1, z1, z2, g1, -⟩ := s1spec tp k1
        obtain ⟨tq', f1', w1', z1', z2', g1', -⟩ := s1spec' tp' k2
        rw [← ta2, ← tb2, f1, f1']
        show tq.Perm tq'
        apply Table.perm_of_get_eq tq tq' w1 w1'
        intro l
        have hwtp : tp.WF := (hB.1 i tp k1).1
        by_cases hl1 : l = ⟨x, .fwd⟩
        · subst hl1; rw [z1, z1']
        · by_cases hl2 : l = ⟨x, .bwd⟩
          · subst hl2; rw [z2, z2']
          · rw [g1 l hl1 hl2, g1' l hl1 hl2, Table.get_perm tp tp' hwtp hp]

theorem giveUp {s s' : State} {o : Nat} (h : s.LayoutEqL s')
    (hO : s.InvO) (hB : s.InvB) (hO' : s'.InvO) (hB' : s'.InvB)
    (ho : s.isLive o = true) (herr : s.err = none) :
    (s.giveUp o).LayoutEqL (s'.giveUp o) := by
  have ho' : s'.isLive o = true := by rw [← h.isLive_eq]; exact ho
  have h1 := LayoutEqL.purgePeers h hO hB ho (fun _ => rfl) hO' hB' ho' (fun _ => rfl) herr
  unfold State.giveUp
  refine h1.onCell o _ fun a b _ _ hab => ?_
  exact (h1.setObj o (by exact ⟨rfl, hab.weak, rfl, hab.freed, hab.implicit,
    LinksEq.refl none⟩)).decWeakFree o true

end State.LayoutEqL

theorem applyAct_sim {s s' : State} (h : s.LayoutEqL s') (hs : s.Safe) (hs' : s'.Safe)
    (fh fw : List Nat) (a : Act) (ha : a.fullQuiet) :
    (applyAct s fh fw a).LayoutEqL (applyAct s' fh fw a) := by
  have hW : s.TablesWF := State.TablesWF.of_InvB hs.invB
  cases a with
  | new =>
    rw [applyAct, applyAct]
    rw [← h.nextVid, ← h.heap.1]
    generalize ({ vid := s.nextVid, held := [], weaks := [], script := [], panics := false } : Val)
      = v
    exact ((h.alloc v).mapRoots (· ++ [s.heap.length])).withNextVid rfl
  | clone r => exact h.onRoot r fun o _ => (h.incStrong o).mapRoots (· ++ [o])
  | drop r => exact h.onRoot r fun o _ => (h.mapRoots fun l => l.eraseIdx (idxMod l r)).push _
  | link r q =>
    refine h.onRoot2 r q fun t o => ?_
    rw [← h.roots]
    split
    · exact h
    · exact ((h.adopt hW o t false).mapRoots (·.eraseIdx (idxMod s.roots r))).modVal o _
  | unlink q k =>
    refine h.onRoot q fun o _ => ?_
    rw [← h.valOf_eq]
    cases s.valOf o with
    | none => exact h.fail _
    | some v =>
      refine h.onNth rfl k fun t => ?_
      have h1 := h.modVal o (fun v => { v with held := v.held.eraseIdx (idxMod v.held k) })
      have hW1 : (s.modVal o
          (fun v => { v with held := v.held.eraseIdx (idxMod v.held k) })).TablesWF :=
        hW.of_tableOf_eq (fun _ => tableOf_modVal _ _ _ _)
      exact (h1.onLive t _ (h1.unadopt hW1 o t false)).mapRoots (· ++ [t])
  | downgrade r => exact h.onRoot r fun o _ => (h.incWeak o).mapWroots (· ++ [o])
  | upgrade w =>
    refine h.onNth h.wroots w fun o => h.onCell o _ fun a b _ _ hab => ?_
    rw [← hab.strong]
    split
    · exact h.emit _
    · exact ((h.incStrong o).emit _).mapRoots (· ++ [o])
  | cloneWeak w => exact h.onNth h.wroots w fun o => (h.incWeak o).mapWroots (· ++ [o])
  | dropWeak w =>
    exact h.onNth h.wroots w fun o => (h.mapWroots fun l => l.eraseIdx (idxMod l w)).push _
  | storeWeak w q =>
    rw [applyAct, applyAct]
    rw [← h.wroots, ← h.useRoot_eq q]
    cases nthMod s.wroots w with
    | none => exact h
    | some t =>
      cases s.useRoot q with
      | none => exact h.badRoot q
      | some o => exact (h.withWroots rfl).modVal o _
  | tryUnwrap r =>
    refine h.onRoot r fun o hu => h.onCell o _ fun a b _ _ hab => ?_
    rw [← hab.strong, ← hab.value]
    split
    · rename_i v hst hv
      refine LayoutEqL.emit ?_ _
      have h1 := (h.mapRoots fun l => l.eraseIdx (idxMod l r)).withVals
        (congrArg (· ++ [v]) h.vals)
      exact LayoutEqL.giveUp h1 (InvO_of_heap_eq rfl hs.invO) (InvB_of_heap_eq rfl hs.invB)
        (InvO_of_heap_eq rfl hs'.invO) (InvB_of_heap_eq rfl hs'.invB) (useRoot_some hu).2 hs.err
    · exact h.fail _
    · exact h.emit _
  | dropValue i =>
    rw [applyAct, applyAct]
    rw [← h.vals]
    cases nthMod s.vals i with
    | none => exact h
    | some v => exact (h.withVals rfl).push _
  | getMut r =>
    refine h.onRoot r fun o _ => h.onCell o _ fun a b _ _ hab => ?_
    rw [← hab.strong, ← hab.weak]
    exact h.emit _
  | intoRaw r =>
    exact h.onRoot r fun o _ =>
      (h.mapRoots fun l => l.eraseIdx (idxMod l r)).mapRaws (· ++ [o])
  | fromRaw i =>
    exact h.onNth h.raws i fun o =>
      (h.mapRaws fun l => l.eraseIdx (idxMod l i)).mapRoots (· ++ [o])
  | incStrong i =>
    exact h.onNth h.raws i fun o => h.onLive o _ ((h.incStrong o).mapRaws (· ++ [o]))
  | decStrong i =>
    exact h.onNth h.raws i fun o =>
      h.onLive o _ ((h.mapRaws fun l => l.eraseIdx (idxMod l i)).push _)
  | ptrEq r1 r2 => exact h.onRoot2 r1 r2 fun _ _ => h.emit _
  | counts r =>
    refine h.onRoot r fun o _ => h.onCell o _ fun a b _ _ hab => ?_
    rw [← hab.strong, ← hab.weak]
    exact (h.emit _).emit _
  | wcounts w =>
    refine h.onNth h.wroots w fun o => h.onCell o _ fun a b _ _ hab => ?_
    rw [← hab.strong, ← hab.weak]
    split <;> exact (h.emit _).emit _
  | _ => exact absurd ha id

end Cactus
