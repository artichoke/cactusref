import Cactus.Lemmas.History.Collect
/-!
# `drain` and one operation of a history on corresponding stable points

* `Sim.bigStep`: from corresponding stable points with a non-empty stack the two runs reach
  corresponding stable points again, in the same positive number of machine steps.
* `drain_sim`: `drain` with the same fuel: if run 1 does not run out of fuel, neither does run 2,
  and the results correspond.
* `execOp_sim`: one operation executed in both runs, with arbitrary hints; `execOp_shuffle`: a
  `shuffle` executed in one run only leaves that run at a point corresponding to itself.
-/
namespace Cactus
open State

theorem Sim.bigStep {s s' : State} (h : Sim s s') (hne : s.stack ≠ []) :
    ∃ k t t', Run (k + 1) s t ∧ Run (k + 1) s' t' ∧ Sim t t' := by
  have he := h.good.err
  have he' := h.good'.err
  have hne' : s'.stack ≠ [] := by rw [← h.leq.stack]; exact hne
  cases hst : s.stack with
  | nil => exact absurd hst hne
  | cons f rest =>
    by_cases hf : ∃ o, f = .rcDrop o
    · obtain ⟨o, rfl⟩ := hf
      rcases h.step_rcDrop hst with hsim | ⟨ob, ob', n, hc, hc', h1⟩
      · exact ⟨0, step s, step s', Run.one he hne, Run.one he' hne', hsim⟩
      · obtain ⟨k, t, t', r, r', hsim⟩ := h.collect hc hc' h1
        exact ⟨k, t, t', .succ he hne r, .succ he' hne' r', hsim⟩
    · have hf' : ∀ o, f ≠ .rcDrop o := fun o e => hf ⟨o, e⟩
      exact ⟨0, step s, step s', Run.one he hne, Run.one he' hne', h.step_simple hst hf'⟩

/-- **`drain` on corresponding stable points**: the two runs need the same number of machine
steps, so the same fuel suffices -/
theorem drain_sim (f : Nat) : ∀ (s s' : State), Sim s s' → (drain f s).err = none →
    (drain f s').err = none ∧ Sim (drain f s) (drain f s') := by
  induction f using Nat.strongRecOn with
  | _ f ih =>
    intro s s' h he
    by_cases hne : s.stack = []
    · have hne' : s'.stack = [] := by rw [← h.leq.stack]; exact hne
      rw [drain_of_stack_nil f s hne, drain_of_stack_nil f s' hne']
      exact ⟨h.good'.err, h⟩
    · obtain ⟨k, t, t', r, r', hsim⟩ := h.bigStep hne
      by_cases hk : k + 1 ≤ f
      · rw [r.drain_eq f hk] at he ⊢
        rw [r'.drain_eq f hk]
        exact ih (f - (k + 1)) (by omega) t t' hsim he
      · exact absurd he (r.drain_err f (by omega))

theorem endOp_of_not_unwinding (s : State) (h : s.unwinding = false) : endOp s = s := by
  unfold endOp
  simp [h]

theorem Safe_setHint {s : State} (hs : s.Safe) (hint : List Nat) :
    ({ s with hint := hint } : State).Safe :=
  ⟨hs.err, hs.core, hs.rng, hs.safe⟩

theorem Good.applyOp {s : State} (hg : Good s) (hq : s.stack = []) (op : Op) (hop : op.fullQuiet)
    (hint : List Nat) (he : (applyOp { s with hint := hint } op).err = none) :
    Good (applyOp { s with hint := hint } op) := by
  have hs : ({ s with hint := hint } : State).Safe := Safe_setHint hg.safe hint
  have hfq : FQ noE ({ s with hint := hint } : State) := hg.fq.of_heap rfl
  have hctl : ({ s with hint := hint } : State).QuietCtl := hg.ctl.of_eq rfl rfl rfl
  refine ⟨ReachableC.op op hint hg.rc hq hop.respects, he, ?_, ?_⟩
  · cases op with
    | act a => exact applyAct_FQ hs hfq [] [] a hop
    | setScript q acts => exact absurd hop id
    | shuffle q i =>
      simp only [Cactus.applyOp]
      split
      · exact hfq.setLinks (fun t ht b => Table.get_swapAt t (hs.invB.1 _ t ht).1 i _)
      · exact hfq.badRoot q
  · cases op with
    | act a => exact applyAct_quietCtl hfq.quiet hctl [] [] a hop
    | setScript q acts => exact absurd hop id
    | shuffle q i =>
      simp only [Cactus.applyOp]
      split
      · exact hctl.of_eq (by simp) (by simp) (by simp)
      · exact hctl.of_eq (by simp) (by simp) (by simp)

theorem applyOp_leq {s s' : State} (h : s.LayoutEqL s') (hs : s.Safe) (hs' : s'.Safe) (op : Op)
    (hop : op.fullQuiet) (h1 h2 : List Nat) :
    (applyOp { s with hint := h1 } op).LayoutEqL (applyOp { s' with hint := h2 } op) := by
  have h0 := h.setHint h1 h2
  have hsa := Safe_setHint hs h1
  have hsb := Safe_setHint hs' h2
  cases op with
  | act a => exact applyAct_sim h0 hsa hsb [] [] a hop
  | setScript q acts => exact absurd hop id
  | shuffle q i =>
    simp only [Cactus.applyOp]
    rw [← h0.useRoot_eq q]
    cases ({ s with hint := h1 } : State).useRoot q with
    | none => exact h0.badRoot q
    | some o =>
      exact h0.setLinks_of (State.TablesWF.of_InvB hsa.invB) o _
        (fun t t' hw hp => ((Table.swapAt_perm t i).trans hp).trans (Table.swapAt_perm t' i).symm)

theorem execOp_sim (fuel : Nat) {s s' : State} (h : Sim s s') (hq : s.stack = []) (op : Op)
    (hop : op.fullQuiet) (h1 h2 : List Nat) (he : (execOp fuel s op h1).err = none) :
    (execOp fuel s' op h2).err = none ∧ Sim (execOp fuel s op h1) (execOp fuel s' op h2)
      ∧ (execOp fuel s op h1).stack = [] := by
  have hq' : s'.stack = [] := by rw [← h.leq.stack]; exact hq
  have hes := h.good.err
  have hes' := h.good'.err
  have e1 : execOp fuel s op h1 = endOp (drain fuel (applyOp { s with hint := h1 } op)) := by
    simp [execOp, hes]
  have e2 : execOp fuel s' op h2 = endOp (drain fuel (applyOp { s' with hint := h2 } op)) := by
    simp [execOp, hes']
  rw [e1, endOp_err] at he
  have hea := drain_err_none _ _ he
  have hleq := applyOp_leq h.leq h.good.safe h.good'.safe op hop h1 h2
  have hea' : (applyOp { s' with hint := h2 } op).err = none := by rw [← hleq.err]; exact hea
  have hga := h.good.applyOp hq op hop h1 hea
  have hga' := h.good'.applyOp hq' op hop h2 hea'
  obtain ⟨hd, hsim⟩ := drain_sim fuel _ _ ⟨hleq, hga, hga'⟩ he
  rw [e1, e2, endOp_of_not_unwinding _ hsim.good.ctl.unw, endOp_of_not_unwinding _ hsim.good'.ctl.unw]
  exact ⟨hd, hsim, drain_quiescent fuel _ he⟩

theorem execOp_shuffle (fuel : Nat) {s : State} (hg : Good s) (hq : s.stack = []) (q i : Nat)
    (hint : List Nat) :
    Good (execOp fuel s (.shuffle q i) hint) ∧ (execOp fuel s (.shuffle q i) hint).LayoutEqL s
      ∧ (execOp fuel s (.shuffle q i) hint).stack = [] := by
  have hs := Safe_setHint hg.safe hint
  have e1 : execOp fuel s (.shuffle q i) hint
      = endOp (drain fuel (applyOp { s with hint := hint } (.shuffle q i))) := by
    simp [execOp, hg.err]
  -- the shuffle itself
  have key : (applyOp { s with hint := hint } (.shuffle q i)).LayoutEqL s
      ∧ (applyOp { s with hint := hint } (.shuffle q i)).err = none
      ∧ (applyOp { s with hint := hint } (.shuffle q i)).stack = [] := by
    simp only [Cactus.applyOp, hs.useRoot_eq, hs.badRoot_eq]
    have hrefl : ({ s with hint := hint } : State).LayoutEqL s :=
      (LayoutEqL.refl s).symm.setHint s.hint hint |>.symm
    cases hr : nthMod ({ s with hint := hint } : State).roots q with
    | none => exact ⟨hrefl, hg.err, hq⟩
    | some o =>
      dsimp only
      have hl := hs.live_of_root hr
      obtain ⟨ob, n, v, t, hc, -, -, hlk, -⟩ := hs.live_obj hl
      have ht : ({ s with hint := hint } : State).tableOf o = some t := by
        rw [tableOf_of_cell hc, hlk]
      rw [setLinks_eq _ hc hlk]
      refine ⟨?_, hg.err, hq⟩
      have hobj : Obj.LayoutEq { ob with links := some (t.swapAt i) } ob :=
        ⟨rfl, rfl, rfl, rfl, rfl, by rw [hlk]; exact Table.swapAt_perm t i⟩
      have := hrefl.setObj o hobj
      rw [setObj_self (s := s) (get_of_cell hc)] at this
      exact this
  obtain ⟨k1, k2, k3⟩ := key
  have hga := hg.applyOp hq (.shuffle q i) trivial hint k2
  rw [e1, drain_of_stack_nil _ _ k3, endOp_of_not_unwinding _ hga.ctl.unw]
  exact ⟨hga, k1, k3⟩

end Cactus
