import Cactus.Lemmas.History.Drain
import Cactus.Lemmas.Once
/-!
# C09 for whole histories: what a program destroys, and every count observable afterwards, do not
depend on the layout

`history_layout_independent`: two histories of a fully recorded, quiet program that differ only in
layout — `shuffle` pseudo-operations inserted anywhere (the order of the entries inside link
tables) and arbitrary hints (the order in which the values of a collected group are destroyed) —
end, if the first one ends without error, both without error, in states that agree up to the
order of table entries, the order of the events in the log, and the hint.
-/
namespace Cactus
open State

/-- same program, possibly different layouts: the two histories are equal after deleting every
`shuffle` pseudo-operation, and the hints are arbitrary -/
inductive SameProgram : List (Op × List Nat) → List (Op × List Nat) → Prop
  | nil : SameProgram [] []
  | op {a b : List (Op × List Nat)} (o : Op) (h1 h2 : List Nat) : (∀ q i, o ≠ .shuffle q i) →
      SameProgram a b → SameProgram ((o, h1) :: a) ((o, h2) :: b)
  | shuffleL {a b : List (Op × List Nat)} (q i : Nat) (h : List Nat) : SameProgram a b →
      SameProgram ((.shuffle q i, h) :: a) b
  | shuffleR {a b : List (Op × List Nat)} (q i : Nat) (h : List Nat) : SameProgram a b →
      SameProgram a ((.shuffle q i, h) :: b)

def runFrom (fuel : Nat) (s : State) (ops : List (Op × List Nat)) : State :=
  ops.foldl (fun s oh => execOp fuel s oh.1 oh.2) s

theorem run_eq_runFrom (ops : List (Op × List Nat)) : run ops = runFrom defaultFuel {} ops := rfl

theorem runFrom_cons (fuel : Nat) (s : State) (oh : Op × List Nat) (ops : List (Op × List Nat)) :
    runFrom fuel s (oh :: ops) = runFrom fuel (execOp fuel s oh.1 oh.2) ops := rfl

theorem runFrom_err_none (fuel : Nat) (ops : List (Op × List Nat)) (s : State)
    (h : (runFrom fuel s ops).err = none) : s.err = none := by
  induction ops generalizing s with
  | nil => exact h
  | cons oh ops ih =>
    rw [runFrom_cons] at h
    have h1 := ih _ h
    cases he : s.err with
    | none => rfl
    | some e =>
      have : execOp fuel s oh.1 oh.2 = s := by simp [execOp, he]
      rw [this, he] at h1
      exact h1

theorem runFrom_sim (fuel : Nat) {ops1 ops2 : List (Op × List Nat)} (hsame : SameProgram ops1 ops2) :
    ∀ (s s' : State), (∀ oh ∈ ops1, oh.1.fullQuiet) → Sim s s' → s.stack = [] →
      (runFrom fuel s ops1).err = none →
      (runFrom fuel s' ops2).err = none ∧ Sim (runFrom fuel s ops1) (runFrom fuel s' ops2) := by
  induction hsame with
  | nil => intro s s' _ h _ _; exact ⟨h.good'.err, h⟩
  | @op a b o h1 h2 _ _ ih =>
    intro s s' hfq h hq he
    rw [runFrom_cons] at he ⊢
    rw [runFrom_cons]
    have he1 := runFrom_err_none fuel a _ he
    obtain ⟨-, hsim, hq1⟩ := execOp_sim fuel h hq o (hfq (o, h1) List.mem_cons_self) h1 h2 he1
    exact ih _ _ (fun oh hm => hfq oh (List.mem_cons_of_mem _ hm)) hsim hq1 he
  | @shuffleL a b q i hint _ ih =>
    intro s s' hfq h hq he
    rw [runFrom_cons] at he ⊢
    obtain ⟨g1, l1, q1⟩ := execOp_shuffle fuel h.good hq q i hint
    exact ih _ _ (fun oh hm => hfq oh (List.mem_cons_of_mem _ hm)) ⟨l1.trans h.leq, g1, h.good'⟩ q1 he
  | @shuffleR a b q i hint _ ih =>
    intro s s' hfq h hq he
    rw [runFrom_cons]
    have hq' : s'.stack = [] := by rw [← h.leq.stack]; exact hq
    obtain ⟨g1, l1, -⟩ := execOp_shuffle fuel h.good' hq' q i hint
    exact ih _ _ hfq ⟨h.leq.trans l1.symm, h.good, g1⟩ hq he

/-- the theorem for every fuel (it does not depend on `defaultFuel`) -/
theorem history_layout_independent_fuel (fuel : Nat) (ops1 ops2 : List (Op × List Nat))
    (hsame : SameProgram ops1 ops2)
    (hfq : ∀ oh ∈ ops1, oh.1.fullQuiet)
    (he1 : (runFrom fuel {} ops1).err = none) :
    (runFrom fuel {} ops2).err = none ∧ (runFrom fuel {} ops1).LayoutEqL (runFrom fuel {} ops2) := by
  obtain ⟨h1, h2⟩ := runFrom_sim fuel hsame {} {} hfq
    ⟨LayoutEqL.refl _, Good.init, Good.init⟩ rfl he1
  exact ⟨h1, h2.leq⟩

/-- **C09 for whole histories.**  Two histories that are the same program of `fullQuiet`
operations up to layout (`SameProgram`: `shuffle`s inserted or deleted anywhere, arbitrary hints):
if the first ends without error then so does the second, and the final states agree up to the
order of table entries, the order of log events and the hint.

No hypothesis on the second run is needed: in a state satisfying the invariants a `shuffle`
cannot fail (`Safe.badRoot_eq`: every root handle designates a live object), and the two runs take
the *same number of machine steps* in every operation, so run 2 does not run out of fuel if run 1
does not. -/
theorem history_layout_independent (ops1 ops2 : List (Op × List Nat))
    (hsame : SameProgram ops1 ops2)
    (hfq : ∀ oh ∈ ops1, oh.1.fullQuiet)
    (he1 : (run ops1).err = none) :
    (run ops2).err = none ∧ (run ops1).LayoutEqL (run ops2) :=
  history_layout_independent_fuel defaultFuel ops1 ops2 hsame hfq he1

/-! ## what `LayoutEqL` of the final states says, observation by observation -/

section corollaries
variable (ops1 ops2 : List (Op × List Nat)) (hsame : SameProgram ops1 ops2)
  (hfq : ∀ oh ∈ ops1, oh.1.fullQuiet) (he1 : (run ops1).err = none)
include hsame hfq he1

theorem history_strong_counts (o : Nat) : (run ops1).strongNat o = (run ops2).strongNat o :=
  (history_layout_independent ops1 ops2 hsame hfq he1).2.strongNat_eq o

theorem history_weak_counts (o : Nat) : (run ops1).weakNat o = (run ops2).weakNat o :=
  (history_layout_independent ops1 ops2 hsame hfq he1).2.weakNat_eq o

theorem history_live (o : Nat) : (run ops1).isLive o = (run ops2).isLive o :=
  (history_layout_independent ops1 ops2 hsame hfq he1).2.isLive_eq o

theorem history_freed_value (o : Nat) :
    ((run ops1).heap[o]?).map (·.freed) = ((run ops2).heap[o]?).map (·.freed)
    ∧ ((run ops1).heap[o]?).map (·.value) = ((run ops2).heap[o]?).map (·.value) := by
  have h := (history_layout_independent ops1 ops2 hsame hfq he1).2
  rcases h.heap.cases o with ⟨h1, h2⟩ | ⟨a, b, h1, h2, hab⟩
  · rw [h1, h2]; exact ⟨rfl, rfl⟩
  · rw [h1, h2]
    simp only [Option.map_some, hab.freed, hab.value]
    exact ⟨trivial, trivial⟩

theorem history_tables (a : Nat) (l : Link) :
    ((run ops1).tbl a).get l = ((run ops2).tbl a).get l := by
  have h := (history_layout_independent ops1 ops2 hsame hfq he1).2
  have hrc : ReachableC (run ops1) :=
    run_reachableC ops1 (fun oh hm => (hfq oh hm).respects)
  have hB := (reachable_core hrc.reachable he1).1.2.1
  exact Table.get_perm _ _ (State.tbl_WF hB a) (h.tbl_perm a) l

theorem history_handles :
    (run ops1).roots = (run ops2).roots ∧ (run ops1).wroots = (run ops2).wroots
    ∧ (run ops1).vals = (run ops2).vals ∧ (run ops1).raws = (run ops2).raws :=
  let h := (history_layout_independent ops1 ops2 hsame hfq he1).2
  ⟨h.roots, h.wroots, h.vals, h.raws⟩

/-- **the same values are destroyed** (as a multiset; the order inside one collected group is the
one thing a layout may change) -/
theorem history_destroyed : (run ops1).destroyedVids.Perm (run ops2).destroyedVids := by
  have h := (history_layout_independent ops1 ops2 hsame hfq he1).2
  unfold State.destroyedVids
  exact h.log.filterMap _

theorem history_freedIds : (run ops1).freedIds.Perm (run ops2).freedIds := by
  have h := (history_layout_independent ops1 ops2 hsame hfq he1).2
  unfold State.freedIds
  exact h.log.filterMap _

theorem history_log : (run ops1).log.Perm (run ops2).log :=
  (history_layout_independent ops1 ops2 hsame hfq he1).2.log

end corollaries

end Cactus
