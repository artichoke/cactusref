import Cactus.Lemmas.Count
import Cactus.Lemmas.Inv.Purge  -- the `@[simp]` lemmas `purgePeers_stack` &c., for `giveUp_stack` &c.
/-!
# The shape of a user-level action

Every branch of `applyAct` is a composition of a dozen elementary updates (`Prim`), none of which
touches the control stack, followed by at most one `push` of a pending handle or value.  A
relation on states that is reflexive, transitive and holds across each elementary update therefore
holds across every action (`ActShape.lift`); a predicate preserved by each of them is preserved by every
action (`ActShape.pres`).  This is how the relations and predicates of the later files that compose in
this way get across `applyAct`.  A property that is broken between the elementary updates needs the
outcome of the action itself: the invariant, `InvR`, `InvS`, the contract, `okErr` and the work bound
cross `applyAct` by one case for each kind of outcome that `Lemmas/Outcome.lean` lists; the
lock-step simulations go through the thirty actions.
-/
namespace Cactus
open State

def Act.noPanic : Act → Prop
  | .setPanic _ => False
  | _ => True

/-- the frames an action may push: a pending handle or value to drop -/
def Frame.isData : Frame → Bool
  | .rcDrop _ => true
  | .weakDrop _ => true
  | .dropVal _ => true
  | _ => false

/-- the four actions that move a value between the heap, the program and the stack, or create one -/
def Act.movesValue : Act → Prop
  | .new | .tryUnwrap _ | .dropValue _ | .makeMut _ => True
  | _ => False

def Act.adopts : Act → Prop
  | .adopt _ _ | .link _ _ => True
  | _ => False

def Act.editsLinks : Act → Prop
  | .adopt _ _ | .unadopt _ _ | .link _ _ | .unlink _ _ => True
  | _ => False

def Act.editsValue : Act → Prop
  | .store _ _ | .take _ _ | .link _ _ | .unlink _ _ | .storeWeak _ _ | .setPanic _ | .setShallow _ => True
  | _ => False

/-- the elementary updates of which action `a` is composed.  No action fails with `fuel`.  Only the
value-editing actions edit a stored value, and an edit keeps its identity, its script and, unless the
action is `setPanic`, its `panics` flag.  Only the four table-editing actions touch a table, and only
the adopting ones make an empty table non-empty.  Only the value-moving actions touch `vals` and
`nextVid`, allocate, or give an allocation up. -/
inductive Prim (a : Act) : State → State → Prop
  | fail (s : State) (e : Err) (he : e ≠ .fuel) : Prim a s (s.fail e)
  | ret (s : State) (n : Nat) : Prim a s (s.emit (.ret n))
  | incStrong (s : State) (o : Nat) : Prim a s (s.incStrong o)
  | incWeak (s : State) (o : Nat) : Prim a s (s.incWeak o)
  | setLinks (s : State) (o : Nat) (f : Table → Table) (hf : a.adopts ∨ f [] = []) (he : a.editsLinks) :
      Prim a s (s.setLinks o f)
  | modVal (s : State) (o : Nat) (f : Val → Val)
      (hf : ∀ v, (f v).vid = v.vid ∧ (f v).script = v.script ∧ (a.noPanic → (f v).panics = v.panics))
      (he : a.editsValue) : Prim a s (s.modVal o f)
  | handles (s : State) (r w ra : List Nat) : Prim a s { s with roots := r, wroots := w, raws := ra }
  | valsPush (s : State) (v : Val) (h : a.movesValue) : Prim a s { s with vals := s.vals ++ [v] }
  | valsErase (s : State) (i : Nat) (h : a.movesValue) : Prim a s { s with vals := s.vals.eraseIdx i }
  | nextVid (s : State) (n : Nat) (h : a.movesValue) : Prim a s { s with nextVid := n }
  | alloc (s : State) (v : Val) (h : a.movesValue) : Prim a s (s.alloc v)
  | giveUp (s : State) (o : Nat) (h : a.movesValue) : Prim a s (s.giveUp o)

inductive Steps (a : Act) : State → State → Prop
  | refl (s : State) : Steps a s s
  | tail {s t u : State} : Steps a s t → Prim a t u → Steps a s u

namespace Steps
variable {a : Act} {s t : State}

theorem lift {Q : State → State → Prop} (hr : ∀ s, Q s s) (ht : ∀ {s t u}, Q s t → Q t u → Q s u)
    (hp : ∀ {t u}, Prim a t u → Q t u) (h : Steps a s t) : Q s t := by
  induction h with
  | refl => exact hr _
  | tail _ p ih => exact ht ih (hp p)

theorem pres {I : State → Prop} (hp : ∀ {t u}, Prim a t u → I t → I u) (h : Steps a s t) (hs : I s) :
    I t := by
  induction h with
  | refl => exact hs
  | tail _ p ih => exact hp p ih

theorem fail (h : Steps a s t) (e : Err) (he : e ≠ .fuel) : Steps a s (t.fail e) := h.tail (.fail t e he)
theorem ret (h : Steps a s t) (n : Nat) : Steps a s (t.emit (.ret n)) := h.tail (.ret t n)
theorem retB (h : Steps a s t) (b : Bool) : Steps a s (t.emit (retBool b)) := h.ret _
theorem incStrong (h : Steps a s t) (o : Nat) : Steps a s (t.incStrong o) := h.tail (.incStrong t o)
theorem incWeak (h : Steps a s t) (o : Nat) : Steps a s (t.incWeak o) := h.tail (.incWeak t o)
theorem setLinks (h : Steps a s t) (o : Nat) (f : Table → Table) (hf : a.adopts ∨ f [] = [])
    (he : a.editsLinks) : Steps a s (t.setLinks o f) := h.tail (.setLinks t o f hf he)
theorem modVal (h : Steps a s t) (o : Nat) (f : Val → Val)
    (hf : ∀ v, (f v).vid = v.vid ∧ (f v).script = v.script ∧ (a.noPanic → (f v).panics = v.panics))
    (he : a.editsValue) : Steps a s (t.modVal o f) := h.tail (.modVal t o f hf he)
theorem handles (h : Steps a s t) (r w ra : List Nat) :
    Steps a s { t with roots := r, wroots := w, raws := ra } := h.tail (.handles t r w ra)
theorem valsErase (h : Steps a s t) (i : Nat) (hm : a.movesValue) :
    Steps a s { t with vals := t.vals.eraseIdx i } := h.tail (.valsErase t i hm)
theorem handles_nextVid (h : Steps a s t) (r w ra : List Nat) (n : Nat) (hm : a.movesValue) :
    Steps a s { t with roots := r, wroots := w, raws := ra, nextVid := n } :=
  (h.tail (.nextVid t n hm)).handles r w ra
theorem handles_valsPush (h : Steps a s t) (r w ra : List Nat) (v : Val) (hm : a.movesValue) :
    Steps a s { t with roots := r, wroots := w, raws := ra, vals := t.vals ++ [v] } :=
  (h.tail (.valsPush t v hm)).handles r w ra
theorem alloc (h : Steps a s t) (v : Val) (hm : a.movesValue) : Steps a s (t.alloc v) :=
  h.tail (.alloc t v hm)
theorem giveUp (h : Steps a s t) (o : Nat) (hm : a.movesValue) : Steps a s (t.giveUp o) :=
  h.tail (.giveUp t o hm)

theorem badRoot (h : Steps a s t) (r : Nat) : Steps a s (t.badRoot r) := by
  unfold State.badRoot
  split
  · split
    · exact h
    · exact h.fail _ nofun
  · exact h

theorem adopt (h : Steps a s t) (x y : Nat) (same : Bool) (ha : a.adopts) (he : a.editsLinks) :
    Steps a s (t.adopt x y same) := by
  unfold State.adopt; split
  · exact h.setLinks _ _ (.inl ha) he
  · exact (h.setLinks _ _ (.inl ha) he).setLinks _ _ (.inl ha) he

theorem unadopt (h : Steps a s t) (x y : Nat) (same : Bool) (he : a.editsLinks) :
    Steps a s (t.unadopt x y same) := by
  unfold State.unadopt; split
  · exact h.setLinks _ _ (.inr rfl) he
  · exact (h.setLinks _ _ (.inr rfl) he).setLinks _ _ (.inr rfl) he

theorem cloneHandles (h : Steps a s t) (v : Val) : Steps a s (t.cloneHandles v) :=
  foldl_pres _ (fun _ o h => h.incWeak o) _ (foldl_pres _ (fun _ o h => h.incStrong o) _ h)

end Steps

/-- the form of an action's result: elementary updates, then at most one pending handle or value pushed
(a value only by the value-moving actions) -/
inductive ActShape (a : Act) (s : State) : State → Prop
  | quiet {t : State} : Steps a s t → ActShape a s t
  | push {t : State} (d : Frame) : Steps a s t → d.isData = true → (∀ v, d = .dropVal v → a.movesValue) →
      ActShape a s (t.push [d])

namespace ActShape
variable {a : Act} {s u : State}

theorem lift {Q : State → State → Prop} (hr : ∀ s, Q s s) (ht : ∀ {s t u}, Q s t → Q t u → Q s u)
    (hp : ∀ {t u}, Prim a t u → Q t u)
    (hd : ∀ t d, d.isData = true → (∀ v, d = .dropVal v → a.movesValue) → Q t (t.push [d]))
    (h : ActShape a s u) : Q s u := by
  cases h with
  | quiet hs => exact hs.lift hr ht hp
  | push d hs hdd hv => exact ht (hs.lift hr ht hp) (hd _ d hdd hv)

theorem pres {I : State → Prop} (hp : ∀ {t u}, Prim a t u → I t → I u)
    (hd : ∀ t d, d.isData = true → (∀ v, d = .dropVal v → a.movesValue) → I t → I (t.push [d]))
    (h : ActShape a s u) (hs : I s) : I u := by
  cases h with
  | quiet h => exact h.pres hp hs
  | push d h hdd hv => exact hd _ d hdd hv (h.pres hp hs)

end ActShape

@[simp] theorem State.giveUp_stack (s : State) (o : Nat) : (s.giveUp o).stack = s.stack := by
  unfold State.giveUp; split <;> simp
@[simp] theorem State.giveUp_vals (s : State) (o : Nat) : (s.giveUp o).vals = s.vals := by
  unfold State.giveUp; split <;> simp
@[simp] theorem State.giveUp_unwinding (s : State) (o : Nat) : (s.giveUp o).unwinding = s.unwinding := by
  unfold State.giveUp; split <;> simp

theorem Prim.stack_eq {a : Act} {t u : State} (p : Prim a t u) : u.stack = t.stack := by
  cases p <;> simp

theorem Prim.unwinding {a : Act} {t u : State} (p : Prim a t u) : u.unwinding = t.unwinding := by
  cases p <;> simp

/- The updates are peeled off the result from the outside in, matching the goal against the conclusions
of the `Steps` lemmas syntactically (unfolding `State.fail`, `State.emit` &c. to compare them is what is
slow); the side conditions are left for the end.  A state that is not a record literal still matches
the conclusion of `Steps.handles`, by structure eta, and `repeat` would loop on it: so it comes after
the lemmas for the named updates.  On a record that also sets `nextVid` or `vals` it fails: the three
lemmas after it are for these. -/
theorem applyAct_shape (s : State) (fh fw : List Nat) (a : Act) :
    ActShape a s (applyAct s fh fw a) := by
  cases a <;> dsimp only [applyAct] <;> (repeat' split)
  all_goals first
    | with_reducible refine .push _ ?_ ?_ ?_
    | refine .quiet ?_
  all_goals
    with_reducible repeat first
      | exact Steps.refl _
      | apply Steps.fail | apply Steps.badRoot
      | apply Steps.ret | apply Steps.retB | apply Steps.incStrong | apply Steps.incWeak
      | apply Steps.modVal | apply Steps.unadopt | apply Steps.adopt | apply Steps.cloneHandles
      | apply Steps.alloc | apply Steps.giveUp
      | apply Steps.handles
      | apply Steps.valsErase | apply Steps.handles_nextVid | apply Steps.handles_valsPush
  all_goals first
    | exact True.intro
    | exact rfl
    | exact fun _ => ⟨rfl, rfl, fun _ => rfl⟩
    | exact fun _ => ⟨rfl, rfl, fun h => h.elim⟩
    | exact fun _ _ => True.intro
    | exact nofun

/-! ## the shape of `Rc::drop` and of one machine step -/

/-- what `<Rc as Drop>::drop` does after the decrement when the object keeps other handles and has
a non-empty link table (mirrors `State.rcDrop`) -/
def State.traceBranch (s1 : State) (o : Nat) : State :=
  let tr := cycleRefs s1 o
  let s2 := s1.emit (.traced o tr.visited.length tr.popped)
  match tr.bad with
  | some b => s2.fail (s2.linksErr b)
  | none =>
    if tr.outOfFuel then s2.fail .fuel
    else if tr.cmap.isEmpty then s2
    else
      match firstUnreadable s2 tr.cmap with
      | some b => s2.fail (.uaf b)
      | none => if hasExternalOwners s2 tr.cmap then s2 else s2.dropCycle tr.cmap

/-- `Rc::drop` fails, does nothing (dead target), or decrements the count and then: nothing more,
the zero-count path without or with adoptions, or the trace -/
theorem State.rcDrop_cases (s : State) (o : Nat) :
    (∃ e, s.rcDrop o = s.fail e) ∨ s.rcDrop o = s
    ∨ ∃ ob n t, s.cell o = some ob ∧ ob.strong = .cnt (n + 1) ∧ ob.links = some t
      ∧ ((n ≠ 0 ∧ t.isEmpty = true ∧ s.rcDrop o = s.setObj o { ob with strong := .cnt n })
        ∨ (n = 0 ∧ t.isEmpty = true
            ∧ s.rcDrop o = (s.setObj o { ob with strong := .cnt n }).beginSingle o)
        ∨ (n = 0 ∧ t.isEmpty = false
            ∧ s.rcDrop o = ((s.setObj o { ob with strong := .cnt n }).purgePeers o).beginSingle o)
        ∨ (n ≠ 0 ∧ t.isEmpty = false
            ∧ s.rcDrop o = (s.setObj o { ob with strong := .cnt n }).traceBranch o)) := by
  unfold State.rcDrop
  split
  · exact .inl ⟨_, rfl⟩
  · rename_i ob hc
    split
    · exact .inr (.inl rfl)
    · exact .inr (.inl rfl)
    · rename_i n hs
      split
      · exact .inl ⟨_, rfl⟩
      · rename_i t hl
        refine .inr (.inr ⟨ob, n, t, hc, hs, hl, ?_⟩)
        cases ht : t.isEmpty <;> by_cases hn : n = 0
        · exact .inr (.inr (.inl ⟨hn, rfl, by simp only [hn, Bool.false_eq_true, if_false, if_true]⟩))
        · exact .inr (.inr (.inr ⟨hn, rfl, by simp only [hn, Bool.false_eq_true, if_false]; rfl⟩))
        · exact .inr (.inl ⟨hn, rfl, by simp only [hn, if_true]⟩)
        · exact .inl ⟨hn, rfl, by simp only [hn, if_true, if_false]⟩

/-- the trace branch logs the trace and then fails, leaves the state alone (no group, or external
owners), or tears the group down -/
theorem State.traceBranch_cases (s1 : State) (o : Nat) :
    (∃ e, s1.traceBranch o
        = (s1.emit (.traced o (cycleRefs s1 o).visited.length (cycleRefs s1 o).popped)).fail e)
    ∨ s1.traceBranch o = s1.emit (.traced o (cycleRefs s1 o).visited.length (cycleRefs s1 o).popped)
    ∨ s1.traceBranch o
        = (s1.emit (.traced o (cycleRefs s1 o).visited.length (cycleRefs s1 o).popped)).dropCycle
            (cycleRefs s1 o).cmap := by
  unfold State.traceBranch
  dsimp only
  generalize s1.emit (.traced o (cycleRefs s1 o).visited.length (cycleRefs s1 o).popped) = s2
  generalize cycleRefs s1 o = tr
  cases tr.bad with
  | some b => exact .inl ⟨_, rfl⟩
  | none =>
    dsimp only
    by_cases h1 : tr.outOfFuel = true
    · rw [if_pos h1]; exact .inl ⟨_, rfl⟩
    · rw [if_neg h1]
      by_cases h2 : tr.cmap.isEmpty = true
      · rw [if_pos h2]; exact .inr (.inl rfl)
      · rw [if_neg h2]
        cases firstUnreadable s2 tr.cmap with
        | some b => exact .inl ⟨_, rfl⟩
        | none =>
          dsimp only
          by_cases h3 : hasExternalOwners s2 tr.cmap = true
          · rw [if_pos h3]; exact .inr (.inl rfl)
          · rw [if_neg h3]; exact .inr (.inr rfl)

theorem State.rcDrop_lift {Q : State → State → Prop} (hr : ∀ s, Q s s)
    (ht : ∀ {s t u}, Q s t → Q t u → Q s u) (hfail : ∀ s e, Q s (s.fail e))
    (hdec : ∀ {s : State} {o n : Nat} {ob : Obj}, s.cell o = some ob → ob.strong = .cnt (n + 1) →
      Q s (s.setObj o { ob with strong := .cnt n }))
    (hbegin : ∀ s o, Q s (s.beginSingle o)) (hpurge : ∀ s o, Q s (s.purgePeers o))
    (htraced : ∀ s o n p, Q s (s.emit (.traced o n p))) (hcycle : ∀ s c, Q s (s.dropCycle c))
    (s : State) (o : Nat) : Q s (s.rcDrop o) := by
  rcases rcDrop_cases s o with ⟨e, he⟩ | he | ⟨ob, n, t, hc, hs, _, h⟩
  · rw [he]; exact hfail s e
  · rw [he]; exact hr s
  · have h1 := hdec (n := n) hc hs
    rcases h with ⟨_, _, he⟩ | ⟨_, _, he⟩ | ⟨_, _, he⟩ | ⟨_, _, he⟩ <;> rw [he]
    · exact h1
    · exact ht h1 (hbegin _ o)
    · exact ht (ht h1 (hpurge _ o)) (hbegin _ o)
    · refine ht h1 ?_
      rcases traceBranch_cases (s.setObj o { ob with strong := .cnt n }) o with ⟨e, he⟩ | he | he <;> rw [he]
      · exact ht (htraced _ _ _ _) (hfail _ e)
      · exact htraced _ _ _ _
      · exact ht (htraced _ _ _ _) (hcycle _ _)

theorem State.beginSingle_cases (s : State) (o : Nat) :
    (∃ e, s.beginSingle o = s.fail e) ∨ s.beginSingle o = s.decWeakFree o true
    ∨ ∃ ob v, s.cell o = some ob ∧ ob.value = some v
        ∧ s.beginSingle o = (s.setObj o { ob with strong := .uninit, value := none }).push
            [.dropVal v, .finishSingle o] := by
  unfold beginSingle
  split
  · rename_i ob hc
    split
    · exact .inr (.inl rfl)
    · split
      · rename_i v hv; exact .inr (.inr ⟨ob, v, hc, hv, rfl⟩)
      · exact .inl ⟨_, rfl⟩
  · exact .inl ⟨_, rfl⟩

theorem State.finishSingle_cases (s : State) (o : Nat) :
    (∃ e, s.finishSingle o = s.fail e)
    ∨ ∃ ob, s.cell o = some ob
        ∧ s.finishSingle o = (s.setObj o { ob with links := none }).decWeakFree o true := by
  unfold finishSingle
  split
  · rename_i ob hc
    split
    · exact .inr ⟨ob, hc, rfl⟩
    · exact .inl ⟨_, rfl⟩
  · exact .inl ⟨_, rfl⟩

theorem State.phase3One_cases (s : State) (k : Nat) :
    (∃ e, s.phase3One k = s.fail e)
    ∨ (∃ ob, s.cell k = some ob ∧ ob.strong.isDead = false ∧ s.phase3One k = s)
    ∨ s.phase3One k = s.decWeakFree k true := by
  unfold phase3One
  split
  · rename_i ob hc
    split
    · exact .inr (.inr rfl)
    · rename_i hd; exact .inr (.inl ⟨ob, hc, by simpa using hd, rfl⟩)
  · exact .inl ⟨_, rfl⟩

theorem step_of_err {s : State} {e : Err} (h : s.err = some e) : step s = s := by
  unfold step; simp only [h]

theorem step_of_stack_nil {s : State} (h : s.stack = []) : step s = s := by
  unfold step
  split
  · rfl
  · simp only [h]

theorem step_cases (s : State) : step s = s ∨ ∃ f rest, s.err = none ∧ s.stack = f :: rest := by
  cases he : s.err with
  | some e => exact .inl (step_of_err he)
  | none =>
    cases hst : s.stack with
    | nil => exact .inl (step_of_stack_nil hst)
    | cons f rest => exact .inr ⟨f, rest, rfl, rfl⟩

theorem step_eq_frame {s : State} {f : Frame} {rest : List Frame} (herr : s.err = none)
    (hst : s.stack = f :: rest) :
    step s = match f with
      | .rcDrop o => ({ s with stack := rest } : State).rcDrop o
      | .weakDrop o => ({ s with stack := rest } : State).weakDrop o
      | .dropVal v => ({ s with stack := rest } : State).dropVal v
      | .script _ _ [] => ({ s with stack := rest } : State)
      | .script h w (a :: as) => applyAct (({ s with stack := rest } : State).push [.script h w as]) h w a
      | .panic => ({ s with stack := rest } : State).panic
      | .dropFields h w => ({ s with stack := rest } : State).dropFields h w
      | .finishSingle o => ({ s with stack := rest } : State).finishSingle o
      | .phase3 ks => ks.foldl State.phase3One ({ s with stack := rest } : State) := by
  cases f with
  | script h w acts => cases acts <;> (unfold step; simp only [herr, hst])
  | _ => unfold step; simp only [herr, hst]

end Cactus
