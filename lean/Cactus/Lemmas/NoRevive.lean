import Cactus.Lemmas.Once
/-!
# A destroyed object is never revived (C16 / C05 over whole histories)

`Obj.Le a b`: going from `a` to `b` an allocation does not come back: `freed` stays set, a dead
strong cell (`0` or the `uninit` sentinel) stays dead, a moved-out value stays moved out.
`State.Grow s t`: every allocation of `s` is still there in `t` (same index: the model never reuses
an index) and is `Obj.Le`-related to it, and the event log of `s` is a prefix of the log of `t`.

Every transition of the machine is `Grow`, from an *arbitrary* state: no invariant, no contract,
no hypothesis on the error field (sections 2-4).  `Later s t` is the reflexive-transitive closure of
the transitions that generate `Reachable` (operation start with any hint — not even required to
start from an empty control stack —, machine step, `endOp`, out-of-fuel failure); `Later s t`
implies `Grow s t`, hence dead stays dead, released stays released, moved out stays moved out, and
the log only grows, and `run (ops1 ++ ops2)` is later than `run ops1` (section 5); section 6 reads
this off for `run`.
-/
namespace Cactus
open State

/-! ## 1. The order -/

structure Obj.Le (a b : Obj) : Prop where
  freed : a.freed = true → b.freed = true
  dead : a.strong.isDead = true → b.strong.isDead = true
  value : a.value = none → b.value = none

theorem Obj.Le.refl (a : Obj) : a.Le a := ⟨id, id, id⟩

theorem Obj.Le.trans {a b c : Obj} (h1 : a.Le b) (h2 : b.Le c) : a.Le c :=
  ⟨fun h => h2.freed (h1.freed h), fun h => h2.dead (h1.dead h), fun h => h2.value (h1.value h)⟩

/-- every allocation of `h` is still in `h'`, at the same index, and has not come back -/
def HeapLe (h h' : List Obj) : Prop :=
  ∀ (o : Nat) (ob : Obj), h[o]? = some ob → ∃ ob', h'[o]? = some ob' ∧ ob.Le ob'

theorem HeapLe.refl (h : List Obj) : HeapLe h h := fun _ ob hg => ⟨ob, hg, Obj.Le.refl ob⟩

theorem HeapLe.trans {a b c : List Obj} (h1 : HeapLe a b) (h2 : HeapLe b c) : HeapLe a c := by
  intro o ob hg
  obtain ⟨ob', hg', hle'⟩ := h1 o ob hg
  obtain ⟨ob'', hg'', hle''⟩ := h2 o ob' hg'
  exact ⟨ob'', hg'', hle'.trans hle''⟩

theorem HeapLe.length_le {a b : List Obj} (h : HeapLe a b) : a.length ≤ b.length := by
  cases hn : a.length with
  | zero => exact Nat.zero_le _
  | succ n =>
    have hlt : n < a.length := by omega
    obtain ⟨ob', hg', _⟩ := h n a[n] (List.getElem?_eq_getElem hlt)
    have := (List.getElem?_eq_some_iff.mp hg').1
    omega

theorem HeapLe.append (h : List Obj) (l : List Obj) : HeapLe h (h ++ l) := by
  intro o ob hg
  have hlt := (List.getElem?_eq_some_iff.mp hg).1
  exact ⟨ob, by rw [List.getElem?_append_left hlt]; exact hg, Obj.Le.refl ob⟩

theorem HeapLe.set {h : List Obj} {o : Nat} {ob ob' : Obj} (hg : h[o]? = some ob) (hle : ob.Le ob') :
    HeapLe h (h.set o ob') := by
  intro x obx hx
  by_cases hxo : o = x
  · subst hxo
    rw [hg] at hx; cases hx
    have hlt := (List.getElem?_eq_some_iff.mp hg).1
    exact ⟨ob', by simp [hlt], hle⟩
  · exact ⟨obx, by rw [List.getElem?_set_ne hxo]; exact hx, Obj.Le.refl obx⟩

/-- the order on (heap, log) pairs; `Grow` is this order on the two fields of a state -/
def HL (h : List Obj) (l : List Ev) (h' : List Obj) (l' : List Ev) : Prop :=
  HeapLe h h' ∧ l <+: l'

theorem HL.refl (h : List Obj) (l : List Ev) : HL h l h l := ⟨HeapLe.refl h, List.prefix_refl l⟩

theorem HL.trans {h1 h2 h3 : List Obj} {l1 l2 l3 : List Ev} (a : HL h1 l1 h2 l2) (b : HL h2 l2 h3 l3) :
    HL h1 l1 h3 l3 := ⟨a.1.trans b.1, a.2.trans b.2⟩

def State.Grow (s t : State) : Prop := HL s.heap s.log t.heap t.log

namespace State
namespace Grow

theorem refl (s : State) : s.Grow s := HL.refl _ _
theorem trans {a b c : State} (h1 : a.Grow b) (h2 : b.Grow c) : a.Grow c := HL.trans h1 h2

theorem heapLe {s t : State} (h : s.Grow t) : HeapLe s.heap t.heap := h.1
theorem log_prefix {s t : State} (h : s.Grow t) : s.log <+: t.log := h.2
theorem length_le {s t : State} (h : s.Grow t) : s.heap.length ≤ t.heap.length := h.1.length_le

theorem of_eq {s t : State} (hh : t.heap = s.heap) (hl : t.log = s.log) : s.Grow t := by
  unfold Grow; rw [hh, hl]; exact HL.refl _ _

/-! ### what `Grow` says about one allocation -/

theorem isLive_false {s t : State} (h : s.Grow t) {o : Nat} (ho : o < s.heap.length)
    (hd : s.isLive o = false) : t.isLive o = false := by
  obtain ⟨ob', hg', hle⟩ := h.1 o s.heap[o] (List.getElem?_eq_getElem ho)
  unfold isLive at hd ⊢
  rw [List.getElem?_eq_getElem ho] at hd
  rw [hg']
  simp only [Bool.and_eq_false_iff, Bool.not_eq_false'] at hd ⊢
  rcases hd with hf | hdd
  · exact .inl (hle.freed hf)
  · exact .inr (hle.dead hdd)

theorem freed_stays {s t : State} (h : s.Grow t) {o : Nat} {ob : Obj} (hg : s.heap[o]? = some ob)
    (hf : ob.freed = true) : ∃ ob', t.heap[o]? = some ob' ∧ ob'.freed = true :=
  let ⟨ob', hg', hle⟩ := h.1 o ob hg
  ⟨ob', hg', hle.freed hf⟩

theorem dead_stays {s t : State} (h : s.Grow t) {o : Nat} {ob : Obj} (hg : s.heap[o]? = some ob)
    (hd : ob.strong.isDead = true) : ∃ ob', t.heap[o]? = some ob' ∧ ob'.strong.isDead = true :=
  let ⟨ob', hg', hle⟩ := h.1 o ob hg
  ⟨ob', hg', hle.dead hd⟩

theorem value_none_stays {s t : State} (h : s.Grow t) {o : Nat} {ob : Obj} (hg : s.heap[o]? = some ob)
    (hv : ob.value = none) : ∃ ob', t.heap[o]? = some ob' ∧ ob'.value = none :=
  let ⟨ob', hg', hle⟩ := h.1 o ob hg
  ⟨ob', hg', hle.value hv⟩

/-- a `Weak` to a dead object can never be upgraded again: the cell, if still readable, is dead -/
theorem cell_dead {s t : State} (h : s.Grow t) {o : Nat} (ho : o < s.heap.length)
    (hd : s.isLive o = false) {ob' : Obj} (hc : t.cell o = some ob') : ob'.strong.isDead = true := by
  have hl := h.isLive_false ho hd
  have hg := cell_some_get t o ob' hc
  unfold isLive at hl
  rw [hg.1] at hl
  simpa [hg.2] using hl

/-! ## 2. The primitives -/

theorem fail (s : State) (e : Err) : s.Grow (s.fail e) := of_eq (fail_heap s e) (fail_log s e)

theorem emit (s : State) (e : Ev) : s.Grow (s.emit e) :=
  ⟨HeapLe.refl _, List.prefix_append _ _⟩

theorem push (s : State) (fs : List Frame) : s.Grow (s.push fs) := of_eq rfl rfl

theorem setObj {s : State} {o : Nat} {ob : Obj} (ob' : Obj) (hc : s.cell o = some ob) (hle : ob.Le ob') :
    s.Grow (s.setObj o ob') :=
  ⟨HeapLe.set (cell_some_get s o ob hc).1 hle, List.prefix_refl _⟩

theorem alloc (s : State) (v : Val) : s.Grow (s.alloc v) :=
  ⟨HeapLe.append _ _, List.prefix_refl _⟩

/-! ## 3. The library functions -/

theorem setLinks (s : State) (o : Nat) (f : Table → Table) : s.Grow (s.setLinks o f) := by
  rcases setLinks_cases s o f with ⟨e, he⟩ | ⟨ob, t, hc, _, he⟩ <;> rw [he]
  · exact fail s e
  · exact setObj _ hc ⟨id, id, id⟩

theorem incStrong (s : State) (o : Nat) : s.Grow (s.incStrong o) := by
  rcases incStrong_cases s o with ⟨e, he⟩ | ⟨ob, n, hc, hs, he⟩ <;> rw [he]
  · exact fail s e
  · exact setObj _ hc ⟨id, fun hd => (by rw [hs] at hd; cases hd), id⟩

theorem incWeak (s : State) (o : Nat) : s.Grow (s.incWeak o) := by
  rcases incWeak_cases s o with ⟨e, he⟩ | ⟨ob, hc, _, he⟩ <;> rw [he]
  · exact fail s e
  · exact setObj _ hc ⟨id, id, id⟩

theorem decWeakFree (s : State) (o : Nat) (imp : Bool) : s.Grow (s.decWeakFree o imp) := by
  rcases decWeakFree_cases s o imp with ⟨e, he⟩ | ⟨ob, hc, _, he⟩ | ⟨ob, w, hc, _, he⟩ <;> rw [he]
  · exact fail s e
  · exact (setObj _ hc (by exact ⟨fun _ => rfl, id, id⟩)).trans (emit _ _)
  · exact setObj _ hc ⟨id, id, id⟩

theorem modVal (s : State) (o : Nat) (f : Val → Val) : s.Grow (s.modVal o f) := by
  rcases modVal_cases s o f with ⟨e, he⟩ | ⟨ob, v, hc, hv, he⟩ <;> rw [he]
  · exact fail s e
  · exact setObj _ hc ⟨id, id, fun h => by rw [hv] at h; cases h⟩

theorem unadopt (s : State) (a b : Nat) (same : Bool) : s.Grow (s.unadopt a b same) :=
  unadopt_rel (R := Grow) trans (fun s o f _ => setLinks s o f) s a b same

theorem purgePeers (s : State) (x : Nat) : s.Grow (s.purgePeers x) :=
  purgePeers_rel refl trans (fun s o f _ => setLinks s o f) (fun s e _ => fail s e) s x

theorem beginSingle (s : State) (o : Nat) : s.Grow (s.beginSingle o) := by
  unfold State.beginSingle
  split
  · split
    · exact decWeakFree _ _ _
    · split
      · exact (setObj _ ‹_› (by exact ⟨id, fun _ => rfl, fun _ => rfl⟩)).trans (push _ _)
      · exact fail _ _
  · exact fail _ _

theorem finishSingle (s : State) (o : Nat) : s.Grow (s.finishSingle o) := by
  unfold State.finishSingle
  split
  · split
    · exact (setObj _ ‹_› (by exact ⟨id, id, id⟩)).trans (decWeakFree _ _ _)
    · exact fail _ _
  · exact fail _ _

theorem phase1One (keys : List Nat) (s : State) (e : Nat × Nat) : s.Grow (State.phase1One keys s e) := by
  unfold State.phase1One
  split
  · split
    · rename_i ob hc _ _ t st hl hst
      refine setObj _ hc ⟨id, fun hd => ?_, id⟩
      -- a dead count is `0`, and phase 1 only subtracts
      rw [hst] at hd
      cases st with
      | zero => rw [Nat.zero_sub]; rfl
      | succ n => cases hd
    · exact fail _ _
    · exact fail _ _
  · exact fail _ _

/-- phase 2 threads a pair; only the state matters here -/
theorem phase2One (acc : State × List Val) (k : Nat) : acc.1.Grow (State.phase2One acc k).1 := by
  unfold State.phase2One
  split
  · split
    · split
      · exact setObj _ ‹_› (by exact ⟨id, fun _ => rfl, fun _ => rfl⟩)
      · exact fail _ _
    · exact refl _
  · exact fail _ _

theorem phase3One (s : State) (k : Nat) : s.Grow (s.phase3One k) := by
  unfold State.phase3One
  split
  · split
    · exact decWeakFree _ _ _
    · exact refl s
  · exact fail _ _

theorem dropCycle (s : State) (c : CMap) : s.Grow (s.dropCycle c) := by
  unfold State.dropCycle
  exact ((foldl_lift refl trans (phase1One c.keys) c s).trans
    (foldl_lift (Q := fun a b => a.1.Grow b.1) (fun a => refl a.1) trans phase2One c.keys (_, []))).trans (push _ _)

theorem rcDrop (s : State) (o : Nat) : s.Grow (s.rcDrop o) :=
  rcDrop_lift refl trans fail
    (fun hc hs => setObj _ hc ⟨id, fun hd => (by rw [hs] at hd; cases hd), id⟩)
    beginSingle purgePeers (fun s _ _ _ => emit s _) dropCycle s o

theorem dropVal (s : State) (v : Val) : s.Grow (s.dropVal v) := (emit _ _).trans (push _ _)

theorem panic (s : State) : s.Grow s.panic := by
  unfold State.panic
  split
  · exact fail _ _
  · exact of_eq rfl rfl

theorem dropFields (s : State) (hs ws : List Nat) : s.Grow (s.dropFields hs ws) := by
  unfold State.dropFields
  split
  · exact push _ _
  · exact push _ _
  · exact refl s

theorem weakDrop (s : State) (o : Nat) : s.Grow (s.weakDrop o) := decWeakFree _ _ _

theorem giveUp (s : State) (o : Nat) : s.Grow (s.giveUp o) := by
  unfold State.giveUp
  split
  · exact ((purgePeers s o).trans (setObj _ ‹_› (by exact ⟨id, fun _ => rfl, fun _ => rfl⟩))).trans (decWeakFree _ _ _)
  · exact (purgePeers s o).trans (fail _ _)

theorem badRoot (s : State) (r : Nat) : s.Grow (s.badRoot r) := by
  rcases badRoot_cases s r with h | ⟨e, h⟩ <;> rw [h]
  · exact refl s
  · exact fail s e

end Grow
end State

namespace HL
variable {h : List Obj} {l : List Ev}

theorem of_grow {t t' : State} (g : t.Grow t') (a : HL h l t.heap t.log) : HL h l t'.heap t'.log :=
  HL.trans a g

theorem incStrong (t : State) (o : Nat) (a : HL h l t.heap t.log) :
    HL h l (t.incStrong o).heap (t.incStrong o).log := of_grow (Grow.incStrong t o) a
theorem unadopt (t : State) (x y : Nat) (b : Bool) (a : HL h l t.heap t.log) :
    HL h l (t.unadopt x y b).heap (t.unadopt x y b).log := of_grow (Grow.unadopt t x y b) a
theorem giveUp (t : State) (o : Nat) (a : HL h l t.heap t.log) :
    HL h l (t.giveUp o).heap (t.giveUp o).log := of_grow (Grow.giveUp t o) a

end HL

/-! ## 4. Actions, operations, machine steps -/

namespace State
namespace Grow

theorem prim {a : Act} {t u : State} (p : Prim a t u) : t.Grow u := by
  cases p with
  | fail => exact fail _ _
  | ret => exact emit _ _
  | incStrong => exact incStrong _ _
  | incWeak => exact incWeak _ _
  | setLinks => exact setLinks _ _ _
  | modVal => exact modVal _ _ _
  | alloc => exact alloc _ _
  | giveUp => exact giveUp _ _
  | handles | valsPush | valsErase | nextVid => exact of_eq rfl rfl

/-- every action, top level or inside a destructor, in any state -/
theorem applyAct (s : State) (fh fw : List Nat) (a : Act) : s.Grow (Cactus.applyAct s fh fw a) :=
  (applyAct_shape s fh fw a).lift refl trans prim (fun t d _ _ => push t [d])

theorem begin (s : State) (hint : List Nat) : s.Grow (s.begin hint) := of_eq rfl rfl

theorem applyOp (s : State) (op : Op) : s.Grow (Cactus.applyOp s op) := by
  cases op with
  | act a => exact applyAct s [] [] a
  | setScript q acts =>
    simp only [Cactus.applyOp]; split
    · exact modVal _ _ _
    · exact badRoot s q
  | shuffle q i =>
    simp only [Cactus.applyOp]; split
    · exact setLinks _ _ _
    · exact badRoot s q

theorem step (s : State) : s.Grow (Cactus.step s) := by
  rcases step_cases s with h | ⟨f, rest, he, hst⟩
  · rw [h]; exact refl s
  · rw [step_eq_frame he hst]
    have h0 : s.Grow { s with stack := rest } := of_eq rfl rfl
    cases f with
    | rcDrop o => exact h0.trans (rcDrop _ o)
    | weakDrop o => exact h0.trans (weakDrop _ o)
    | dropVal v => exact h0.trans (dropVal _ v)
    | script hs ws acts =>
      cases acts with
      | nil => exact h0
      | cons a as => exact (h0.trans (push _ _)).trans (applyAct _ hs ws a)
    | panic => exact h0.trans (panic _)
    | dropFields hs ws => exact h0.trans (dropFields _ hs ws)
    | finishSingle o => exact h0.trans (finishSingle _ o)
    | phase3 ks => exact h0.trans (foldl_lift refl trans phase3One ks _)

theorem endOp (s : State) : s.Grow (Cactus.endOp s) := by
  unfold Cactus.endOp
  split
  · exact (of_eq (t := { s with unwinding := false }) rfl rfl).trans (emit _ _)
  · exact refl s

end Grow
end State

/-! ## 5. Whole histories -/

/-- `Later s t`: `t` is obtained from `s` by the transitions that generate `Reachable`
(`Spec/Reach.lean`): start of an operation with any layout hint, one machine step, the operation
boundary, the out-of-fuel failure.  (The start of an operation is not even required to happen in a
quiescent state, so `Later` contains every continuation of every execution.) -/
inductive Later : State → State → Prop
  | refl (s : State) : Later s s
  | op {s t : State} (o : Op) (hint : List Nat) : Later s t → Later s (applyOp (t.begin hint) o)
  | step {s t : State} : Later s t → Later s (step t)
  | endOp {s t : State} : Later s t → Later s (endOp t)
  | outOfFuel {s t : State} : Later s t → Later s (t.fail .fuel)

namespace Later

theorem trans {a b c : State} (h1 : Later a b) (h2 : Later b c) : Later a c := by
  induction h2 with
  | refl => exact h1
  | op o hint _ ih => exact .op o hint ih
  | step _ ih => exact .step ih
  | endOp _ ih => exact .endOp ih
  | outOfFuel _ ih => exact .outOfFuel ih

theorem of_reachable {s : State} (h : Reachable s) : Later {} s := by
  induction h with
  | init => exact .refl _
  | op o hint _ _ ih => exact .op o hint ih
  | step _ ih => exact .step ih
  | endOp _ ih => exact .endOp ih
  | outOfFuel _ ih => exact .outOfFuel ih

theorem drain (f : Nat) (s : State) : Later s (drain f s) := by
  induction f generalizing s with
  | zero =>
    unfold Cactus.drain
    split
    · exact .refl s
    · exact .outOfFuel (.refl s)
  | succ f ih =>
    unfold Cactus.drain
    split
    · exact (Later.step (.refl s)).trans (ih _)
    · exact .refl s

theorem execOp (fuel : Nat) (s : State) (o : Op) (hint : List Nat) : Later s (execOp fuel s o hint) := by
  unfold Cactus.execOp
  split
  · exact .refl s
  · exact .endOp ((Later.op o hint (.refl s)).trans (drain fuel _))

theorem foldl_execOp (fuel : Nat) (ops : List (Op × List Nat)) (s : State) :
    Later s (ops.foldl (fun s oh => Cactus.execOp fuel s oh.1 oh.2) s) := by
  induction ops generalizing s with
  | nil => exact .refl s
  | cons oh r ih => exact (execOp fuel s oh.1 oh.2).trans (ih _)

/-- the main lemma: along any execution nothing comes back and the log only grows -/
theorem grow {s t : State} (h : Later s t) : s.Grow t := by
  induction h with
  | refl => exact Grow.refl _
  | op o hint _ ih => exact (ih.trans (Grow.begin _ hint)).trans (Grow.applyOp _ o)
  | step _ ih => exact ih.trans (Grow.step _)
  | endOp _ ih => exact ih.trans (Grow.endOp _)
  | outOfFuel _ ih => exact ih.trans (Grow.fail _ _)

end Later

namespace State
namespace Grow

theorem drain (f : Nat) (s : State) : s.Grow (Cactus.drain f s) := (Later.drain f s).grow

theorem execOp (fuel : Nat) (s : State) (op : Op) (hint : List Nat) :
    s.Grow (Cactus.execOp fuel s op hint) := (Later.execOp fuel s op hint).grow

end Grow
end State

/-! ### Per transition, as statements about `isLive` (no hypothesis on the state) -/

theorem step_isLive_false (s : State) (o : Nat) (ho : o < s.heap.length) (hd : s.isLive o = false) :
    (step s).isLive o = false := (Grow.step s).isLive_false ho hd

theorem applyAct_isLive_false (s : State) (fh fw : List Nat) (a : Act) (o : Nat) (ho : o < s.heap.length)
    (hd : s.isLive o = false) : (applyAct s fh fw a).isLive o = false :=
  (Grow.applyAct s fh fw a).isLive_false ho hd

theorem applyOp_isLive_false (s : State) (op : Op) (o : Nat) (ho : o < s.heap.length)
    (hd : s.isLive o = false) : (applyOp s op).isLive o = false := (Grow.applyOp s op).isLive_false ho hd

theorem endOp_isLive_false (s : State) (o : Nat) (ho : o < s.heap.length) (hd : s.isLive o = false) :
    (endOp s).isLive o = false := (Grow.endOp s).isLive_false ho hd

theorem hint_isLive_false (s : State) (h : List Nat) (o : Nat) (hd : s.isLive o = false) :
    ({ s with hint := h } : State).isLive o = false := hd

theorem fail_isLive_false (s : State) (e : Err) (o : Nat) (hd : s.isLive o = false) :
    (s.fail e).isLive o = false := by
  unfold State.isLive at hd ⊢; rw [fail_heap]; exact hd

theorem drain_isLive_false (f : Nat) (s : State) (o : Nat) (ho : o < s.heap.length)
    (hd : s.isLive o = false) : (drain f s).isLive o = false := (Grow.drain f s).isLive_false ho hd

theorem execOp_isLive_false (fuel : Nat) (s : State) (op : Op) (hint : List Nat) (o : Nat)
    (ho : o < s.heap.length) (hd : s.isLive o = false) : (execOp fuel s op hint).isLive o = false :=
  (Grow.execOp fuel s op hint).isLive_false ho hd

theorem step_heap_length (s : State) : s.heap.length ≤ (step s).heap.length := (Grow.step s).length_le
theorem applyAct_heap_length (s : State) (fh fw : List Nat) (a : Act) :
    s.heap.length ≤ (applyAct s fh fw a).heap.length := (Grow.applyAct s fh fw a).length_le
theorem applyOp_heap_length (s : State) (op : Op) : s.heap.length ≤ (applyOp s op).heap.length :=
  (Grow.applyOp s op).length_le
theorem endOp_heap_length (s : State) : s.heap.length ≤ (endOp s).heap.length := (Grow.endOp s).length_le
theorem fail_heap_length (s : State) (e : Err) : s.heap.length ≤ (s.fail e).heap.length :=
  (Grow.fail s e).length_le

theorem step_freed (s : State) (o : Nat) (ob : Obj) (hg : s.heap[o]? = some ob) (hf : ob.freed = true) :
    ∃ ob', (step s).heap[o]? = some ob' ∧ ob'.freed = true := (Grow.step s).freed_stays hg hf
theorem applyAct_freed (s : State) (fh fw : List Nat) (a : Act) (o : Nat) (ob : Obj)
    (hg : s.heap[o]? = some ob) (hf : ob.freed = true) :
    ∃ ob', (applyAct s fh fw a).heap[o]? = some ob' ∧ ob'.freed = true :=
  (Grow.applyAct s fh fw a).freed_stays hg hf
theorem applyOp_freed (s : State) (op : Op) (o : Nat) (ob : Obj)
    (hg : s.heap[o]? = some ob) (hf : ob.freed = true) :
    ∃ ob', (applyOp s op).heap[o]? = some ob' ∧ ob'.freed = true := (Grow.applyOp s op).freed_stays hg hf

theorem step_value_none (s : State) (o : Nat) (ob : Obj) (hg : s.heap[o]? = some ob) (hv : ob.value = none) :
    ∃ ob', (step s).heap[o]? = some ob' ∧ ob'.value = none := (Grow.step s).value_none_stays hg hv
theorem applyAct_value_none (s : State) (fh fw : List Nat) (a : Act) (o : Nat) (ob : Obj)
    (hg : s.heap[o]? = some ob) (hv : ob.value = none) :
    ∃ ob', (applyAct s fh fw a).heap[o]? = some ob' ∧ ob'.value = none :=
  (Grow.applyAct s fh fw a).value_none_stays hg hv
theorem applyOp_value_none (s : State) (op : Op) (o : Nat) (ob : Obj)
    (hg : s.heap[o]? = some ob) (hv : ob.value = none) :
    ∃ ob', (applyOp s op).heap[o]? = some ob' ∧ ob'.value = none := (Grow.applyOp s op).value_none_stays hg hv

theorem later_run_append (ops1 ops2 : List (Op × List Nat)) : Later (run ops1) (run (ops1 ++ ops2)) := by
  rw [run_append]; exact Later.foldl_execOp _ _ _

/-- a destroyed (or released) object is never live again -/
theorem later_isLive_false {s t : State} (h : Later s t) {o : Nat} (ho : o < s.heap.length)
    (hd : s.isLive o = false) : o < t.heap.length ∧ t.isLive o = false :=
  ⟨Nat.lt_of_lt_of_le ho h.grow.length_le, h.grow.isLive_false ho hd⟩

/-- a released allocation stays released (the model never reuses an index) -/
theorem later_freed {s t : State} (h : Later s t) {o : Nat} {ob : Obj} (hg : s.heap[o]? = some ob)
    (hf : ob.freed = true) : ∃ ob', t.heap[o]? = some ob' ∧ ob'.freed = true :=
  h.grow.freed_stays hg hf

/-- a dead strong cell stays dead (also while the allocation is kept alive by Weaks) -/
theorem later_dead {s t : State} (h : Later s t) {o : Nat} {ob : Obj} (hg : s.heap[o]? = some ob)
    (hd : ob.strong.isDead = true) : ∃ ob', t.heap[o]? = some ob' ∧ ob'.strong.isDead = true :=
  h.grow.dead_stays hg hd

/-- a moved-out value is never put back -/
theorem later_value_none {s t : State} (h : Later s t) {o : Nat} {ob : Obj} (hg : s.heap[o]? = some ob)
    (hv : ob.value = none) : ∃ ob', t.heap[o]? = some ob' ∧ ob'.value = none :=
  h.grow.value_none_stays hg hv

theorem later_log_prefix {s t : State} (h : Later s t) : s.log <+: t.log := h.grow.log_prefix

theorem later_heap_length {s t : State} (h : Later s t) : s.heap.length ≤ t.heap.length := h.grow.length_le

/-! ## 6. `run` -/

theorem run_isLive_false (ops1 ops2 : List (Op × List Nat)) (o : Nat) (ho : o < (run ops1).heap.length)
    (hd : (run ops1).isLive o = false) : (run (ops1 ++ ops2)).isLive o = false :=
  (later_isLive_false (later_run_append ops1 ops2) ho hd).2

theorem run_heap_length (ops1 ops2 : List (Op × List Nat)) :
    (run ops1).heap.length ≤ (run (ops1 ++ ops2)).heap.length :=
  later_heap_length (later_run_append ops1 ops2)

theorem run_log_prefix (ops1 ops2 : List (Op × List Nat)) : (run ops1).log <+: (run (ops1 ++ ops2)).log :=
  later_log_prefix (later_run_append ops1 ops2)

theorem prefix_filterMap {α β : Type} (f : α → Option β) {l l' : List α} (h : l <+: l') :
    l.filterMap f <+: l'.filterMap f := by
  obtain ⟨r, rfl⟩ := h
  rw [List.filterMap_append]
  exact List.prefix_append _ _

/-- a `destroyed v` event, once logged, stays -/
theorem later_destroyedVids_prefix {s t : State} (h : Later s t) : s.destroyedVids <+: t.destroyedVids :=
  prefix_filterMap _ (later_log_prefix h)

theorem later_freedIds_prefix {s t : State} (h : Later s t) : s.freedIds <+: t.freedIds :=
  prefix_filterMap _ (later_log_prefix h)

theorem run_destroyedVids_prefix (ops1 ops2 : List (Op × List Nat)) :
    (run ops1).destroyedVids <+: (run (ops1 ++ ops2)).destroyedVids :=
  later_destroyedVids_prefix (later_run_append ops1 ops2)

end Cactus
