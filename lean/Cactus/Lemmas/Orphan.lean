import Cactus.Lemmas.Count
import Cactus.Lemmas.Trace
/-!
# The orphan test on a state that satisfies the invariants

For a live start object `x` in a state with `InvO` and `InvB` the trace `cycleRefs s x` finishes
normally, visits live objects only and all keys of its map are live.  If moreover the map is
non-empty and `hasExternalOwners` answered `false`, the keys are exactly the visited objects and
no live object outside the group adopts or is adopted by a member.
-/
namespace Cactus

/-! ## live objects -/

theorem State.isLive_iff (s : State) (o : Nat) :
    s.isLive o = true ↔ ∃ ob n, s.heap[o]? = some ob ∧ ob.freed = false ∧ ob.strong = .cnt (n + 1) :=
  s.isLive_eq_true_iff o

theorem State.live_tableOf {s : State} (hO : s.InvO) {a : Nat} (ha : s.isLive a = true) :
    ∃ t, s.tableOf a = some t := by
  obtain ⟨ob, n, hget, hfr, hst⟩ := (s.isLive_iff a).mp ha
  obtain ⟨-, hl, -, -⟩ := (hO a ob hget).1 n hst
  obtain ⟨t, hlk⟩ := Option.isSome_iff_exists.mp hl
  exact ⟨t, (s.tableOf_eq_some_iff a t).mpr ⟨ob, hget, hfr, hlk⟩⟩

theorem State.live_cell {s : State} {a : Nat} (ha : s.isLive a = true) :
    (s.cell a).isNone = false := by
  obtain ⟨ob, n, hget, hfr, -⟩ := (s.isLive_iff a).mp ha
  rw [State.cell_of_not_freed hget hfr]; rfl

theorem State.live_strong {s : State} {a : Nat} (ha : s.isLive a = true) :
    ∃ n, s.strongOf a = .cnt (n + 1) ∧ s.strongNat a = n + 1 := by
  obtain ⟨ob, n, hget, -, hst⟩ := (s.isLive_iff a).mp ha
  exact ⟨n, by rw [State.strongOf_of_get hget, hst], by rw [State.strongNat_of_get hget, hst]; rfl⟩

/-- all readable tables are well formed (an unreadable one reads as `[]`) -/
theorem State.tbl_WF {s : State} (hB : s.InvB) (n : Nat) : (s.tbl n).WF := by
  unfold State.tbl
  cases h : s.tableOf n with
  | none => exact Table.WF_nil
  | some t => exact (hB.1 n t h).1

/-- non-loopback entries of readable tables name live objects -/
theorem State.entry_live {s : State} (hB : s.InvB) {n : Nat} {l : Link} {c : Nat}
    (h : (l, c) ∈ s.tbl n) (hk : l.kind ≠ .loop) : s.isLive l.ptr = true := by
  unfold State.tbl at h
  cases ht : s.tableOf n with
  | none => simp [ht] at h
  | some t =>
    simp only [ht, Option.getD_some] at h
    exact ((hB.1 n t ht).2 (l, c) h).2 hk

theorem State.named_live {s : State} (hB : s.InvB) {n j : Nat} (h : named (s.tbl n) j) :
    s.isLive j = true := by
  rcases h with ⟨c, hc⟩ | ⟨c, hc⟩
  · exact s.entry_live hB hc (by simp)
  · exact s.entry_live hB hc (by simp)

theorem State.F_pos_iff {s : State} (hB : s.InvB) (a b : Nat) :
    0 < s.F a b ↔ ∃ c, (⟨b, .fwd⟩, c) ∈ s.tbl a :=
  (Table.mem_keys_iff_get_pos _ (s.tbl_WF hB a) _).symm

theorem State.B_pos_iff {s : State} (hB : s.InvB) (b a : Nat) :
    0 < s.B b a ↔ ∃ c, (⟨a, .bwd⟩, c) ∈ s.tbl b :=
  (Table.mem_keys_iff_get_pos _ (s.tbl_WF hB b) _).symm

theorem FwdReach.live {s : State} (hB : s.InvB) {x n : Nat} (h : FwdReach s x n)
    (hx : s.isLive x = true) : s.isLive n = true := by
  induction h with
  | refl => exact hx
  | step _ hc _ => exact s.entry_live hB hc (by simp)

theorem FwdReach.start {s : State} {x n : Nat} (h : FwdReach s x n) :
    n = x ∨ ∃ j c, (⟨j, .fwd⟩, c) ∈ s.tbl x := by
  induction h with
  | refl => exact Or.inl rfl
  | step _ hc ih =>
    rcases ih with h1 | h1
    · subst h1; exact Or.inr ⟨_, _, hc⟩
    · exact Or.inr h1

theorem FwdReach.last {s : State} {x n : Nat} (h : FwdReach s x n) :
    n = x ∨ ∃ m c, FwdReach s x m ∧ (⟨n, .fwd⟩, c) ∈ s.tbl m := by
  cases h with
  | refl => exact Or.inl rfl
  | step h1 hc => exact Or.inr ⟨_, _, h1, hc⟩

theorem sumOver_pos {l : List Nat} {g : Nat → Nat} (h : 0 < sumOver l g) : ∃ n ∈ l, 0 < g n := by
  obtain ⟨n, hn, hg⟩ := (State.sumList_map_pos_iff l g).mp h
  exact ⟨n, hn, hg⟩

theorem CMap.mem_of_mem_keys (m : CMap) (k : Nat) (h : k ∈ m.keys) : (k, m.get k) ∈ m := by
  induction m with
  | nil => simp [CMap.keys] at h
  | cons hd r ih =>
    obtain ⟨k', c⟩ := hd
    simp only [CMap.keys, List.map_cons, List.mem_cons] at h ih
    by_cases hk : k' = k
    · subst hk; simp [CMap.get]
    · have : k ∈ List.map (·.1) r := by
        rcases h with h | h
        · exact absurd h.symm hk
        · exact h
      simp only [CMap.get, hk, if_false]
      exact List.mem_cons_of_mem _ (ih this)

/-! ## the trace finishes normally -/

theorem traceLoop_bad_none (s : State) (hO : s.InvO) (hB : s.InvB) (f : Nat)
    (wl vis : List Nat) (m : CMap) (p : Nat) (h : ∀ n ∈ wl, s.isLive n = true) :
    (traceLoop s f wl vis m p).bad = none := by
  refine traceLoop_induct s (P := fun _ wl _ _ _ r => (∀ n ∈ wl, s.isLive n = true) → r.bad = none)
    ?_ ?_ ?_ ?_ ?_ f wl vis m p h
  · intro wl vis m p _; rfl
  · intro f vis m p _; rfl
  · intro f n wl vis m p r _ ih h; exact ih (fun a ha => h a (List.mem_cons_of_mem _ ha))
  · intro f n wl vis m p _ ht h
    obtain ⟨t, ht'⟩ := s.live_tableOf hO (h n List.mem_cons_self)
    rw [ht] at ht'; cases ht'
  · intro f n wl vis m p t r _ ht ih h
    apply ih
    intro a ha
    rcases (scan_wl _ _ _).mp ha with h1 | ⟨c, hc⟩
    · exact h a (List.mem_cons_of_mem _ h1)
    · rw [← State.tbl_of_some ht] at hc
      exact s.entry_live hB hc (by simp)

theorem cycleRefs_ok (s : State) (x : Nat) (hO : s.InvO) (hB : s.InvB) (hx : s.isLive x = true) :
    (cycleRefs s x).bad = none ∧ (cycleRefs s x).outOfFuel = false := by
  refine ⟨?_, cycleRefs_fuel s x⟩
  unfold cycleRefs
  apply traceLoop_bad_none s hO hB
  intro n hn
  simp only [List.mem_singleton] at hn
  subst hn
  exact hx

/-- in a state that satisfies the invariants the trace from a live object finishes normally -/
theorem State.traced {s : State} (x : Nat) (hO : s.InvO) (hB : s.InvB) (hx : s.isLive x = true) :
    Traced s x :=
  cycleRefs_traced (cycleRefs_ok s x hO hB hx).1

/-! ## visited objects and keys are live -/

theorem visited_live (s : State) (x : Nat) (hO : s.InvO) (hB : s.InvB) (hx : s.isLive x = true) :
    ∀ n ∈ (cycleRefs s x).visited, s.isLive n = true :=
  fun n hn => (((s.traced x hO hB hx).reach n).mp hn).live hB hx

theorem keys_live (s : State) (x : Nat) (hO : s.InvO) (hB : s.InvB) (hx : s.isLive x = true) :
    ∀ k ∈ (cycleRefs s x).cmap.keys, s.isLive k = true := by
  intro k hk
  obtain ⟨n, -, hnm⟩ := ((s.traced x hO hB hx).key k).mp hk
  exact s.named_live hB hnm

theorem firstUnreadable_none (s : State) (x : Nat) (hO : s.InvO) (hB : s.InvB)
    (hx : s.isLive x = true) : firstUnreadable s (cycleRefs s x).cmap = none := by
  unfold firstUnreadable
  rw [List.find?_eq_none]
  intro k hk
  simp [State.live_cell (keys_live s x hO hB hx k hk)]

theorem keys_nodup (s : State) (x : Nat) (hO : s.InvO) (hB : s.InvB) (hx : s.isLive x = true) :
    (cycleRefs s x).cmap.keys.Nodup :=
  (s.traced x hO hB hx).keysNodup

theorem visited_nodup (s : State) (x : Nat) (hO : s.InvO) (hB : s.InvB) (hx : s.isLive x = true) :
    (cycleRefs s x).visited.Nodup :=
  (s.traced x hO hB hx).nodup

theorem cmap_get_eq (s : State) (x : Nat) (hO : s.InvO) (hB : s.InvB) (hx : s.isLive x = true) :
    ∀ k, (cycleRefs s x).cmap.get k = sumOver (cycleRefs s x).visited (fun n => s.F n k) := by
  intro k
  rw [(s.traced x hO hB hx).get k]
  exact sumOver_congr _ (fun n _ => fwdCount_eq_get _ (s.tbl_WF hB n) k)

/-! ## after a passed orphan test -/

theorem strong_le_cmap (s : State) (x : Nat) (hO : s.InvO) (hB : s.InvB) (hx : s.isLive x = true)
    (hext : hasExternalOwners s (cycleRefs s x).cmap = false) :
    ∀ k ∈ (cycleRefs s x).cmap.keys, s.strongNat k ≤ (cycleRefs s x).cmap.get k := by
  intro k hk
  have hm := CMap.mem_of_mem_keys _ k hk
  unfold hasExternalOwners at hext
  rw [List.any_eq_false] at hext
  have h1 := hext _ hm
  obtain ⟨n, hso, hsn⟩ := State.live_strong (keys_live s x hO hB hx k hk)
  simp only [hso, strongExceeds] at h1
  rw [hsn]
  simpa using h1

/-- every key is the target of a Forward entry of a visited object -/
theorem key_has_adopter (s : State) (x : Nat) (hO : s.InvO) (hB : s.InvB) (hx : s.isLive x = true)
    (hext : hasExternalOwners s (cycleRefs s x).cmap = false) :
    ∀ k ∈ (cycleRefs s x).cmap.keys, ∃ n ∈ (cycleRefs s x).visited, 0 < s.F n k := by
  intro k hk
  have h1 := strong_le_cmap s x hO hB hx hext k hk
  obtain ⟨n, -, hsn⟩ := State.live_strong (keys_live s x hO hB hx k hk)
  rw [cmap_get_eq s x hO hB hx k] at h1
  exact sumOver_pos (by omega)

theorem keys_eq_visited (s : State) (x : Nat) (hO : s.InvO) (hB : s.InvB) (hx : s.isLive x = true)
    (hne : (cycleRefs s x).cmap.isEmpty = false)
    (hext : hasExternalOwners s (cycleRefs s x).cmap = false) :
    ∀ k, k ∈ (cycleRefs s x).cmap.keys ↔ k ∈ (cycleRefs s x).visited := by
  have T := s.traced x hO hB hx
  have hsub : ∀ k, k ∈ (cycleRefs s x).cmap.keys → k ∈ (cycleRefs s x).visited := by
    intro k hk
    obtain ⟨n, hn, hpos⟩ := key_has_adopter s x hO hB hx hext k hk
    obtain ⟨c, hc⟩ := (s.F_pos_iff hB n k).mp hpos
    exact T.closed hn hc
  -- the start object is a key
  have hxk : x ∈ (cycleRefs s x).cmap.keys := by
    obtain ⟨k, hk⟩ : ∃ k, k ∈ (cycleRefs s x).cmap.keys := by
      cases hm : (cycleRefs s x).cmap with
      | nil => simp [hm] at hne
      | cons e r => exact ⟨e.1, by simp [CMap.keys]⟩
    rcases ((T.reach k).mp (hsub k hk)).start with h1 | ⟨j, c, hc⟩
    · subst h1; exact hk
    · have hjl : s.isLive j = true := s.entry_live hB hc (by simp)
      have hF : 0 < s.F x j := (s.F_pos_iff hB x j).mpr ⟨c, hc⟩
      have hBj : 0 < s.B j x := by rw [← hB.2 x j hx hjl]; exact hF
      exact (T.key x).mpr ⟨j, T.closed T.start hc, Or.inr ((s.B_pos_iff hB j x).mp hBj)⟩
  intro k
  refine ⟨hsub k, ?_⟩
  intro hk
  rcases ((T.reach k).mp hk).last with h1 | ⟨m, c, hm, hc⟩
  · subst h1; exact hxk
  · exact (T.key k).mpr ⟨m, (T.reach m).mpr hm, Or.inl ⟨c, hc⟩⟩

theorem survivors_clean (s : State) (x : Nat) (hO : s.InvO) (hB : s.InvB) (hx : s.isLive x = true)
    (hne : (cycleRefs s x).cmap.isEmpty = false)
    (hext : hasExternalOwners s (cycleRefs s x).cmap = false) :
    ∀ a, s.isLive a = true → a ∉ (cycleRefs s x).visited → ∀ m ∈ (cycleRefs s x).visited,
      s.F a m = 0 ∧ s.B a m = 0 ∧ s.F m a = 0 ∧ s.B m a = 0 := by
  have T := s.traced x hO hB hx
  intro a ha hav m hm
  have hml := visited_live s x hO hB hx m hm
  have h1 : s.F m a = 0 := by
    apply Classical.byContradiction
    intro hn
    obtain ⟨c, hc⟩ := (s.F_pos_iff hB m a).mp (by omega)
    exact hav (T.closed hm hc)
  have h2 : s.B m a = 0 := by
    apply Classical.byContradiction
    intro hn
    obtain ⟨c, hc⟩ := (s.B_pos_iff hB m a).mp (by omega)
    exact hav ((keys_eq_visited s x hO hB hx hne hext a).mp ((T.key a).mpr ⟨m, hm, Or.inr ⟨c, hc⟩⟩))
  refine ⟨?_, ?_, h1, h2⟩
  · rw [hB.2 a m ha hml]; exact h2
  · rw [← hB.2 m a hml ha]; exact h1

end Cactus
