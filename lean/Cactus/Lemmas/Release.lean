import Cactus.Lemmas.Final
/-!
# Destroyed objects return all memory (panic-free executions)

The release invariant `InvN` says that a dead object which still owns its implicit weak reference is
owed that release by exactly one pending `finishSingle` or `phase3` frame; with an empty stack no dead
object owns one, and the counting invariants give the rest (`dead_object_released_of_InvN`).  Its
working form `InvN'` ("at least one", the other half is `InvK`) is kept by the operations, by
`catch_unwind` and by every machine step except that of a `panic` frame, which discards the frames
that owe (`step_InvN_of_not_panic`).  `NoPanic` is carried in the working form `NP` (no `panic` frame, no value
or script anywhere that could produce one), which every transition of a history without `setPanic` keeps
(`applyOp_NP`, `step_NP`), so in a `ReachableNP` state the top frame is never `panic`.

Across `applyAct` both go through the shape of an action (`applyAct_shape`); the teardown steps go
through their case lemmas.
-/
namespace Cactus
open State

def Op.noPanic : Op → Prop
  | .act a => a.noPanic
  | .setScript _ acts => ∀ a ∈ acts, a.noPanic
  | .shuffle _ _ => True

/-- no destructor panics: no unwinding in progress, no pending `panic` frame, no value (in the heap,
held by the program, or waiting to be destroyed) is set to panic, and no stored or running script
contains `setPanic` -/
def State.NoPanic (s : State) : Prop :=
  s.unwinding = false ∧ Frame.panic ∉ s.stack
  ∧ (∀ ob ∈ s.heap, ∀ v, ob.value = some v → v.panics = false)
  ∧ (∀ v ∈ s.vals, v.panics = false)
  ∧ (∀ v, Frame.dropVal v ∈ s.stack → v.panics = false)
  ∧ (∀ ob ∈ s.heap, ∀ v, ob.value = some v → ∀ a ∈ v.script, a.noPanic)
  ∧ (∀ v ∈ s.vals, ∀ a ∈ v.script, a.noPanic)
  ∧ (∀ v, Frame.dropVal v ∈ s.stack → ∀ a ∈ v.script, a.noPanic)
  ∧ (∀ h w acts, Frame.script h w acts ∈ s.stack → ∀ a ∈ acts, a.noPanic)

/-- like `Reachable`, but no operation of the history is (or installs) a `setPanic` -/
inductive ReachableNP : State → Prop
  | init : ReachableNP {}
  | op {s : State} (o : Op) (hint : List Nat) : ReachableNP s → s.stack = [] → o.noPanic →
      ReachableNP (applyOp (s.begin hint) o)
  | step {s : State} : ReachableNP s → ReachableNP (step s)
  | endOp {s : State} : ReachableNP s → ReachableNP (endOp s)
  | outOfFuel {s : State} : ReachableNP s → ReachableNP (s.fail .fuel)

/-- an implicit weak reference that a dead object still owns is owed by exactly one pending frame -/
def State.InvN (s : State) : Prop :=
  ∀ o ob, s.heap[o]? = some ob → ob.strong.isDead = true → ob.implicit = true → s.owed o = 1

theorem ReachableNP.reachable {s : State} (h : ReachableNP s) : Reachable s := by
  induction h with
  | init => exact .init
  | op o hint _ hq _ ih => exact .op o hint ih hq
  | step _ ih => exact .step ih
  | endOp _ ih => exact .endOp ih
  | outOfFuel _ ih => exact .outOfFuel ih

/-! ## working forms -/

def Val.np (v : Val) : Prop := v.panics = false ∧ ∀ a ∈ v.script, a.noPanic

def Frame.np : Frame → Prop
  | .panic => False
  | .dropVal v => v.np
  | .script _ _ acts => ∀ a ∈ acts, a.noPanic
  | _ => True

/-- the components of an object that `di` and `rawVal` read -/
def Obj.ob2 (ob : Obj) : Bool × Bool × Option Val := (ob.strong.isDead, ob.implicit, ob.value)

def look2 (h : List Obj) (x : Nat) : Option (Bool × Bool × Option Val) := (h[x]?).map Obj.ob2

/-- "dead and still owning its implicit weak reference" -/
def di (h : List Obj) (x : Nat) : Bool :=
  match h[x]? with
  | some ob => ob.strong.isDead && ob.implicit
  | none => false

/-- the value stored at `x` (whether or not the allocation has been released) -/
def rawVal (h : List Obj) (x : Nat) : Option Val :=
  match h[x]? with
  | some ob => ob.value
  | none => none

theorem di_eq_look2 (h : List Obj) (x : Nat) :
    di h x = match look2 h x with | some (d, i, _) => d && i | none => false := by
  unfold di look2; cases h[x]? <;> rfl

theorem rawVal_eq_look2 (h : List Obj) (x : Nat) :
    rawVal h x = match look2 h x with | some (_, _, v) => v | none => none := by
  unfold rawVal look2; cases h[x]? <;> rfl

theorem di_of_get {h : List Obj} {x : Nat} {ob : Obj} (hg : h[x]? = some ob) :
    di h x = (ob.strong.isDead && ob.implicit) := by simp [di, hg]

theorem rawVal_of_get {h : List Obj} {x : Nat} {ob : Obj} (hg : h[x]? = some ob) :
    rawVal h x = ob.value := by simp [rawVal, hg]

theorem di_true_iff {h : List Obj} {x : Nat} :
    di h x = true ↔ ∃ ob, h[x]? = some ob ∧ ob.strong.isDead = true ∧ ob.implicit = true := by
  unfold di
  cases hg : h[x]? with
  | none => simp
  | some ob => simp

theorem rawVal_eq_some_iff {h : List Obj} {x : Nat} {v : Val} :
    rawVal h x = some v ↔ ∃ ob, h[x]? = some ob ∧ ob.value = some v := by
  unfold rawVal
  cases hg : h[x]? with
  | none => simp
  | some ob => simp

def HOK (h : List Obj) : Prop := ∀ x v, rawVal h x = some v → v.np

structure State.NP (s : State) : Prop where
  unw : s.unwinding = false
  stk : ∀ f ∈ s.stack, f.np
  heap : HOK s.heap
  vals : ∀ v ∈ s.vals, v.np

theorem State.NoPanic_iff_NP (s : State) : s.NoPanic ↔ s.NP := by
  constructor
  · rintro ⟨h1, h2, h3, h4, h5, h6, h7, h8, h9⟩
    refine ⟨h1, ?_, ?_, fun v hv => ⟨h4 v hv, h7 v hv⟩⟩
    · intro f hf
      cases f with
      | panic => exact absurd hf h2
      | dropVal v => exact ⟨h5 v hf, h8 v hf⟩
      | script h w acts => exact h9 h w acts hf
      | _ => trivial
    · intro x v hv
      obtain ⟨ob, hg, hv⟩ := rawVal_eq_some_iff.mp hv
      have hm := mem_of_getElem?_eq_some hg
      exact ⟨h3 ob hm v hv, h6 ob hm v hv⟩
  · rintro ⟨h1, h2, h3, h4⟩
    have hheap : ∀ ob ∈ s.heap, ∀ v, ob.value = some v → v.np := by
      intro ob hm v hv
      obtain ⟨x, hx⟩ := List.getElem?_of_mem hm
      exact h3 x v (rawVal_eq_some_iff.mpr ⟨ob, hx, hv⟩)
    refine ⟨h1, fun hm => h2 _ hm, fun ob hm v hv => (hheap ob hm v hv).1, fun v hv => (h4 v hv).1,
      fun v hm => (h2 _ hm).1, fun ob hm v hv => (hheap ob hm v hv).2, fun v hv => (h4 v hv).2,
      fun v hm => (h2 _ hm).2, fun h w acts hm => h2 _ hm⟩

/-! ## the observation under the state primitives

`di` and `rawVal` read an object only through `Obj.ob2`: an update that keeps this projection of every
object keeps both. -/

theorem di_congr {h h' : List Obj} {x : Nat} (e : look2 h' x = look2 h x) : di h' x = di h x := by
  rw [di_eq_look2, di_eq_look2, e]

theorem rawVal_congr {h h' : List Obj} {x : Nat} (e : look2 h' x = look2 h x) :
    rawVal h' x = rawVal h x := by
  rw [rawVal_eq_look2, rawVal_eq_look2, e]

theorem look2_setObj_same {s : State} {o : Nat} {ob : Obj} (ob' : Obj) (hg : s.heap[o]? = some ob)
    (hp : ob'.ob2 = ob.ob2) (x : Nat) : look2 (s.setObj o ob').heap x = look2 s.heap x := by
  unfold look2
  by_cases hx : x = o
  · subst hx
    rw [getElem?_setObj_same _ (get_lt hg), hg]; simp [hp]
  · rw [getElem?_setObj_other s _ hx]

theorem look2_setObj_other (s : State) {o x : Nat} (ob' : Obj) (hx : x ≠ o) :
    look2 (s.setObj o ob').heap x = look2 s.heap x := by
  unfold look2; rw [getElem?_setObj_other s _ hx]

@[simp] theorem look2_setLinks (s : State) (o : Nat) (f : Table → Table) (x : Nat) :
    look2 (s.setLinks o f).heap x = look2 s.heap x := by
  rcases setLinks_cases s o f with ⟨e, h⟩ | ⟨ob, t, hc, hl, h⟩ <;> rw [h]
  · simp
  · exact look2_setObj_same _ (get_of_cell hc) (by rfl) x

@[simp] theorem look2_incStrong (s : State) (o : Nat) (x : Nat) :
    look2 (s.incStrong o).heap x = look2 s.heap x := by
  rcases incStrong_cases s o with ⟨e, h⟩ | ⟨ob, n, hc, hs, h⟩ <;> rw [h]
  · simp
  · exact look2_setObj_same _ (get_of_cell hc) (by simp [Obj.ob2, hs, Strong.isDead]) x

@[simp] theorem look2_incWeak (s : State) (o : Nat) (x : Nat) :
    look2 (s.incWeak o).heap x = look2 s.heap x := by
  rcases incWeak_cases s o with ⟨e, h⟩ | ⟨ob, hc, hw, h⟩ <;> rw [h]
  · simp
  · exact look2_setObj_same _ (get_of_cell hc) (by rfl) x

@[simp] theorem look2_purgePeers (s : State) (o : Nat) (x : Nat) :
    look2 (s.purgePeers o).heap x = look2 s.heap x :=
  purgePeers_invariant (fun s => look2 s.heap x) (by simp) (by simp) s o

theorem look2_alloc_old (s : State) (v : Val) {x : Nat} (hx : x ≠ s.heap.length) :
    look2 (s.alloc v).heap x = look2 s.heap x := by
  unfold look2; rw [getElem?_alloc_old s v hx]

@[simp] theorem look2_alloc_new (s : State) (v : Val) :
    look2 (s.alloc v).heap s.heap.length = some (false, true, some v) := by
  unfold look2; rw [getElem?_alloc_new]; rfl

/-! ### `di` -/

theorem di_alloc (s : State) (v : Val) (x : Nat) : di (s.alloc v).heap x = di s.heap x := by
  by_cases hx : x = s.heap.length
  · subst hx
    rw [di_eq_look2, look2_alloc_new, di]
    simp
  · exact di_congr (look2_alloc_old s v hx)

theorem di_setObj_other (s : State) {o x : Nat} (ob' : Obj) (hx : x ≠ o) :
    di (s.setObj o ob').heap x = di s.heap x :=
  di_congr (look2_setObj_other s ob' hx)

theorem di_setObj_same {s : State} {o : Nat} (ob' : Obj) (hlt : o < s.heap.length) :
    di (s.setObj o ob').heap o = (ob'.strong.isDead && ob'.implicit) :=
  di_of_get (getElem?_setObj_same _ hlt)

theorem di_setObj_of_eq {s : State} {o : Nat} {ob : Obj} (ob' : Obj) (hg : s.heap[o]? = some ob)
    (hs : ob'.strong.isDead = ob.strong.isDead) (hi : ob'.implicit = ob.implicit) (x : Nat) :
    di (s.setObj o ob').heap x = di s.heap x := by
  by_cases hx : x = o
  · subst hx; rw [di_setObj_same _ (get_lt hg), di_of_get hg, hs, hi]
  · exact di_setObj_other s _ hx

theorem di_modVal (s : State) (o : Nat) (f : Val → Val) (x : Nat) :
    di (s.modVal o f).heap x = di s.heap x := by
  rcases modVal_cases s o f with ⟨e, h⟩ | ⟨ob, v, hc, hv, h⟩ <;> rw [h]
  · simp
  · exact di_setObj_of_eq _ (get_of_cell hc) (by rfl) (by rfl) x

@[simp] theorem di_badRoot (s : State) (r : Nat) (x : Nat) : di (s.badRoot r).heap x = di s.heap x := by
  simp

theorem di_decWeakFree_other (s : State) {o x : Nat} (imp : Bool) (hx : x ≠ o) :
    di (s.decWeakFree o imp).heap x = di s.heap x := by
  unfold di; rw [getElem?_decWeakFree_other s imp hx]

theorem di_decWeakFree_le (s : State) (o : Nat) (imp : Bool) (x : Nat)
    (h : di (s.decWeakFree o imp).heap x = true) : di s.heap x = true := by
  by_cases hx : x = o
  · subst hx
    rcases decWeakFree_cases s x imp with ⟨e, he⟩ | ⟨ob, hc, hw, -⟩ | ⟨ob, w, hc, hw, -⟩
    · rwa [he, fail_heap] at h
    all_goals
      rw [di_of_get (getElem?_decWeakFree_same imp hc (by omega))] at h
      rw [di_of_get (get_of_cell hc)]
      simp at h ⊢; exact ⟨h.1, h.2.1⟩
  · rwa [di_decWeakFree_other s imp hx] at h

theorem di_decWeakFree_true_same (s : State) (o : Nat) (he : (s.decWeakFree o true).err = none) :
    di (s.decWeakFree o true).heap o = false := by
  obtain ⟨-, ob, hc, hw⟩ := (decWeakFree_err_eq_none_iff s o true).mp he
  rw [di_of_get (getElem?_decWeakFree_same true hc hw)]
  simp

/-! ### `rawVal` -/

theorem rawVal_setObj_other (s : State) {o x : Nat} (ob' : Obj) (hx : x ≠ o) :
    rawVal (s.setObj o ob').heap x = rawVal s.heap x :=
  rawVal_congr (look2_setObj_other s ob' hx)

theorem rawVal_setObj_same {s : State} {o : Nat} (ob' : Obj) (hlt : o < s.heap.length) :
    rawVal (s.setObj o ob').heap o = ob'.value :=
  rawVal_of_get (getElem?_setObj_same _ hlt)

theorem rawVal_setObj_le {s : State} {o x : Nat} {ob' : Obj} {v : Val}
    (h : rawVal (s.setObj o ob').heap x = some v) : rawVal s.heap x = some v ∨ ob'.value = some v := by
  by_cases hx : x = o
  · subst hx
    by_cases hlt : x < s.heap.length
    · rw [rawVal_setObj_same _ hlt] at h; exact .inr h
    · rw [setObj_of_ge _ (Nat.le_of_not_lt hlt)] at h; exact .inl h
  · rw [rawVal_setObj_other s _ hx] at h; exact .inl h

@[simp] theorem rawVal_decWeakFree (s : State) (o : Nat) (imp : Bool) (x : Nat) :
    rawVal (s.decWeakFree o imp).heap x = rawVal s.heap x := by
  by_cases hx : x = o
  · subst hx
    rcases decWeakFree_cases s x imp with ⟨e, he⟩ | ⟨ob, hc, hw, -⟩ | ⟨ob, w, hc, hw, -⟩
    · rw [he, fail_heap]
    all_goals
      rw [rawVal_of_get (getElem?_decWeakFree_same imp hc (by omega)), rawVal_of_get (get_of_cell hc)]
  · unfold rawVal; rw [getElem?_decWeakFree_other s imp hx]

@[simp] theorem rawVal_badRoot (s : State) (r : Nat) (x : Nat) :
    rawVal (s.badRoot r).heap x = rawVal s.heap x := by simp

theorem rawVal_alloc (s : State) (v : Val) (x : Nat) :
    rawVal (s.alloc v).heap x = if x = s.heap.length then some v else rawVal s.heap x := by
  by_cases hx : x = s.heap.length
  · subst hx; rw [rawVal_eq_look2, look2_alloc_new]; simp
  · rw [if_neg hx]; exact rawVal_congr (look2_alloc_old s v hx)

theorem rawVal_modVal {s : State} {o : Nat} {f : Val → Val} {x : Nat} {v : Val}
    (h : rawVal (s.modVal o f).heap x = some v) :
    rawVal s.heap x = some v ∨ ∃ v0, rawVal s.heap x = some v0 ∧ v = f v0 := by
  rcases modVal_cases s o f with ⟨e, he⟩ | ⟨ob, v0, hc, hv, he⟩ <;> rw [he] at h
  · left; simpa using h
  · by_cases hx : x = o
    · subst hx
      rw [rawVal_setObj_same _ (get_lt (get_of_cell hc))] at h
      right
      refine ⟨v0, by rw [rawVal_of_get (get_of_cell hc), hv], ?_⟩
      simpa using h.symm
    · left; rwa [rawVal_setObj_other s _ hx] at h

/-! ## the elementary updates of an action -/

@[simp] theorem owed_cloneHandles (s : State) (v : Val) (x : Nat) :
    (s.cloneHandles v).owed x = s.owed x :=
  cloneHandles_invariant (fun s => s.owed x) (by simp) (by simp) s v

theorem di_giveUp_le (s : State) (o : Nat) (x : Nat) (he : (s.giveUp o).err = none)
    (h : di (s.giveUp o).heap x = true) : di s.heap x = true := by
  unfold giveUp at he h
  split at he
  · rename_i ob hc
    rw [hc] at h
    simp only [] at h
    by_cases hx : x = o
    · subst hx
      rw [di_decWeakFree_true_same _ _ he] at h
      cases h
    · rwa [di_decWeakFree_other _ _ hx, di_setObj_other _ _ hx, di_congr (look2_purgePeers s o x)] at h
  · exact absurd he (fail_err_ne_none _ _)

theorem rawVal_giveUp {s : State} {o x : Nat} {v : Val} (h : rawVal (s.giveUp o).heap x = some v) :
    rawVal s.heap x = some v := by
  unfold giveUp at h
  split at h
  · rw [rawVal_decWeakFree] at h
    rcases rawVal_setObj_le h with h | h
    · rwa [rawVal_congr (look2_purgePeers s o x)] at h
    · cases h
  · rwa [fail_heap, rawVal_congr (look2_purgePeers s o x)] at h

namespace Prim
variable {a : Act} {t u : State}

theorem err_none (p : Prim a t u) (he : u.err = none) : t.err = none := by
  cases h : t.err with
  | none => rfl
  | some e => rw [p.err_of_some h] at he; cases he

theorem di_le (p : Prim a t u) (he : u.err = none) {x : Nat} (h : di u.heap x = true) :
    di t.heap x = true := by
  cases p with
  | fail e => rwa [fail_heap] at h
  | incStrong o => rwa [di_congr (look2_incStrong t o x)] at h
  | incWeak o => rwa [di_congr (look2_incWeak t o x)] at h
  | setLinks o f => rwa [di_congr (look2_setLinks t o f x)] at h
  | modVal o f => rwa [di_modVal] at h
  | alloc v => rwa [di_alloc] at h
  | giveUp o => exact di_giveUp_le t o x he h
  | _ => exact h

end Prim

/-! ## the actions: `owed`, `unwinding` and "dead with implicit" -/

theorem Frame.owes_of_isData {d : Frame} (hd : d.isData = true) (x : Nat) : Frame.owes x d = 0 := by
  cases d <;> first | rfl | cases hd

theorem applyAct_unwinding (s : State) (fh fw : List Nat) (a : Act) :
    (applyAct s fh fw a).unwinding = s.unwinding :=
  (applyAct_shape s fh fw a).lift (Q := fun s t => t.unwinding = s.unwinding) (fun _ => rfl)
    (fun h1 h2 => h2.trans h1) Prim.unwinding (fun _ _ _ _ => rfl)

/-- `owed` reads the stack only, and an action pushes at most a pending handle or value -/
theorem owed_applyAct (s : State) (fh fw : List Nat) (a : Act) (x : Nat) :
    (applyAct s fh fw a).owed x = s.owed x :=
  (applyAct_shape s fh fw a).lift (Q := fun s t => t.owed x = s.owed x) (fun _ => rfl)
    (fun h1 h2 => h2.trans h1) (fun p => owed_congr p.stack_eq x)
    (fun t d hd _ => by rw [owed_push]; simp [sumList, Frame.owes_of_isData hd])

theorem di_applyAct_le (s : State) (fh fw : List Nat) (a : Act) (x : Nat)
    (he : (applyAct s fh fw a).err = none) (h : di (applyAct s fh fw a).heap x = true) :
    di s.heap x = true :=
  ((applyAct_shape s fh fw a).lift
    (Q := fun s t => t.err = none → s.err = none ∧ (di t.heap x = true → di s.heap x = true))
    (fun _ he => ⟨he, id⟩)
    (fun h1 h2 he => ⟨(h1 (h2 he).1).1, fun h => (h1 (h2 he).1).2 ((h2 he).2 h)⟩)
    (fun p he => ⟨p.err_none he, p.di_le he⟩) (fun _ _ _ _ he => ⟨he, id⟩) he).2 h

/-! ## the actions: `NP` -/

@[simp] theorem Frame.np_rcDrop (o : Nat) : (Frame.rcDrop o).np ↔ True := Iff.rfl
@[simp] theorem Frame.np_weakDrop (o : Nat) : (Frame.weakDrop o).np ↔ True := Iff.rfl
@[simp] theorem Frame.np_dropFields (h w : List Nat) : (Frame.dropFields h w).np ↔ True := Iff.rfl
@[simp] theorem Frame.np_finishSingle (o : Nat) : (Frame.finishSingle o).np ↔ True := Iff.rfl
@[simp] theorem Frame.np_phase3 (ks : List Nat) : (Frame.phase3 ks).np ↔ True := Iff.rfl
@[simp] theorem Frame.np_panic : Frame.panic.np ↔ False := Iff.rfl
@[simp] theorem Frame.np_dropVal (v : Val) : (Frame.dropVal v).np ↔ v.np := Iff.rfl
@[simp] theorem Frame.np_script (h w : List Nat) (acts : List Act) :
    (Frame.script h w acts).np ↔ ∀ a ∈ acts, a.noPanic := Iff.rfl

theorem HOK_congr {h h' : List Obj} (e : ∀ x, rawVal h' x = rawVal h x) (hk : HOK h) : HOK h' :=
  fun x v hv => hk x v (e x ▸ hv)

theorem HOK_setObj {s : State} (o : Nat) {ob' : Obj} (h : HOK s.heap)
    (hv : ∀ v, ob'.value = some v → v.np) : HOK (s.setObj o ob').heap :=
  fun x v hx => (rawVal_setObj_le hx).elim (h x v) (hv v)

theorem HOK_modVal {s : State} (o : Nat) {f : Val → Val} (h : HOK s.heap)
    (hf : ∀ v, v.np → (f v).np) : HOK (s.modVal o f).heap := by
  intro x v hx
  rcases rawVal_modVal hx with h1 | ⟨v0, h1, rfl⟩
  · exact h x v h1
  · exact hf v0 (h x v0 h1)

theorem HOK_alloc {s : State} {v : Val} (h : HOK s.heap) (hv : v.np) : HOK (s.alloc v).heap := by
  intro x w hx
  rw [rawVal_alloc] at hx
  split at hx
  · cases hx; exact hv
  · exact h x w hx

theorem HOK_giveUp {s : State} (o : Nat) (h : HOK s.heap) : HOK (s.giveUp o).heap :=
  fun x v hx => h x v (rawVal_giveUp hx)

theorem State.NP.val_of_cell {s : State} (h : s.NP) {o : Nat} {ob : Obj} {v : Val} (hc : s.cell o = some ob)
    (hv : ob.value = some v) : v.np :=
  h.heap o v (by rw [rawVal_of_get (get_of_cell hc), hv])

theorem np_with_held {v : Val} (l : List Nat) (h : v.np) : ({ v with held := l } : Val).np := h
theorem np_with_weaks {v : Val} (l : List Nat) (h : v.np) : ({ v with weaks := l } : Val).np := h
theorem np_with_vid {v : Val} (n : Nat) (h : v.np) : ({ v with vid := n } : Val).np := h

theorem NP_of {s s' : State} (h : s.NP) (hu : s'.unwinding = s.unwinding)
    (hs : ∀ f ∈ s'.stack, f ∈ s.stack ∨ f.np) (hh : HOK s'.heap)
    (hv : ∀ v ∈ s'.vals, v ∈ s.vals ∨ v.np) : s'.NP :=
  ⟨hu.trans h.unw, fun f hf => (hs f hf).elim (h.stk f) id, hh,
    fun v hm => (hv v hm).elim (h.vals v) id⟩

namespace State.NP
variable {s s' : State}

theorem of_heap (h : s.NP) (hu : s'.unwinding = s.unwinding) (hs : s'.stack = s.stack)
    (hv : s'.vals = s.vals) (hh : HOK s'.heap) : s'.NP :=
  ⟨hu.trans h.unw, hs ▸ h.stk, hh, hv ▸ h.vals⟩

theorem of_eq (h : s.NP) (hu : s'.unwinding = s.unwinding) (hs : s'.stack = s.stack)
    (hv : s'.vals = s.vals) (hh : ∀ x, rawVal s'.heap x = rawVal s.heap x) : s'.NP :=
  h.of_heap hu hs hv (HOK_congr hh h.heap)

theorem fail (h : s.NP) (e : Err) : (s.fail e).NP := h.of_eq (by simp) (by simp) (by simp) (by simp)

theorem emit (h : s.NP) (e : Ev) : (s.emit e).NP := h.of_eq rfl rfl rfl (fun _ => rfl)

theorem push (h : s.NP) {fs : List Frame} (hf : ∀ f ∈ fs, f.np) : (s.push fs).NP :=
  ⟨h.unw, fun f hm => (List.mem_append.mp hm).elim (hf f) (h.stk f), h.heap, h.vals⟩

theorem decWeakFree (h : s.NP) (o : Nat) (imp : Bool) : (s.decWeakFree o imp).NP :=
  h.of_eq (by simp) (by simp) (by simp) (by simp)

theorem alloc (h : s.NP) {v : Val} (hv : v.np) : (s.alloc v).NP :=
  h.of_heap rfl rfl rfl (HOK_alloc h.heap hv)

theorem giveUp (h : s.NP) (o : Nat) : (s.giveUp o).NP :=
  h.of_heap (by simp) (by simp) (by simp) (HOK_giveUp o h.heap)

end State.NP

theorem Prim.NP {a : Act} {t u : State} (p : Prim a t u) (ha : a.noPanic) (hm : ¬ a.movesValue)
    (h : t.NP) : u.NP := by
  cases p with
  | fail e => exact h.fail e
  | ret n => exact h.emit _
  | incStrong o =>
    exact h.of_eq (by simp) (by simp) (by simp) (fun x => rawVal_congr (look2_incStrong t o x))
  | incWeak o =>
    exact h.of_eq (by simp) (by simp) (by simp) (fun x => rawVal_congr (look2_incWeak t o x))
  | setLinks o f =>
    exact h.of_eq (by simp) (by simp) (by simp) (fun x => rawVal_congr (look2_setLinks t o f x))
  | modVal o f hf =>
    exact h.of_heap (by simp) (by simp) (by simp)
      (HOK_modVal o h.heap fun v hv => ⟨((hf v).2.2 ha).trans hv.1, (hf v).2.1 ▸ hv.2⟩)
  | handles r w ra => exact h.of_heap rfl rfl rfl h.heap
  | valsPush _ hv | valsErase _ hv | nextVid _ hv | alloc _ hv | giveUp _ hv => exact absurd hv hm

theorem State.NP.of_steps {a : Act} {s u : State} (ha : a.noPanic) (hm : ¬ a.movesValue)
    (h : Steps a s u) (hs : s.NP) : u.NP :=
  h.pres (fun p hn => p.NP ha hm hn) hs

/-- `badRoot` and `cloneHandles` are chains of updates of every action, so also of one that neither
sets a `panics` flag nor moves a value (`getMut`), whichever action calls them -/
theorem State.NP.badRoot {s : State} (h : s.NP) (r : Nat) : (s.badRoot r).NP :=
  .of_steps (a := .getMut 0) trivial id ((Steps.refl s).badRoot r) h

theorem State.NP.cloneHandles {s : State} (h : s.NP) (v : Val) : (s.cloneHandles v).NP :=
  .of_steps (a := .getMut 0) trivial id ((Steps.refl s).cloneHandles v) h

theorem State.NP.of_shape {a : Act} {s u : State} (ha : a.noPanic) (hm : ¬ a.movesValue)
    (h : ActShape a s u) (hs : s.NP) : u.NP := by
  refine h.pres (fun p hn => p.NP ha hm hn) (fun t d hd hv hn => hn.push fun f hf => ?_) hs
  cases List.mem_singleton.mp hf
  cases d with
  | dropVal v => exact absurd (hv v rfl) hm
  | rcDrop | weakDrop => trivial
  | _ => cases hd

/-- the four value-moving actions by hand: `new` allocates a value without script, `tryUnwrap` moves
one from the heap to the program, `dropValue` from the program to the stack, `makeMut` copies or
moves one to a new allocation -/
theorem applyAct_NP (s : State) (fh fw : List Nat) (a : Act) (h : s.NP) (ha : a.noPanic) :
    (applyAct s fh fw a).NP := by
  cases a with
  | new =>
    simp only [applyAct]
    exact h.of_heap rfl rfl rfl (HOK_alloc h.heap ⟨rfl, nofun⟩)
  | tryUnwrap r =>
    simp only [applyAct]
    repeat' split
    · rename_i o _ _ ob hc _ _ v hs hv
      have h1 : ({ s with roots := s.roots.eraseIdx (idxMod s.roots r), vals := s.vals ++ [v] } : State).NP :=
        NP_of h rfl (fun f hf => .inl hf) h.heap fun w hw =>
          (List.mem_append.mp hw).imp_right fun hw => by
            cases List.mem_singleton.mp hw; exact h.val_of_cell hc hv
      exact (h1.giveUp o).emit _
    · exact h.fail _
    · exact h.emit _
    · exact h.fail _
    · exact h.badRoot r
  | dropValue i =>
    simp only [applyAct]
    split
    · rename_i v hv
      have h1 : ({ s with vals := s.vals.eraseIdx (idxMod s.vals i) } : State).NP :=
        NP_of h rfl (fun f hf => .inl hf) h.heap fun w hw => .inl (List.mem_of_mem_eraseIdx hw)
      refine h1.push fun f hf => ?_
      cases List.mem_singleton.mp hf
      exact h.vals v (List.mem_of_getElem? (getElem?_idxMod_of_nthMod hv))
    · exact h
  | makeMut r =>
    simp only [applyAct]
    split
    · rename_i o _
      split
      · rename_i ob hc
        split
        · rename_i v hv
          have hvn : v.np := h.val_of_cell hc hv
          split
          · -- the copy keeps script and `panics`
            have h0 : (if v.shallow then s else s.cloneHandles v).NP := by
              split
              · exact h
              · exact h.cloneHandles v
            have h1 := h0.alloc (v := if v.shallow then { v with vid := s.nextVid, held := [], weaks := [] }
              else { v with vid := s.nextVid }) (by split <;> exact hvn)
            refine (NP.emit ?_ _).push (fs := [.rcDrop o]) (by simp)
            exact h1.of_heap rfl rfl rfl h1.heap
          · split
            · refine (NP.giveUp ?_ o).emit _
              exact h.of_heap rfl rfl rfl (HOK_alloc h.heap hvn)
            · exact h.emit _
        · exact h.fail _
      · exact h.fail _
    · exact h.badRoot r
  | _ => exact .of_shape ha id (applyAct_shape s fh fw _) h

/-! ## top-level operations -/

theorem owed_applyOp (s : State) (op : Op) (x : Nat) : (applyOp s op).owed x = s.owed x := by
  cases op with
  | act a => exact owed_applyAct s [] [] a x
  | setScript q acts => simp only [applyOp]; split <;> simp
  | shuffle q i => simp only [applyOp]; split <;> simp

theorem di_applyOp_le (s : State) (op : Op) (x : Nat) (he : (applyOp s op).err = none)
    (h : di (applyOp s op).heap x = true) : di s.heap x = true := by
  cases op with
  | act a => exact di_applyAct_le s [] [] a x he h
  | setScript q acts => simp only [applyOp] at h; split at h <;> simpa [di_modVal] using h
  | shuffle q i => simp only [applyOp] at h; split at h <;> simpa [di_eq_look2] using h

theorem applyOp_NP (s : State) (op : Op) (h : s.NP) (ho : op.noPanic) : (applyOp s op).NP := by
  cases op with
  | act a => exact applyAct_NP s [] [] a h ho
  | setScript q acts =>
    simp only [applyOp]; split
    · exact h.of_heap (by simp) (by simp) (by simp) (HOK_modVal _ h.heap fun v hv => ⟨hv.1, ho⟩)
    · exact h.badRoot q
  | shuffle q i =>
    simp only [applyOp]; split
    · -- a permutation of a table is an update of `unadopt`'s kind: it keeps the empty table empty
      exact .of_steps (a := .unadopt 0 0) trivial id
        ((Steps.refl s).setLinks _ _ (.inr rfl) trivial) h
    · exact h.badRoot q

/-! ## `InvN'`: a dead object that still owns its implicit weak is owed by some pending frame -/

def State.InvN' (s : State) : Prop := ∀ x, di s.heap x = true → 1 ≤ s.owed x

theorem InvN'_of {u u' : State} (p : Nat → Prop)
    (hN : ∀ x, ¬ p x → di u.heap x = true → 1 ≤ u.owed x)
    (hp : ∀ x, p x → di u'.heap x = true → 1 ≤ u'.owed x)
    (hd : ∀ x, ¬ p x → di u'.heap x = true → di u.heap x = true)
    (ho : ∀ x, ¬ p x → u.owed x ≤ u'.owed x) : u'.InvN' := by
  intro x hx
  by_cases hpx : p x
  · exact hp x hpx hx
  · exact Nat.le_trans (hN x hpx (hd x hpx hx)) (ho x hpx)

theorem InvN'_mono {u u' : State} (hN : u.InvN')
    (hd : ∀ x, di u'.heap x = true → di u.heap x = true)
    (ho : ∀ x, u.owed x ≤ u'.owed x) : u'.InvN' :=
  InvN'_of (fun _ => False) (fun x _ => hN x) (fun _ h => h.elim) (fun x _ => hd x) (fun x _ => ho x)

theorem pop_InvN' {s : State} {f : Frame} {rest : List Frame} (hst : s.stack = f :: rest)
    (hN : s.InvN') (hf : ∀ x, Frame.owes x f = 0) : ({ s with stack := rest } : State).InvN' := by
  refine InvN'_mono hN (fun x h => h) (fun x => ?_)
  rw [owed_of_stack_cons hst x, hf x]; omega

/-! ### single-object teardown -/

/-- releasing the implicit weak reference of `o` settles `o` and disturbs no other object -/
theorem decWeakFree_true_InvN' (w : State) (o : Nat)
    (hN : ∀ x, x ≠ o → di w.heap x = true → 1 ≤ w.owed x)
    (he : (w.decWeakFree o true).err = none) : (w.decWeakFree o true).InvN' := by
  refine InvN'_of (· = o) hN ?_ ?_ ?_
  · rintro x rfl hx; rw [di_decWeakFree_true_same _ _ he] at hx; cases hx
  · intro x hx h; rwa [di_decWeakFree_other _ _ hx] at h
  · intro x _; simp

theorem beginSingle_InvN' (w : State) (o : Nat)
    (hN : ∀ x, x ≠ o → di w.heap x = true → 1 ≤ w.owed x)
    (he : (w.beginSingle o).err = none) : (w.beginSingle o).InvN' := by
  rcases State.beginSingle_cases w o with ⟨e, h⟩ | h | ⟨ob, v, hc, hv, h⟩ <;> rw [h] at he ⊢
  · exact absurd he (fail_err_ne_none _ _)
  · exact decWeakFree_true_InvN' w o hN he
  · refine InvN'_of (· = o) hN ?_ ?_ ?_
    · rintro x rfl _; simp
    · intro x hx h; rwa [push_heap, di_setObj_other _ _ hx] at h
    · intro x _; simp

theorem finishSingle_InvN' (w : State) (o : Nat)
    (hN : ∀ x, x ≠ o → di w.heap x = true → 1 ≤ w.owed x)
    (he : (w.finishSingle o).err = none) : (w.finishSingle o).InvN' := by
  rcases State.finishSingle_cases w o with ⟨e, h⟩ | ⟨ob, hc, h⟩ <;> rw [h] at he ⊢
  · exact absurd he (fail_err_ne_none _ _)
  · refine decWeakFree_true_InvN' _ o (fun x hx hd => ?_) he
    rw [di_setObj_other _ _ hx] at hd
    rw [owed_setObj]; exact hN x hx hd

/-! ### phase 3 of the group teardown -/

theorem phase3One_err_none {w : State} {k : Nat} (h : (phase3One w k).err = none) : w.err = none := by
  rcases State.phase3One_cases w k with ⟨e, h1⟩ | ⟨ob, -, -, h1⟩ | h1 <;> rw [h1] at h
  · exact absurd h (fail_err_ne_none _ _)
  · exact h
  · exact ((decWeakFree_err_eq_none_iff _ _ _).mp h).1

theorem phase3_fold_err_none : ∀ (ks : List Nat) (w : State), (ks.foldl phase3One w).err = none →
    w.err = none
  | [], _, h => h
  | k :: ks, w, h => phase3One_err_none (phase3_fold_err_none ks (phase3One w k) h)

theorem di_phase3One_le (w : State) (k x : Nat) (h : di (phase3One w k).heap x = true) :
    di w.heap x = true := by
  rcases State.phase3One_cases w k with ⟨e, h1⟩ | ⟨ob, -, -, h1⟩ | h1 <;> rw [h1] at h
  · rwa [fail_heap] at h
  · exact h
  · exact di_decWeakFree_le _ _ _ _ h

theorem di_phase3One_same (w : State) (k : Nat) (he : (phase3One w k).err = none) :
    di (phase3One w k).heap k = false := by
  rcases State.phase3One_cases w k with ⟨e, h1⟩ | ⟨ob, hc, hd, h1⟩ | h1 <;> rw [h1] at he ⊢
  · exact absurd he (fail_err_ne_none _ _)
  · rw [di_of_get (get_of_cell hc), hd]; rfl
  · exact di_decWeakFree_true_same _ _ he

@[simp] theorem owed_phase3One (w : State) (k x : Nat) : (phase3One w k).owed x = w.owed x := by
  rcases State.phase3One_cases w k with ⟨e, h1⟩ | ⟨ob, -, -, h1⟩ | h1 <;> rw [h1] <;> simp

theorem phase3_InvN' : ∀ (ks : List Nat) (w : State),
    (∀ x, x ∉ ks → di w.heap x = true → 1 ≤ w.owed x) →
    (ks.foldl phase3One w).err = none → (ks.foldl phase3One w).InvN'
  | [], _, hN, _ => fun x => hN x List.not_mem_nil
  | k :: ks, w, hN, he => by
    refine phase3_InvN' ks (phase3One w k) (fun x hx hd => ?_) he
    by_cases hxk : x = k
    · subst hxk
      rw [di_phase3One_same w x (phase3_fold_err_none ks _ he)] at hd; cases hd
    · rw [owed_phase3One]
      exact hN x (fun hm => (List.mem_cons.mp hm).elim hxk hx) (di_phase3One_le w k x hd)

/-! ### group teardown -/

theorem Teardown.InvN' {s s' : State} {ks : List Nat} {vs : List Val} (h : Teardown s s' ks vs)
    (hN : s.InvN') : s'.InvN' := by
  refine InvN'_of (· ∈ ks) (fun x _ => hN x) ?_ ?_ ?_
  · intro x hx _
    rw [h.owed_eq x]
    have := List.count_pos_iff.mpr hx
    omega
  · intro x hx hd
    unfold di at hd ⊢
    rwa [h.other x hx] at hd
  · intro x _; rw [h.owed_eq x]; omega

theorem traceBranch_InvN' (s1 : State) (o : Nat) (herr : s1.err = none) (hI : s1.InvCore)
    (ho : s1.isLive o = true) (hN : s1.InvN') : (s1.traceBranch o).InvN' := by
  obtain ⟨e, -, h | ⟨-, -, -, -, hT⟩⟩ := traceBranch_inv s1 o herr hI.1 hI.2.1 ho
  · rw [h]; exact hN
  · exact hT.InvN' hN

/-! ### `Rc::drop` -/

theorem rcDrop_InvN' {s : State} {o : Nat} {rest : List Frame}
    (hst : s.stack = .rcDrop o :: rest) (herr : s.err = none) (h : s.Inv) (hN : s.InvN')
    (he : (({ s with stack := rest } : State).rcDrop o).err = none) :
    (({ s with stack := rest } : State).rcDrop o).InvN' := by
  have hN0 : ({ s with stack := rest } : State).InvN' := pop_InvN' hst hN (fun _ => rfl)
  rcases State.rcDrop_cases ({ s with stack := rest } : State) o
    with ⟨e, h1⟩ | h1 | ⟨ob, n, t, hc, hs, hl, hcase⟩
  · rw [h1] at he; exact absurd he (fail_err_ne_none _ _)
  · rw [h1]; exact hN0
  · -- while the count stays positive the decrement changes no object's "dead with implicit"
    have hN1 : n ≠ 0 → (({ s with stack := rest } : State).setObj o { ob with strong := .cnt n }).InvN' :=
      fun hn => InvN'_mono hN0
        (fun x hd => by
          rwa [di_setObj_of_eq _ (get_of_cell hc) (by rw [hs]; cases n with
            | zero => exact absurd rfl hn
            | succ m => rfl) (by rfl)] at hd)
        (fun x => by simp)
    rcases hcase with ⟨hn, -, h1⟩ | ⟨-, -, h1⟩ | ⟨-, -, h1⟩ | ⟨hn, -, h1⟩
    · rw [h1]; exact hN1 hn
    · rw [h1] at he ⊢
      refine beginSingle_InvN' _ o (fun x hx hd => ?_) he
      rw [di_setObj_other _ _ hx] at hd
      rw [owed_setObj]; exact hN0 x hd
    · rw [h1] at he ⊢
      refine beginSingle_InvN' _ o (fun x hx hd => ?_) he
      rw [di_congr (look2_purgePeers _ o x), di_setObj_other _ _ hx] at hd
      rw [owed_purgePeers, owed_setObj]; exact hN0 x hd
    · rw [h1]
      obtain ⟨he1, hI1, hl1⟩ := rcDrop_trace_state hst herr h hc hs hn
      exact traceBranch_InvN' _ o he1 hI1 hl1 (hN1 hn)

/-! ### one machine step -/

theorem step_InvN'_of_not_panic (s : State) (h : s.Inv) (hN : s.InvN')
    (htop : ∀ rest, s.stack ≠ .panic :: rest)
    (he : (step s).err = none) : (step s).InvN' := by
  have herr : s.err = none := step_err_none he
  cases hst : s.stack with
  | nil => rw [step_of_stack_nil hst]; exact hN
  | cons f rest =>
    have e := step_eq_frame herr hst
    cases f with
    | rcDrop o => rw [e] at he ⊢; exact rcDrop_InvN' hst herr h hN he
    | weakDrop o =>
      rw [e]
      exact InvN'_mono (pop_InvN' hst hN (fun _ => rfl)) (fun x hd => di_decWeakFree_le _ _ _ x hd)
        (fun x => by simp [weakDrop])
    | dropVal v =>
      rw [e]
      exact InvN'_mono (pop_InvN' hst hN (fun _ => rfl)) (fun x hd => hd)
        (fun x => by rw [owed_dropVal]; exact Nat.le_refl _)
    | script hh ww acts =>
      have hN0 := pop_InvN' hst hN (fun _ => rfl)
      cases acts with
      | nil => rw [e]; exact hN0
      | cons a as =>
        rw [e] at he ⊢
        refine InvN'_mono hN0
          (fun x hd => di_applyAct_le (State.push { s with stack := rest } [.script hh ww as]) hh ww a x he hd)
          (fun x => ?_)
        rw [owed_applyAct, owed_push]; simp
    | panic => exact absurd hst (htop rest)
    | dropFields hh ww =>
      rw [e]
      refine InvN'_mono (pop_InvN' hst hN (fun _ => rfl)) (fun x hd => ?_)
        (fun x => by rw [owed_dropFields]; exact Nat.le_refl _)
      obtain ⟨fs, hfs⟩ := dropFields_eq_push ({ s with stack := rest } : State) hh ww
      simp only [] at hd
      rw [hfs] at hd; exact hd
    | finishSingle o =>
      rw [e] at he ⊢
      refine finishSingle_InvN' _ o (fun x hx hd => ?_) he
      have := hN x hd
      rw [owed_of_stack_cons hst x, Frame.owes_finishSingle, if_neg (fun e => hx e.symm)] at this
      omega
    | phase3 ks =>
      rw [e] at he ⊢
      refine phase3_InvN' ks _ (fun x hx hd => ?_) he
      have := hN x hd
      rw [owed_of_stack_cons hst x, Frame.owes_phase3, List.count_eq_zero_of_not_mem hx] at this
      omega

/-! ## `NP` is preserved by every machine step -/

theorem pop_NP {s : State} {f : Frame} {rest : List Frame} (hst : s.stack = f :: rest) (h : s.NP) :
    ({ s with stack := rest } : State).NP :=
  NP_of h rfl (fun g hg => .inl (by rw [hst]; exact List.mem_cons_of_mem _ hg)) h.heap
    (fun v hv => .inl hv)

theorem NP_setObj_of_value {w : State} {o : Nat} {ob : Obj} (ob' : Obj) (hw : w.NP)
    (hg : w.heap[o]? = some ob) (hv : ob'.value = ob.value ∨ ob'.value = none) :
    (w.setObj o ob').NP := by
  refine NP_of hw rfl (fun f hf => .inl hf) (HOK_setObj o hw.heap fun v hv' => ?_) (fun v hv => .inl hv)
  rcases hv with hv | hv
  · exact hw.heap o v (by rw [rawVal_of_get hg, ← hv, hv'])
  · rw [hv] at hv'; cases hv'

theorem beginSingle_NP (w : State) (o : Nat) (hw : w.NP) : (w.beginSingle o).NP := by
  rcases State.beginSingle_cases w o with ⟨e, h⟩ | h | ⟨ob, v, hc, hv, h⟩ <;> rw [h]
  · exact hw.fail e
  · exact hw.decWeakFree o true
  · refine (NP_setObj_of_value _ hw (get_of_cell hc) (.inr rfl)).push fun f hf => ?_
    rcases List.mem_cons.mp hf with rfl | hf
    · exact hw.val_of_cell hc hv
    · cases List.mem_singleton.mp hf; trivial

theorem finishSingle_NP (w : State) (o : Nat) (hw : w.NP) : (w.finishSingle o).NP := by
  rcases State.finishSingle_cases w o with ⟨e, h⟩ | ⟨ob, hc, h⟩ <;> rw [h]
  · exact hw.fail e
  · refine NP.decWeakFree ?_ o true
    exact NP_setObj_of_value _ hw (get_of_cell hc) (.inl rfl)

theorem phase3One_NP (w : State) (k : Nat) (hw : w.NP) : (phase3One w k).NP := by
  rcases State.phase3One_cases w k with ⟨e, h⟩ | ⟨ob, -, -, h⟩ | h <;> rw [h]
  · exact hw.fail e
  · exact hw
  · exact hw.decWeakFree k true

theorem phase3_fold_NP : ∀ (ks : List Nat) (w : State), w.NP → (ks.foldl phase3One w).NP
  | [], _, h => h
  | k :: ks, w, h => phase3_fold_NP ks (phase3One w k) (phase3One_NP w k h)

/-- the group's values go from the heap to the stack -/
theorem Teardown.NP {s s' : State} {ks : List Nat} {vs : List Val} (h : Teardown s s' ks vs)
    (hu : s'.unwinding = s.unwinding) (hs : s.NP) : s'.NP := by
  refine NP_of hs hu ?_ ?_ (fun v hv => .inl (h.pvals ▸ hv))
  · intro f hf
    obtain ⟨vs', hp, hst⟩ := h.stack
    rw [hst] at hf
    simp only [List.mem_append, List.mem_map, List.mem_singleton] at hf
    rcases hf with (⟨v, hv, rfl⟩ | rfl) | hf
    · right
      have hv' : some v ∈ vs.map some := List.mem_map.mpr ⟨v, hp.mem_iff.mp hv, rfl⟩
      rw [h.vals] at hv'
      obtain ⟨k, -, hk⟩ := List.mem_map.mp hv'
      refine hs.heap k v (Eq.trans ?_ hk)
      unfold rawVal; cases s.heap[k]? <;> rfl
    · exact .inr trivial
    · exact .inl hf
  · intro x v hx
    by_cases hk : x ∈ ks
    · obtain ⟨ob, n, -, -, -, hg'⟩ := h.key_obj hk
      rw [rawVal_of_get hg'] at hx
      cases hx
    · unfold rawVal at hx
      rw [h.other x hk] at hx
      exact hs.heap x v hx

theorem traceBranch_NP (s1 : State) (o : Nat) (herr : s1.err = none) (hI : s1.InvCore)
    (ho : s1.isLive o = true) (hN : s1.NP) : (s1.traceBranch o).NP := by
  obtain ⟨e, -, h | ⟨-, -, h, hR, hT⟩⟩ := traceBranch_inv s1 o herr hI.1 hI.2.1 ho
  · rw [h]; exact hN.emit e
  · rw [h] at hT ⊢
    obtain ⟨-, -, -, -, -, -, -, -, hu, -⟩ := dropCycle_spec _ _ hR
    exact hT.NP hu hN

theorem rcDrop_NP {s : State} {o : Nat} {rest : List Frame}
    (hst : s.stack = .rcDrop o :: rest) (herr : s.err = none) (h : s.Inv) (hN : s.NP) :
    (({ s with stack := rest } : State).rcDrop o).NP := by
  have hN0 : ({ s with stack := rest } : State).NP := pop_NP hst hN
  rcases State.rcDrop_cases ({ s with stack := rest } : State) o
    with ⟨e, h1⟩ | h1 | ⟨ob, n, t, hc, hs, hl, hcase⟩
  · rw [h1]; exact hN0.fail e
  · rw [h1]; exact hN0
  · have hN1 : (({ s with stack := rest } : State).setObj o { ob with strong := .cnt n }).NP :=
      NP_setObj_of_value _ hN0 (get_of_cell hc) (.inl rfl)
    rcases hcase with ⟨-, -, h1⟩ | ⟨-, -, h1⟩ | ⟨-, -, h1⟩ | ⟨hn, -, h1⟩ <;> rw [h1]
    · exact hN1
    · exact beginSingle_NP _ o hN1
    · exact beginSingle_NP _ o (hN1.of_eq (by simp) (by simp) (by simp)
        fun x => rawVal_congr (look2_purgePeers _ o x))
    · obtain ⟨he1, hI1, hl1⟩ := rcDrop_trace_state hst herr h hc hs hn
      exact traceBranch_NP _ o he1 hI1 hl1 hN1

theorem dropFields_NP (w : State) (hh ww : List Nat) (hw : w.NP) : (w.dropFields hh ww).NP := by
  cases hh with
  | cons a hh => exact hw.push (by simp)
  | nil =>
    cases ww with
    | cons a ww => exact hw.push (by simp)
    | nil => exact hw

theorem dropVal_NP (w : State) (v : Val) (hw : w.NP) (hv : v.np) : (w.dropVal v).NP := by
  unfold State.dropVal
  rw [hv.1]
  refine (hw.emit _).push fun f hf => ?_
  simp only [Bool.false_eq_true, if_false, List.append_nil, List.cons_append, List.nil_append,
    List.mem_cons, List.not_mem_nil, or_false] at hf
  rcases hf with rfl | rfl
  · exact hv.2
  · trivial

theorem step_NP (s : State) (h : s.Inv) (hNP : s.NP) : (step s).NP := by
  cases herr : s.err with
  | some e => rw [step_of_err herr]; exact hNP
  | none =>
  cases hst : s.stack with
  | nil => rw [step_of_stack_nil hst]; exact hNP
  | cons f rest =>
    have e := step_eq_frame herr hst
    have hN0 := pop_NP hst hNP
    have hf : f.np := hNP.stk f (by rw [hst]; exact List.mem_cons_self)
    cases f with
    | rcDrop o => rw [e]; exact rcDrop_NP hst herr h hNP
    | weakDrop o => rw [e]; exact hN0.decWeakFree o false
    | dropVal v => rw [e]; exact dropVal_NP _ v hN0 hf
    | script hh ww acts =>
      cases acts with
      | nil => rw [e]; exact hN0
      | cons a as =>
        rw [e]
        have hf' : ∀ b ∈ a :: as, b.noPanic := hf
        refine applyAct_NP _ hh ww a (hN0.push fun g hg => ?_) (hf' a List.mem_cons_self)
        cases List.mem_singleton.mp hg
        exact fun b hb => hf' b (List.mem_cons_of_mem _ hb)
    | panic => exact absurd hf (by simp)
    | dropFields hh ww => rw [e]; exact dropFields_NP _ hh ww hN0
    | finishSingle o => rw [e]; exact finishSingle_NP _ o hN0
    | phase3 ks => rw [e]; exact phase3_fold_NP ks _ hN0

/-! ## `InvN` versus its working form -/

theorem InvN'_of_InvN {s : State} (h : s.InvN) : s.InvN' := by
  intro x hx
  obtain ⟨ob, hg, hd, hi⟩ := di_true_iff.mp hx
  rw [h x ob hg hd hi]; exact Nat.le_refl 1

theorem InvN_of_InvN' {s : State} (hK : s.InvK) (h : s.InvN') : s.InvN := by
  intro o ob hg hd hi
  have h1 := h o (di_true_iff.mpr ⟨ob, hg, hd, hi⟩)
  have h2 := hK.2.2 o
  omega

/-! ## `NoPanic` across an action and across `fail` -/

theorem NP_init : ({} : State).NP := by
  refine ⟨rfl, ?_, ?_, ?_⟩
  · intro f hf; cases hf
  · intro x v hv; simp [rawVal] at hv
  · intro v hv; cases hv

theorem applyAct_NoPanic (s : State) (fh fw : List Nat) (a : Act) (h : s.NoPanic) (ha : a.noPanic) :
    (applyAct s fh fw a).NoPanic := by
  rw [NoPanic_iff_NP] at h ⊢
  exact applyAct_NP s fh fw a h ha

theorem fail_NoPanic (s : State) (e : Err) (h : s.NoPanic) : (s.fail e).NoPanic := by
  rw [NoPanic_iff_NP] at h ⊢
  exact h.fail e

/-! ## the release invariant is preserved by every transition but the step of a `panic` frame -/

theorem InvN_init : ({} : State).InvN := by
  intro o ob hg; simp at hg

theorem begin_InvN (s : State) (hint : List Nat) (h : s.InvN) : (s.begin hint).InvN := h

theorem applyOp_InvN (s : State) (op : Op) (hI : s.Inv) (hR : s.InvR) (hN : s.InvN)
    (he : (applyOp s op).err = none) : (applyOp s op).InvN := by
  have hI' := applyOp_inv s op hI hR he
  refine InvN_of_InvN' hI'.2.2.2.2 ?_
  exact InvN'_mono (InvN'_of_InvN hN) (fun x hd => di_applyOp_le s op x he hd)
    (fun x => by rw [owed_applyOp]; exact Nat.le_refl _)

/-- **The only transition that can lose the release invariant is the step of a `panic` frame**
(with `applyOp_InvN` and `endOp_InvN_of_InvN`, `fail` leading to an error state): every other
machine step, whatever the values involved could do later, preserves `InvN`. -/
theorem step_InvN_of_not_panic (s : State) (hI : s.Inv) (hR : s.InvR) (hN : s.InvN)
    (htop : ∀ rest, s.stack ≠ .panic :: rest)
    (he : (step s).err = none) : (step s).InvN := by
  have hI' := step_inv s hI hR he
  exact InvN_of_InvN' hI'.2.2.2.2 (step_InvN'_of_not_panic s hI (InvN'_of_InvN hN) htop he)

/-- `catch_unwind` keeps the invariant (it touches neither the heap nor the stack) -/
theorem endOp_InvN_of_InvN (s : State) (hN : s.InvN) : (endOp s).InvN := by
  unfold endOp
  split
  · exact hN
  · exact hN

/-! ## both hold in every state of a panic-free execution -/

theorem ReachableNP.np {s : State} (h : ReachableNP s) : s.NP := by
  induction h with
  | init => exact NP_init
  | @op s o hint _ _ ho ih => exact applyOp_NP _ o (ih.of_heap rfl rfl rfl ih.heap) ho
  | @step s hr ih => exact step_NP s (reachable_Inv hr.reachable) ih
  | @endOp s _ ih =>
    have : Cactus.endOp s = s := by unfold Cactus.endOp; simp [ih.unw]
    rw [this]; exact ih
  | outOfFuel _ ih => exact ih.fail _

theorem reachableNP_invN {s : State} (h : ReachableNP s) (he : s.err = none) : s.InvN := by
  induction h with
  | init => exact InvN_init
  | @op s o hint hr hq ho ih =>
    have h0 : (s.begin hint).err = none := applyOp_err_none he
    obtain ⟨hI, hRs⟩ := reachable_core hr.reachable h0
    exact applyOp_InvN _ o (begin_inv s hint (fun _ => hI)) (begin_invR s hint hRs)
      (begin_InvN s hint (ih h0)) he
  | @step s hr ih =>
    have h0 : s.err = none := step_err_none he
    refine step_InvN_of_not_panic s (reachable_Inv hr.reachable) (reachable_InvR hr.reachable h0)
      (ih h0) (fun rest hst => ?_) he
    exact hr.np.stk .panic (by rw [hst]; exact List.mem_cons_self)
  | @endOp s hr ih => exact endOp_InvN_of_InvN s (ih (by rw [← endOp_err s]; exact he))
  | @outOfFuel s _ _ => exact absurd he (fail_err_ne_none s _)

/-! ## the property: destroyed objects return all memory -/

theorem dead_object_released_of_InvN {s : State} (h : Reachable s) (he : s.err = none)
    (hq : s.stack = []) (hN : s.InvN) {o : Nat} {ob : Obj} (hg : s.heap[o]? = some ob)
    (hd : ob.strong.isDead = true) :
    ob.links = none ∧ ob.value = none ∧ ob.implicit = false
      ∧ (ob.freed = true ↔ s.extW o + s.inHeapW o = 0) := by
  obtain ⟨⟨hO, -, -, hW, -⟩, -⟩ := reachable_core h he
  have himp : ob.implicit = false := by
    cases hi : ob.implicit with
    | false => rfl
    | true =>
      have := hN o ob hg hd hi
      rw [owed_of_stack_nil hq] at this
      cases this
  obtain ⟨-, h0, hu, hf⟩ := hO o ob hg
  have hw := hW o (get_lt hg)
  rw [weakNat_of_get hg, implicitNat_of_get hg, pendW_of_stack_nil hq, himp] at hw
  have hfr : ob.freed = true ↔ s.extW o + s.inHeapW o = 0 := by
    rw [hf, hw]; simp
  cases hs : ob.strong with
  | uninit =>
    obtain ⟨hv, hl⟩ := hu hs
    rcases hl with hl | ⟨-, hi⟩
    · exact ⟨hl, hv, himp, hfr⟩
    · rw [himp] at hi; cases hi
  | cnt n =>
    cases n with
    | zero =>
      obtain ⟨hv, hl⟩ := h0 hs
      exact ⟨hl, hv, himp, hfr⟩
    | succ n => rw [hs] at hd; cases hd

theorem all_released_of_dead {s : State}
    (hdead : ∀ (o : Nat) (ob : Obj), s.heap[o]? = some ob →
      ob.value = none ∧ (ob.freed = true ↔ s.extW o + s.inHeapW o = 0))
    (hw : s.wroots = []) (hv : s.vals = []) :
    ∀ (o : Nat) (ob : Obj), s.heap[o]? = some ob → ob.freed = true := by
  intro o ob hg
  rw [(hdead o ob hg).2]
  have h1 : s.extW o = 0 := by simp [extW_def, hw, hv]
  have h2 : s.inHeapW o = 0 := by
    rw [inHeapW_def, sumList_range_eq_zero_iff]
    intro a ha
    obtain ⟨oa, hga⟩ : ∃ oa, s.heap[a]? = some oa := ⟨s.heap[a], List.getElem?_eq_getElem ha⟩
    rw [weaksOf_of_get hga]
    simp [Obj.weakList, (hdead a oa hga).1]
  omega

/-- **C04.** Between operations of a panic-free execution, an object whose value has been destroyed
(or moved out) holds neither a link table nor a value nor its implicit weak reference, and its
allocation has been released exactly if no `Weak` handle to it exists. -/
theorem C04_dead_object_released {s : State} (h : ReachableNP s) (he : s.err = none)
    (hq : s.stack = []) {o : Nat} {ob : Obj} (hg : s.heap[o]? = some ob)
    (hd : ob.strong.isDead = true) :
    ob.links = none ∧ ob.value = none ∧ ob.implicit = false
      ∧ (ob.freed = true ↔ s.extW o + s.inHeapW o = 0) :=
  dead_object_released_of_InvN h.reachable he hq (reachableNP_invN h he) hg hd

/-- **C04 (everything collected).** If moreover every object is dead and the program holds no
`Weak` handle and no unwrapped value, every allocation has been released. -/
theorem C04_all_collected_nothing_left {s : State} (h : ReachableNP s) (he : s.err = none)
    (hq : s.stack = [])
    (hall : ∀ (o : Nat) (ob : Obj), s.heap[o]? = some ob → ob.strong.isDead = true)
    (hw : s.wroots = []) (hv : s.vals = []) :
    ∀ (o : Nat) (ob : Obj), s.heap[o]? = some ob → ob.freed = true :=
  all_released_of_dead (fun o ob hg =>
    let ⟨_, h2, _, h4⟩ := C04_dead_object_released h he hq hg (hall o ob hg); ⟨h2, h4⟩) hw hv

end Cactus
