import Cactus.Lemmas.Contract

/-!
# Where the adoption contract is needed

`step_invS_rcDrop` (Safety/Drop.lean) assumes the global contract `P`
(`∀ a b, isLive a → F a b ≤ H a b`), but is proved there from the contract for pairs *inside a group
that passes the orphan test in this very step* (`step_invS_rcDrop_local`).  Consequences:

* `stale_record_harmless_outside_group`: a stale adoption record (recorded but not backed by a held
  handle) endangers `InvS` only if owner and target both lie in a group that passes the test;
* `acts_need_no_contract`, `ops_need_no_contract`, `frames_need_no_contract`: every other transition
  keeps `InvS` with no contract at all.
-/

namespace Cactus
open State

/-! ## the global contract -/

/-- the global contract is a special case of the local one: this is `step_invS_rcDrop` -/
theorem step_invS_rcDrop_of_local (s : State) (hI : s.Inv) (hS : s.InvS) (hP : s.P) (o : Nat)
    (rest : List Frame) (hst : s.stack = Frame.rcDrop o :: rest) (herr : s.err = none) :
    (step s).InvS :=
  step_invS_rcDrop s hI hS hP o rest hst herr

/-! ## stale records -/

/-- a recorded adoption not backed by a held handle: what an elided `unadopt` leaves behind -/
def State.Stale (s : State) (a b : Nat) : Prop := s.isLive a = true ∧ s.H a b < s.F a b

/-- the contract is exactly the absence of stale records -/
theorem P_iff_no_stale (s : State) : s.P ↔ ∀ a b, ¬ s.Stale a b := by
  constructor
  · intro hP a b ⟨ha, hlt⟩
    have := hP a b ha
    omega
  · intro h a b ha
    apply Classical.byContradiction
    intro hn
    exact h a b ⟨ha, by omega⟩

/-- **C13, the part that remains true**: a stale adoption record can cause a premature destruction
only if both its owner and its target belong to a group that passes the orphan test in this step;
if no stale pair lies inside the group that this step collects, the safety invariant is kept. -/
theorem stale_record_harmless_outside_group (s : State) (hI : s.Inv) (hS : s.InvS)
    (herr : s.err = none) (o : Nat) (rest : List Frame) (hst : s.stack = Frame.rcDrop o :: rest)
    (hstale : ∀ ob n, s.cell o = some ob → ob.strong = .cnt (n + 2) →
      let s1 := ({ s with stack := rest } : State).setObj o { ob with strong := .cnt (n + 1) }
      (cycleRefs s1 o).cmap.isEmpty = false →
      hasExternalOwners s1 (cycleRefs s1 o).cmap = false →
      ∀ a b, s.Stale a b →
        ¬ (a ∈ (cycleRefs s1 o).visited ∧ b ∈ (cycleRefs s1 o).visited)) :
    (step s).InvS := by
  refine step_invS_rcDrop_local s hI hS o rest hst herr ?_
  intro ob n hc hs s1 hne hext a b ha hb
  have hg : ({ s with stack := rest } : State).heap[o]? = some ob := get_of_cell hc
  have hF : s1.F a b = s.F a b := dec_F (s0 := { s with stack := rest }) hg a b
  have hH : s1.H a b = s.H a b := dec_H (s0 := { s with stack := rest }) hg a b
  rw [hF, hH]
  exact Nat.le_of_not_lt fun hlt =>
    hstale ob n hc hs hne hext a b ⟨visited_live_dec herr hI hc hs ha, hlt⟩ ⟨ha, hb⟩

/-! ## everything else needs no contract -/

/-- user-level actions preserve `InvS` without any contract -/
theorem acts_need_no_contract : type_of% @applyAct_invS := @applyAct_invS

/-- top-level operations preserve `InvS` without any contract -/
theorem ops_need_no_contract : type_of% @applyOp_invS := @applyOp_invS

/-- frames other than `rcDrop` preserve `InvS` without any contract
(this is `step_invS_nonDrop` of Safety/Acts.lean) -/
theorem frames_need_no_contract (s : State) (hI : s.Inv) (hS : s.InvS)
    (hf : ∀ o rest, s.stack ≠ .rcDrop o :: rest) : (step s).InvS :=
  step_invS_nonDrop s hI hS hf

/-- **summary**: one machine step keeps `InvS` provided that, *if* the step is an `rcDrop` whose
trace passes the orphan test, the contract holds inside the traced group -/
theorem step_invS_local (s : State) (hI : s.Inv) (hS : s.InvS)
    (hPloc : ∀ o rest ob n, s.stack = Frame.rcDrop o :: rest → s.cell o = some ob →
      ob.strong = .cnt (n + 2) →
      let s1 := ({ s with stack := rest } : State).setObj o { ob with strong := .cnt (n + 1) }
      (cycleRefs s1 o).cmap.isEmpty = false →
      hasExternalOwners s1 (cycleRefs s1 o).cmap = false →
      ∀ a b, a ∈ (cycleRefs s1 o).visited → b ∈ (cycleRefs s1 o).visited →
        s1.F a b ≤ s1.H a b) :
    (step s).InvS := by
  cases herr : s.err with
  | some e => rw [step_of_err herr]; exact hS
  | none =>
    by_cases hf : ∃ o rest, s.stack = Frame.rcDrop o :: rest
    · obtain ⟨o, rest, hst⟩ := hf
      exact step_invS_rcDrop_local s hI hS o rest hst herr (fun ob n => hPloc o rest ob n hst)
    · exact step_invS_nonDrop s hI hS (fun o rest h => hf ⟨o, rest, h⟩)

end Cactus
