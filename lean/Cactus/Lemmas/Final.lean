import Cactus.Lemmas.Main
import Cactus.Lemmas.Shared.Closed
/-!
# Histories: what the transitions keep holds after `run`; every state produced by `run` is reachable
-/
namespace Cactus
open State

theorem drain_quiescent (f : Nat) (s : State) : (drain f s).err = none → (drain f s).stack = [] := by
  induction f generalizing s with
  | zero =>
    unfold drain
    split
    · intro _; assumption
    · exact fun h => absurd h (fail_err_ne_none s .fuel)
  | succ f ih =>
    unfold drain
    split
    · exact ih _
    · rename_i h1
      intro he
      cases hs : s.stack with
      | nil => rfl
      | cons a r => exact absurd hs (h1 a r he)

theorem drain_of_stack_nil (f : Nat) (s : State) (h : s.stack = []) : drain f s = s := by
  cases f with
  | zero => simp [drain, h]
  | succ f =>
    unfold drain
    split
    · rename_i hst; rw [h] at hst; cases hst
    · rfl

theorem drain_err_none (f : Nat) (s : State) (h : (drain f s).err = none) : s.err = none := by
  induction f generalizing s with
  | zero =>
    unfold drain at h
    split at h
    · exact h
    · cases he : s.err with
      | none => rfl
      | some e => rw [fail_err_of_some s _ e he] at h; cases h
  | succ f ih =>
    unfold drain at h
    split at h
    · exact step_err_none (ih _ h)
    · exact h

theorem run_append (ops1 ops2 : List (Op × List Nat)) :
    run (ops1 ++ ops2) = ops2.foldl (fun s oh => execOp defaultFuel s oh.1 oh.2) (run ops1) := by
  unfold run; rw [List.foldl_append]

theorem endOp_stack (s : State) : (endOp s).stack = s.stack := by
  unfold endOp; split <;> rfl

theorem execOp_quiescent (fuel : Nat) (s : State) (o : Op) (hint : List Nat)
    (hq : s.err = none → s.stack = []) :
    (execOp fuel s o hint).err = none → (execOp fuel s o hint).stack = [] := by
  unfold execOp
  split
  · exact hq
  · intro he
    rw [endOp_stack]
    rw [endOp_err] at he
    exact drain_quiescent fuel _ he

/-- a property kept by the transitions holds, together with quiescence, after a history whose
operations are admissible: any fuel, any hints -/
theorem Closed.foldl_execOp {ok : Op → Prop} {I : State → Prop} (hI : Closed ok I) (fuel : Nat)
    (ops : List (Op × List Nat)) (hops : ∀ oh ∈ ops, ok oh.1) (s : State) (h : I s)
    (hq : s.err = none → s.stack = []) :
    I (ops.foldl (fun s oh => Cactus.execOp fuel s oh.1 oh.2) s)
    ∧ ((ops.foldl (fun s oh => Cactus.execOp fuel s oh.1 oh.2) s).err = none →
        (ops.foldl (fun s oh => Cactus.execOp fuel s oh.1 oh.2) s).stack = []) := by
  induction ops generalizing s with
  | nil => exact ⟨h, hq⟩
  | cons oh rest ih =>
    exact ih (fun x hx => hops x (List.mem_cons_of_mem _ hx)) _
      (hI.execOp fuel oh.1 oh.2 h hq (hops oh List.mem_cons_self))
      (execOp_quiescent fuel s oh.1 oh.2 hq)

theorem Closed.run {ok : Op → Prop} {I : State → Prop} (hI : Closed ok I) (h0 : I {})
    (ops : List (Op × List Nat)) (hops : ∀ oh ∈ ops, ok oh.1) :
    I (Cactus.run ops) ∧ ((Cactus.run ops).err = none → (Cactus.run ops).stack = []) :=
  hI.foldl_execOp defaultFuel ops hops {} h0 (fun _ => rfl)

theorem Reachable.closed : Closed (fun _ => True) Reachable :=
  ⟨fun o hint h hq _ => .op o hint h hq, .step, .endOp, .outOfFuel⟩

/-- every state produced by running a history is reachable -/
theorem execOp_reachable (fuel : Nat) (s : State) (o : Op) (hint : List Nat) (h : Reachable s)
    (hq : s.stack = []) : Reachable (execOp fuel s o hint) :=
  Reachable.closed.execOp fuel o hint h (fun _ => hq) trivial

theorem run_reachable (ops : List (Op × List Nat)) : Reachable (run ops) :=
  (Reachable.closed.run .init ops (fun _ _ => trivial)).1

/-- everything reachable from the program's handles is live (needs the safety invariant) -/
theorem reach_live {s : State} (hS : s.InvSCore) {o : Nat} (hr : s.Reach o) : s.isLive o = true := by
  induction hr with
  | root h => exact hS.1 _ (by omega)
  | @step a o _ _ hH _ =>
    have := State.H_le_inHeap s a o
    exact hS.1 _ (by omega)

end Cactus
