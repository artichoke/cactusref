import Cactus.Lemmas.Final
/-!
# Completeness of the collector on the trace path (property C03)

"An orphaned adopted group is destroyed in full by the drop that orphans it."

* `orphan_test_passes`: in a state satisfying the invariants, if every strong handle to every
  object reachable from the live object `x` through recorded adoptions is itself a recorded adoption
  held by an object of that same set, then the trace from `x` yields a non-empty cycle map whose
  keys are exactly that set and the orphan test passes.
* `noStale_of_P`: hypothesis (iv) follows from (ii) and the adoption contract `P`.
* `C03_group_collected`: the `Rc::drop` step on the trace path performs the group teardown of
  exactly that set.
* `C03_last_handle_links`: the last-handle rule for an object with any link table.
-/
namespace Cactus
open State

/-! ## a value of a non-live object holds nothing -/

theorem State.H_of_not_live {s : State} (hO : s.InvO) {a : Nat} (ha : s.isLive a = false) (m : Nat) :
    s.H a m = 0 := by
  cases hg : s.heap[a]? with
  | none => exact H_of_get_none hg m
  | some ob =>
    obtain ⟨h1, h2, h3, -⟩ := hO a ob hg
    rw [H_of_get hg]
    have hv : ob.value = none := by
      cases hs : ob.strong with
      | uninit => exact (h3 hs).1
      | cnt k =>
        cases k with
        | zero => exact (h2 hs).1
        | succ k =>
          have hfr := (h1 k hs).2.2.1
          rw [isLive_of_get hg, hfr, hs] at ha
          simp [Strong.isDead] at ha
    rw [Obj.heldList_of_none hv]
    rfl

/-! ## the orphan test passes on a closed group -/

section group
variable (s : State) (x : Nat)

/-- the handles stored in the heap that designate a member of a closed group are stored in values
of visited objects -/
theorem inHeap_eq_visited (hI : s.InvCore) (hx : s.isLive x = true)
    (hii : ∀ m a, FwdReach s x m → ¬ FwdReach s x a → s.isLive a = true → s.H a m = 0)
    (m : Nat) (hm : FwdReach s x m) :
    s.inHeap m = sumList ((cycleRefs s x).visited.map (fun a => s.H a m)) := by
  obtain ⟨hO, hB, -, -, -⟩ := hI
  have T := s.traced x hO hB hx
  have hlt : ∀ k ∈ (cycleRefs s x).visited, k < s.heap.length :=
    fun k hk => isLive_lt (visited_live s x hO hB hx k hk)
  rw [← sumList_range_indicator s.heap.length _ (fun a => s.H a m) T.nodup hlt]
  unfold State.inHeap
  apply sumList_range_congr
  intro a _
  by_cases hav : a ∈ (cycleRefs s x).visited
  · rw [if_pos hav]; rfl
  · rw [if_neg hav]
    show s.H a m = 0
    cases hl : s.isLive a with
    | false => exact State.H_of_not_live hO hl m
    | true =>
      exact hii m a hm (fun hR => hav ((T.reach a).mpr hR)) hl

/-- **the orphan test passes**: non-empty map, keys = reachable set, no external owner -/
theorem orphan_test_passes (hI : s.InvCore) (hx : s.isLive x = true)
    (hi : ∀ m, FwdReach s x m → s.ext m = 0 ∧ s.pend m = 0)
    (hii : ∀ m a, FwdReach s x m → ¬ FwdReach s x a → s.isLive a = true → s.H a m = 0)
    (hiii : ∀ m a, FwdReach s x m → FwdReach s x a → s.H a m ≤ s.F a m)
    (hiv : ∀ m a, FwdReach s x m → ¬ FwdReach s x a → s.isLive a = true → s.F a m = 0) :
    (cycleRefs s x).cmap.isEmpty = false
    ∧ hasExternalOwners s (cycleRefs s x).cmap = false
    ∧ (∀ k, k ∈ (cycleRefs s x).cmap.keys ↔ FwdReach s x k) := by
  have hI' := hI
  obtain ⟨hO, hB, hC, -, -⟩ := hI
  have T := s.traced x hO hB hx
  -- A: the strong count of a member is bounded by its cycle-owned count
  have hA : ∀ m, FwdReach s x m → s.strongNat m = s.inHeap m
      ∧ s.strongNat m ≤ (cycleRefs s x).cmap.get m := by
    intro m hm
    have hml : s.isLive m = true := hm.live hB hx
    have h0 := hC m hml
    rw [(hi m hm).1, (hi m hm).2, Nat.zero_add, Nat.add_zero] at h0
    refine ⟨h0, ?_⟩
    rw [h0, inHeap_eq_visited s x hI' hx hii m hm, cmap_get_eq s x hO hB hx m]
    exact sumList_map_le _ _ _ (fun a ha => hiii m a hm ((T.reach a).mp ha))
  -- B: every key is reachable
  have hBk : ∀ k, k ∈ (cycleRefs s x).cmap.keys → FwdReach s x k := by
    intro k hk
    obtain ⟨n, hn, hnm⟩ := (T.key k).mp hk
    have hnR : FwdReach s x n := (T.reach n).mp hn
    rcases hnm with ⟨c, hc⟩ | ⟨c, hc⟩
    · exact hnR.step hc
    · apply Classical.byContradiction
      intro hkR
      have hkl : s.isLive k = true := s.entry_live hB hc (by simp)
      have hpos : 0 < s.B n k := (s.B_pos_iff hB n k).mpr ⟨c, hc⟩
      have hsym := hB.2 k n hkl (hnR.live hB hx)
      have := hiv n k hnR hkR hkl
      omega
  -- D: the start object is a key
  have hxk : x ∈ (cycleRefs s x).cmap.keys := by
    obtain ⟨j, hso, hsn⟩ := State.live_strong hx
    have hAx := (hA x (FwdReach.refl x)).1
    have h3 := inHeap_eq_visited s x hI' hx hii x (FwdReach.refl x)
    have hpos : 0 < sumOver (cycleRefs s x).visited (fun a => s.H a x) := by
      show 0 < sumList ((cycleRefs s x).visited.map (fun a => s.H a x))
      omega
    obtain ⟨a, ha, hH⟩ := sumOver_pos hpos
    have hF := hiii x a (FwdReach.refl x) ((T.reach a).mp ha)
    obtain ⟨c, hc⟩ := (s.F_pos_iff hB a x).mp (by omega)
    exact (T.key x).mpr ⟨a, ha, Or.inl ⟨c, hc⟩⟩
  have hne : (cycleRefs s x).cmap.isEmpty = false := by
    cases hm : (cycleRefs s x).cmap with
    | nil => rw [hm] at hxk; simp [CMap.keys] at hxk
    | cons e r => rfl
  -- C: no key has an external owner
  have hext : hasExternalOwners s (cycleRefs s x).cmap = false := by
    unfold hasExternalOwners
    rw [List.any_eq_false]
    intro e he
    have hek : e.1 ∈ (cycleRefs s x).cmap.keys := CMap.mem_keys_of_mem he
    have hget : (cycleRefs s x).cmap.get e.1 = e.2 := CMap.get_of_mem _ T.keysNodup e.1 e.2 he
    have hR := hBk e.1 hek
    obtain ⟨j, hso, hsn⟩ := State.live_strong (hR.live hB hx)
    have hle := (hA e.1 hR).2
    rw [hso]
    simp only [strongExceeds, decide_eq_true_eq]
    omega
  refine ⟨hne, hext, ?_⟩
  intro k
  rw [keys_eq_visited s x hO hB hx hne hext k]
  exact T.reach k

/-- hypothesis (iv) ("no stale record from outside") follows from (ii) and the contract `P` -/
theorem noStale_of_P (hP : s.P)
    (hii : ∀ m a, FwdReach s x m → ¬ FwdReach s x a → s.isLive a = true → s.H a m = 0) :
    ∀ m a, FwdReach s x m → ¬ FwdReach s x a → s.isLive a = true → s.F a m = 0 := by
  intro m a hm ha hl
  have h1 := hP a m hl
  have h2 := hii m a hm ha hl
  omega

end group

/-! ## the group rule on the trace path -/

/-- the state in which the trace of `Rc::drop` runs: the `rcDrop x` frame popped, the strong count
of `x` decremented to `n + 1` -/
abbrev State.decTop (s : State) (rest : List Frame) (x : Nat) (ob : Obj) (n : Nat) : State :=
  ({ s with stack := rest } : State).setObj x { ob with strong := .cnt (n + 1) }

theorem step_eq_traceBranch (s : State) (x : Nat) (rest : List Frame) (ob : Obj) (n : Nat) (t : Table)
    (herr : s.err = none) (hst : s.stack = .rcDrop x :: rest) (hc : s.cell x = some ob)
    (hs : ob.strong = .cnt (n + 2)) (hl : ob.links = some t) (hne : t.isEmpty = false) :
    step s = (s.decTop rest x ob n).traceBranch x := by
  rw [step_eq_frame herr hst]
  exact State.rcDrop_eq_traceBranch _ x ob n t hc hs hl hne

theorem State.traceBranch_eq_dropCycle (s1 : State) (x : Nat) (hI : s1.InvCore) (hx : s1.isLive x = true)
    (hne : (cycleRefs s1 x).cmap.isEmpty = false)
    (hext : hasExternalOwners s1 (cycleRefs s1 x).cmap = false) :
    s1.traceBranch x
      = (s1.emit (.traced x (cycleRefs s1 x).visited.length (cycleRefs s1 x).popped)).dropCycle
          (cycleRefs s1 x).cmap :=
  (s1.traceBranch_eq_of_inv x hI.1 hI.2.1 hx).trans
    (if_neg fun h => h.elim (fun h => Bool.false_ne_true (hne.symm.trans h))
      (fun h => Bool.false_ne_true (hext.symm.trans h)))

/-- **C03, group rule on the trace path.**  `s` is about to run `<Rc as Drop>::drop` of a handle to
`x`, `x` keeps a positive count and has a non-empty link table.  If afterwards (in `s1`) every
strong handle to every object reachable from `x` through recorded adoptions is itself a recorded
adoption held by an object of that same set, then this very step tears down exactly that set:
the orphan test passes, the step is `dropCycle` on a map whose keys are the reachable set, the
stack becomes `destructors ++ [phase3 keys] ++ rest`, and every member's value has been moved out
(its destructor is among the scheduled ones) and the member is marked `uninit` with value and
table gone. -/
theorem C03_group_collected (s : State) (x : Nat) (rest : List Frame) (ob : Obj) (n : Nat) (t : Table)
    (herr : s.err = none) (hI : s.Inv) (hst : s.stack = .rcDrop x :: rest)
    (hc : s.cell x = some ob) (hs : ob.strong = .cnt (n + 2)) (hl : ob.links = some t)
    (hne : t.isEmpty = false)
    (hi : ∀ m, FwdReach (s.decTop rest x ob n) x m →
      (s.decTop rest x ob n).ext m = 0 ∧ (s.decTop rest x ob n).pend m = 0)
    (hii : ∀ m a, FwdReach (s.decTop rest x ob n) x m → ¬ FwdReach (s.decTop rest x ob n) x a →
      (s.decTop rest x ob n).isLive a = true → (s.decTop rest x ob n).H a m = 0)
    (hiii : ∀ m a, FwdReach (s.decTop rest x ob n) x m → FwdReach (s.decTop rest x ob n) x a →
      (s.decTop rest x ob n).H a m ≤ (s.decTop rest x ob n).F a m)
    (hiv : ∀ m a, FwdReach (s.decTop rest x ob n) x m → ¬ FwdReach (s.decTop rest x ob n) x a →
      (s.decTop rest x ob n).isLive a = true → (s.decTop rest x ob n).F a m = 0) :
    let s1 := s.decTop rest x ob n
    let tr := cycleRefs s1 x
    let s2 := s1.emit (.traced x tr.visited.length tr.popped)
    tr.cmap.isEmpty = false
    ∧ hasExternalOwners s2 tr.cmap = false
    ∧ step s = s2.dropCycle tr.cmap
    ∧ (step s).err = none
    ∧ (∀ k, k ∈ tr.cmap.keys ↔ FwdReach s1 x k)
    ∧ ∃ vs : List Val,
        (step s).stack = vs.map Frame.dropVal ++ [Frame.phase3 tr.cmap.keys] ++ rest
        ∧ ∀ m, FwdReach s1 x m →
            ∃ v, (s.heap[m]?).bind (·.value) = some v
              ∧ v ∈ vs
              ∧ Frame.dropVal v ∈ (step s).stack
              ∧ ∃ ob', (step s).heap[m]? = some ob' ∧ ob'.strong = .uninit ∧ ob'.value = none
                  ∧ ob'.links = none := by
  intro s1 tr s2
  obtain ⟨herr1, hI1, hx1⟩ : s1.err = none ∧ s1.InvCore ∧ s1.isLive x = true :=
    rcDrop_trace_state hst herr hI hc hs (Nat.succ_ne_zero n)
  have hg : s.heap[x]? = some ob := get_of_cell hc
  have hg1 : s1.heap[x]? = some { ob with strong := .cnt (n + 1) } :=
    getElem?_setObj_same _ (get_lt hg)
  obtain ⟨hne1, hext1, hkR⟩ := orphan_test_passes s1 x hI1 hx1 hi hii hiii hiv
  have hstep : step s = s2.dropCycle tr.cmap :=
    (step_eq_traceBranch s x rest ob n t herr hst hc hs hl hne).trans
      (s1.traceBranch_eq_dropCycle x hI1 hx1 hne1 hext1)
  -- the emitted state
  have hcr : cycleRefs s2 x = tr := cycleRefs_emit s1 _ x
  have hI2 : s2.InvCore := State.InvCore_emit hI1 _
  have hO2 : s2.InvO := hI2.1
  have hB2 : s2.InvB := hI2.2.1
  have herr2 : s2.err = none := herr1
  have hx2 : s2.isLive x = true := hx1
  have hext2 : hasExternalOwners s2 tr.cmap = false := hext1
  have hT : Teardown s2 (s2.dropCycle tr.cmap) tr.cmap.keys (s2.cyc2 tr.cmap).2 := by
    have := dropCycle_teardown s2 x hO2 hB2 herr2 hx2 (by rw [hcr]; exact hne1)
      (by rw [hcr]; exact hext2)
    rw [hcr] at this
    exact this
  have herr' : (s2.dropCycle tr.cmap).err = none := by
    have hR := cycleReady_of_inv s2 x hO2 hB2 herr2 hx2 (by rw [hcr]; exact hext2)
    rw [hcr] at hR
    rw [dropCycle_eq s2 tr.cmap hR]
    exact herr2
  refine ⟨hne1, hext2, hstep, ?_, hkR, ?_⟩
  · rw [hstep]; exact herr'
  · obtain ⟨vs', hperm, hstk⟩ := hT.stack
    refine ⟨vs', ?_, ?_⟩
    · rw [hstep, hstk]; rfl
    · intro m hm
      have hmk : m ∈ tr.cmap.keys := (hkR m).mpr hm
      obtain ⟨obm, j, hgm, -, hsm, hgm'⟩ := hT.key_obj hmk
      obtain ⟨h1, -⟩ := hO2 m obm hgm
      obtain ⟨hv, -, -, -⟩ := h1 j hsm
      cases hvv : obm.value with
      | none => rw [hvv] at hv; cases hv
      | some v =>
        have hbind2 : (s2.heap[m]?).bind (fun o => o.value) = some v := by
          rw [hgm]; exact hvv
        have hvmem : v ∈ (s2.cyc2 tr.cmap).2 := by
          have : some v ∈ (s2.cyc2 tr.cmap).2.map some := by
            rw [hT.vals, ← hbind2]
            exact List.mem_map.mpr ⟨m, hmk, rfl⟩
          obtain ⟨w, hw, hwe⟩ := List.mem_map.mp this
          cases hwe
          exact hw
        have hvmem' : v ∈ vs' := hperm.mem_iff.mpr hvmem
        -- the value in the original state
        have hbind : (s.heap[m]?).bind (fun o => o.value) = some v := by
          have hgm1 : s1.heap[m]? = some obm := hgm
          by_cases hmx : m = x
          · subst hmx
            rw [hg1] at hgm1
            cases hgm1
            rw [hg]
            exact hvv
          · have : s1.heap[m]? = s.heap[m]? := getElem?_setObj_other _ _ hmx
            rw [← this, hgm1]
            exact hvv
        refine ⟨v, hbind, hvmem', ?_, p2Obj obm, ?_, rfl, rfl, rfl⟩
        · rw [hstep, hstk]
          simp only [List.mem_append, List.mem_map]
          exact Or.inl (Or.inl ⟨v, hvmem', rfl⟩)
        · rw [hstep]; exact hgm'

/-! ## the last-handle rule with adoptions -/

/-- **C03, last-handle rule (any link table).**  Dropping the last strong handle of `x` moves its
value out and schedules its destructor in that very step, above the rest of the stack, and marks
`x` uninit. -/
theorem C03_last_handle_links (s : State) (x : Nat) (rest : List Frame) (ob : Obj)
    (herr : s.err = none) (hI : s.Inv) (hst : s.stack = .rcDrop x :: rest)
    (hc : s.cell x = some ob) (hs : ob.strong = .cnt 1) :
    ∃ v, ob.value = some v
      ∧ (step s).stack = Frame.dropVal v :: Frame.finishSingle x :: rest
      ∧ Frame.dropVal v ∈ (step s).stack
      ∧ ∃ ob', (step s).heap[x]? = some ob' ∧ ob'.strong = .uninit ∧ ob'.value = none := by
  obtain ⟨hO, -, -, -, -⟩ := hI herr
  have hg : s.heap[x]? = some ob := get_of_cell hc
  have hfr : ob.freed = false := freed_of_cell hc
  have hlt : x < s.heap.length := get_lt hg
  obtain ⟨hv, hlk, -, -⟩ := (hO x ob hg).1 0 hs
  cases hvv : ob.value with
  | none => rw [hvv] at hv; cases hv
  | some v =>
  cases hll : ob.links with
  | none => rw [hll] at hlk; cases hlk
  | some t =>
  have hc0 : ({ s with stack := rest } : State).cell x = some ob := by simpa using hc
  -- the state on which `beginSingle` runs
  have key : ∀ sp : State, sp.stack = rest →
      (∃ ob2, sp.cell x = some ob2 ∧ ob2.strong = .cnt 0 ∧ ob2.value = some v) →
      (sp.beginSingle x).stack = Frame.dropVal v :: Frame.finishSingle x :: rest
      ∧ ∃ ob', (sp.beginSingle x).heap[x]? = some ob' ∧ ob'.strong = .uninit ∧ ob'.value = none := by
    intro sp hsp ⟨ob2, hc2, hs2, hv2⟩
    rw [beginSingle_of_cnt hc2 hs2 hv2]
    refine ⟨by simp [hsp], { ob2 with strong := .uninit, value := none }, ?_, rfl, rfl⟩
    rw [push_heap]
    exact getElem?_setObj_same _ (get_lt (get_of_cell hc2))
  have hcell0 : (({ s with stack := rest } : State).setObj x { ob with strong := .cnt 0 }).cell x
      = some { ob with strong := .cnt 0 } := by
    rw [cell_setObj_same _ x ob _ hc0]
    simp [hfr]
  have hres : (step s).stack = Frame.dropVal v :: Frame.finishSingle x :: rest
      ∧ ∃ ob', (step s).heap[x]? = some ob' ∧ ob'.strong = .uninit ∧ ob'.value = none := by
    have hstep : step s = ({ s with stack := rest } : State).rcDrop x := step_eq_frame herr hst
    rw [hstep]
    cases hemp : t.isEmpty with
    | true =>
      rw [rcDrop_eq_single_empty _ x ob t hc0 hs hll hemp]
      exact key _ rfl ⟨_, hcell0, rfl, hvv⟩
    | false =>
      rw [rcDrop_eq_single_purge _ x ob t hc0 hs hll hemp]
      have hLO := LinksOnly.purgePeers
        (({ s with stack := rest } : State).setObj x { ob with strong := .cnt 0 }) x
      obtain ⟨ob2, hg2, hE⟩ := hLO.obj x _ (get_of_cell hcell0)
      obtain ⟨e1, e3, e4, _, _⟩ := hE
      refine key _ hLO.stack ⟨ob2, ?_, e1, e3.trans hvv⟩
      rw [cell_of_get hg2, e4]
      simp [hfr]
  exact ⟨v, rfl, hres.1, by rw [hres.1]; exact List.mem_cons_self, hres.2⟩

end Cactus
