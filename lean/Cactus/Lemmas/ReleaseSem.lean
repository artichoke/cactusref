import Cactus.Lemmas.Release
import Cactus.Lemmas.NoRevive
import Cactus.Lemmas.Basic
/-!
# No leak without a panic (C04 under a semantic hypothesis)

`Release.lean` proves that destroyed objects return all memory for `ReachableNP` states: histories
restricted *syntactically* to operations that cannot make a destructor panic (no `setPanic`).
Here the restriction is replaced by what the execution actually *did*:

* `reachable_invN_or_panic`: in every `Reachable` state (any history) the release invariant
  `InvN` holds, or a panic is unwinding, or a panic has been caught (`Ev.panicked ∈ log`), or the
  machine has stopped with an error.
* the only transition that can lose `InvN` (from an error-free state to an error-free state) is
  the step of a `panic` frame: `step_InvN_of_not_panic`, `applyOp_InvN`, `endOp_InvN_of_InvN`
  (all in `Release.lean`).
* `C04_dead_object_released_sem`, `C04_all_collected_nothing_left_sem`: the two results of
  `Release.lean` for `Reachable` states at an operation boundary in which no destructor has
  panicked so far.
-/
namespace Cactus
open State

namespace ReleaseSem

/-! ## `unwinding` is written by the `panic` frame and by `endOp` only -/

theorem foldl_unw {α β : Type} (π : β → State) (g : β → α → β)
    (hg : ∀ b a, (π (g b a)).unwinding = (π b).unwinding) :
    ∀ (l : List α) (b : β), (π (l.foldl g b)).unwinding = (π b).unwinding
  | [], _ => rfl
  | a :: l, b => (foldl_unw π g hg l _).trans (hg b a)

theorem phase1One_unw (keys : List Nat) (s : State) (e : Nat × Nat) :
    (State.phase1One keys s e).unwinding = s.unwinding := by
  unfold State.phase1One
  (repeat' split) <;> simp

theorem phase2One_unw (acc : State × List Val) (k : Nat) :
    (State.phase2One acc k).1.unwinding = acc.1.unwinding := by
  unfold State.phase2One
  (repeat' split) <;> simp

theorem phase3One_unw (s : State) (k : Nat) : (s.phase3One k).unwinding = s.unwinding := by
  rcases State.phase3One_cases s k with ⟨e, h⟩ | ⟨ob, -, -, h⟩ | h <;> rw [h] <;> simp

theorem dropCycle_unw (s : State) (c : CMap) : (s.dropCycle c).unwinding = s.unwinding := by
  unfold State.dropCycle
  simp only [push_unwinding]
  rw [foldl_unw Prod.fst _ phase2One_unw]
  exact foldl_unw id _ (phase1One_unw _) _ _

theorem beginSingle_unw (s : State) (o : Nat) : (s.beginSingle o).unwinding = s.unwinding := by
  rcases State.beginSingle_cases s o with ⟨e, h⟩ | h | ⟨ob, v, -, -, h⟩ <;> rw [h] <;> simp

theorem finishSingle_unw (s : State) (o : Nat) : (s.finishSingle o).unwinding = s.unwinding := by
  rcases State.finishSingle_cases s o with ⟨e, h⟩ | ⟨ob, -, h⟩ <;> rw [h] <;> simp

theorem traceBranch_unw (s : State) (o : Nat) : (s.traceBranch o).unwinding = s.unwinding := by
  rcases State.traceBranch_cases s o with ⟨e, h⟩ | h | h <;> rw [h]
  · simp
  · rfl
  · rw [dropCycle_unw]; rfl

theorem rcDrop_unw (s : State) (o : Nat) : (s.rcDrop o).unwinding = s.unwinding := by
  rcases State.rcDrop_cases s o with ⟨e, h⟩ | h | ⟨ob, n, t, -, -, -, h | h | h | h⟩
  · rw [h]; simp
  · rw [h]
  · rw [h.2.2]; rfl
  · rw [h.2.2, beginSingle_unw]; rfl
  · rw [h.2.2, beginSingle_unw]; simp
  · rw [h.2.2, traceBranch_unw]; rfl

theorem dropVal_unw (s : State) (v : Val) : (s.dropVal v).unwinding = s.unwinding := rfl

theorem dropFields_unw (s : State) (hs ws : List Nat) :
    (s.dropFields hs ws).unwinding = s.unwinding := by
  obtain ⟨fs, h⟩ := dropFields_eq_push s hs ws
  rw [h]; rfl

theorem applyOp_unw (s : State) (op : Op) : (applyOp s op).unwinding = s.unwinding := by
  cases op with
  | act a => exact applyAct_unwinding s [] [] a
  | setScript q acts => simp only [applyOp]; split <;> simp
  | shuffle q i => simp only [applyOp]; split <;> simp

/-- the `panic` frame's step: abort if already unwinding, else start unwinding -/
theorem panic_unw (s : State) : s.panic.unwinding = true := by
  unfold State.panic
  split
  · rename_i h; rw [fail_unwinding]; exact h
  · rfl

/-- a machine step leaves `unwinding` alone unless it is the step of a `panic` frame, which sets it -/
theorem step_unw (s : State) :
    (step s).unwinding = s.unwinding
    ∨ ((∃ rest, s.stack = .panic :: rest) ∧ (step s).unwinding = true) := by
  cases herr : s.err with
  | some e => rw [step_of_err herr]; exact .inl rfl
  | none =>
  cases hst : s.stack with
  | nil => rw [step_of_stack_nil hst]; exact .inl rfl
  | cons f rest =>
    rw [step_eq_frame herr hst]
    cases f with
    | rcDrop o => exact .inl (rcDrop_unw _ o)
    | weakDrop o => exact .inl (decWeakFree_unwinding _ o false)
    | dropVal v => exact .inl rfl
    | script hh ww acts =>
      cases acts with
      | nil => exact .inl rfl
      | cons a as => exact .inl (applyAct_unwinding _ hh ww a)
    | panic => exact .inr ⟨⟨rest, rfl⟩, panic_unw _⟩
    | dropFields hh ww => exact .inl (dropFields_unw _ hh ww)
    | finishSingle o => exact .inl (finishSingle_unw _ o)
    | phase3 ks => exact .inl (foldl_unw id _ phase3One_unw ks _)

theorem step_unw_eq_of_not_panic (s : State) (htop : ∀ rest, s.stack ≠ .panic :: rest) :
    (step s).unwinding = s.unwinding := by
  rcases step_unw s with h | ⟨⟨rest, hst⟩, -⟩
  · exact h
  · exact absurd hst (htop rest)

/-! ## the log only grows -/

theorem mem_log_of_grow {s t : State} (g : s.Grow t) {e : Ev} (h : e ∈ s.log) : e ∈ t.log :=
  g.log_prefix.subset h

theorem endOp_of_not_unw (s : State) (h : s.unwinding = false) : endOp s = s := by
  unfold endOp; simp [h]

theorem endOp_panicked_of_unw (s : State) (h : s.unwinding = true) : Ev.panicked ∈ (endOp s).log := by
  unfold endOp; simp [h]

theorem endOp_unw (s : State) : (endOp s).unwinding = false := by
  unfold endOp
  split
  · rfl
  · rename_i h; simpa using h

end ReleaseSem

open ReleaseSem

/-- the step of a `panic` frame: either the machine aborts (double panic) or unwinding starts -/
theorem step_panic_frame (s : State) (herr : s.err = none) {rest : List Frame}
    (hst : s.stack = .panic :: rest) :
    (step s).unwinding = true ∨ (step s).err ≠ none := by
  rw [step_eq_frame herr hst]
  exact .inl (panic_unw _)

/-! ## (1) the semantic characterisation -/

/-- **The release invariant can only be lost by an actual panic.**  In every reachable state (any
history, `setPanic` allowed): `InvN` holds, or a panic is unwinding right now, or a panic has been
caught at an operation boundary earlier, or the machine has stopped with an error (an abort on a
double panic, fuel, a history outside the contract). -/
theorem reachable_invN_or_panic {s : State} (h : Reachable s) :
    s.InvN ∨ s.unwinding = true ∨ Ev.panicked ∈ s.log ∨ s.err ≠ none := by
  induction h with
  | init => exact .inl InvN_init
  | @op s o hint hr hq ih =>
    by_cases he : (applyOp (s.begin hint) o).err = none
    · have h0 : (s.begin hint).err = none := applyOp_err_none he
      rcases ih with hN | hu | hl | hne
      · obtain ⟨hI, hRs⟩ := reachable_core hr h0
        exact .inl (applyOp_InvN _ o (begin_inv s hint (fun _ => hI)) (begin_invR s hint hRs)
          (begin_InvN s hint hN) he)
      · exact .inr (.inl ((applyOp_unw _ o).trans hu))
      · exact .inr (.inr (.inl (mem_log_of_grow (State.Grow.applyOp (s.begin hint) o) hl)))
      · exact absurd h0 hne
    · exact .inr (.inr (.inr he))
  | @step s hr ih =>
    by_cases he : (step s).err = none
    · have h0 : s.err = none := step_err_none he
      rcases ih with hN | hu | hl | hne
      · rcases Classical.em (∃ rest, s.stack = .panic :: rest) with ⟨rest, hst⟩ | htop
        · exact .inr ((step_panic_frame s h0 hst).imp_right fun hne => absurd he hne)
        · exact .inl (step_InvN_of_not_panic s (reachable_Inv hr) (reachable_InvR hr h0) hN
            (fun rest hst => htop ⟨rest, hst⟩) he)
      · exact .inr (.inl ((step_unw s).elim (·.trans hu) (·.2)))
      · exact .inr (.inr (.inl (mem_log_of_grow (State.Grow.step s) hl)))
      · exact absurd h0 hne
    · exact .inr (.inr (.inr he))
  | @endOp s hr ih =>
    rcases ih with hN | hu | hl | hne
    · exact .inl (endOp_InvN_of_InvN s hN)
    · exact .inr (.inr (.inl (endOp_panicked_of_unw s hu)))
    · exact .inr (.inr (.inl (mem_log_of_grow (State.Grow.endOp s) hl)))
    · exact .inr (.inr (.inr (by rw [endOp_err]; exact hne)))
  | @outOfFuel s _ _ => exact .inr (.inr (.inr (fail_err_ne_none s _)))

/-- if no destructor has panicked so far, the release invariant holds -/
theorem reachable_invN_of_no_panic {s : State} (h : Reachable s) (he : s.err = none)
    (hu : s.unwinding = false) (hl : Ev.panicked ∉ s.log) : s.InvN := by
  rcases reachable_invN_or_panic h with hN | hu' | hl' | hne
  · exact hN
  · rw [hu] at hu'; cases hu'
  · exact absurd hl' hl
  · exact absurd he hne

/-! ## (2) C04 under the semantic hypothesis -/

/-- **C04, no leak without a panic.**  Between operations of *any* execution in which no destructor
has panicked so far (no `Ev.panicked` in the log — whatever the program could have done), an object
whose value has been destroyed (or moved out) holds neither a link table nor a value nor its
implicit weak reference, and its allocation has been released exactly if no `Weak` handle to it
exists. -/
theorem C04_dead_object_released_sem {s : State} (h : Reachable s) (he : s.err = none)
    (hq : s.stack = []) (hu : s.unwinding = false) (hl : Ev.panicked ∉ s.log)
    {o : Nat} {ob : Obj} (hg : s.heap[o]? = some ob) (hd : ob.strong.isDead = true) :
    ob.links = none ∧ ob.value = none ∧ ob.implicit = false
      ∧ (ob.freed = true ↔ s.extW o + s.inHeapW o = 0) :=
  dead_object_released_of_InvN h he hq (reachable_invN_of_no_panic h he hu hl) hg hd

/-- **C04 (everything collected), no leak without a panic.**  If moreover every object is dead and
the program holds no `Weak` handle and no unwrapped value, every allocation has been released. -/
theorem C04_all_collected_nothing_left_sem {s : State} (h : Reachable s) (he : s.err = none)
    (hq : s.stack = []) (hu : s.unwinding = false) (hl : Ev.panicked ∉ s.log)
    (hall : ∀ (o : Nat) (ob : Obj), s.heap[o]? = some ob → ob.strong.isDead = true)
    (hw : s.wroots = []) (hv : s.vals = []) :
    ∀ (o : Nat) (ob : Obj), s.heap[o]? = some ob → ob.freed = true :=
  all_released_of_dead (fun o ob hg =>
    let ⟨_, h2, _, h4⟩ := C04_dead_object_released_sem h he hq hu hl hg (hall o ob hg); ⟨h2, h4⟩) hw hv

/-- a `ReachableNP` state meets the hypotheses of the two theorems above: the results of
`Release.lean` are instances of them -/
theorem ReachableNP.no_panic_so_far {s : State} (h : ReachableNP s) (he : s.err = none) :
    s.unwinding = false ∧ s.InvN :=
  ⟨h.np.unw, reachableNP_invN h he⟩

end Cactus
