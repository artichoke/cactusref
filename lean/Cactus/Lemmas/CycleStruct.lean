import Cactus.Lemmas.Count
import Cactus.Lemmas.Trace
/-!
# Exact shape of the state after `dropCycle`

Under `CycleReady s c` (every key of the cycle map is a distinct, readable, live object that passed
the orphan test) the two synchronous phases of `drop_cycle` are described exactly: which objects are
rewritten and how, that nothing else moves, and which values are collected in which order.
-/
namespace Cactus
open State

/-- every key of the cycle map is a distinct, readable, live object whose strong count does not
exceed its cycle-owned count (i.e. the orphan test passed) -/
structure CycleReady (s : State) (c : CMap) : Prop where
  nodup : c.keys.Nodup
  noerr : s.err = none
  ready : ∀ k, k ∈ c.keys → ∃ ob t st v, s.heap[k]? = some ob ∧ ob.freed = false ∧ ob.links = some t
            ∧ ob.strong = .cnt st ∧ ob.value = some v ∧ st ≤ c.get k

/-- the entries phase 1 keeps in a member's table: all but the Forward entries to members -/
abbrev intraFwd (keys : List Nat) (x : Link × Nat) : Bool :=
  !(x.1.kind == .fwd && keys.contains x.1.ptr)

/-- a group member after phase 1 (when the orphan test passed) -/
def p1Obj (keys : List Nat) (ob : Obj) : Obj :=
  { ob with links := ob.links.map (fun t => t.filter (intraFwd keys)), strong := .cnt 0 }

/-- a group member after phase 2 -/
def p2Obj (ob : Obj) : Obj :=
  { ob with strong := .uninit, value := none, links := none }

/-- state after phase 1 of `dropCycle` -/
abbrev State.cyc1 (s : State) (c : CMap) : State := c.foldl (State.phase1One c.keys) s

/-- state and collected values after phase 2 of `dropCycle` -/
abbrev State.cyc2 (s : State) (c : CMap) : State × List Val :=
  c.keys.foldl State.phase2One (s.cyc1 c, [])

theorem State.dropCycle_eq_push (s : State) (c : CMap) :
    s.dropCycle c
      = (s.cyc2 c).1.push ((reorder s.hint (s.cyc2 c).2).map Frame.dropVal ++ [.phase3 c.keys]) := rfl

@[simp] theorem p2Obj_p1Obj (keys : List Nat) (ob : Obj) : p2Obj (p1Obj keys ob) = p2Obj ob := rfl
@[simp] theorem p1Obj_value (keys : List Nat) (ob : Obj) : (p1Obj keys ob).value = ob.value := rfl
@[simp] theorem p1Obj_freed (keys : List Nat) (ob : Obj) : (p1Obj keys ob).freed = ob.freed := rfl
@[simp] theorem p1Obj_strong (keys : List Nat) (ob : Obj) : (p1Obj keys ob).strong = .cnt 0 := rfl
@[simp] theorem p1Obj_weak (keys : List Nat) (ob : Obj) : (p1Obj keys ob).weak = ob.weak := rfl
@[simp] theorem p1Obj_implicit (keys : List Nat) (ob : Obj) :
    (p1Obj keys ob).implicit = ob.implicit := rfl
@[simp] theorem p1Obj_links (keys : List Nat) (ob : Obj) :
    (p1Obj keys ob).links = ob.links.map (fun t => t.filter (intraFwd keys)) := rfl

theorem State.withHeap_trans {a b c : State} (h1 : b = { a with heap := b.heap })
    (h2 : c = { b with heap := c.heap }) : c = { a with heap := c.heap } := by
  rw [h1] at h2
  exact h2

theorem State.withHeap_err {a b : State} (h : b = { a with heap := b.heap }) : b.err = a.err := by
  rw [h]



theorem CMap.mem_keys_of_mem {c : CMap} {e : Nat × Nat} (h : e ∈ c) : e.1 ∈ c.keys :=
  List.mem_map.mpr ⟨e, h, rfl⟩

theorem CMap.get_of_mem (c : CMap) (h : c.keys.Nodup) (k n : Nat) (hm : (k, n) ∈ c) :
    c.get k = n := by
  induction c with
  | nil => cases hm
  | cons e r ih =>
    obtain ⟨k', n'⟩ := e
    have hnd : k' ∉ CMap.keys r ∧ (CMap.keys r).Nodup := List.nodup_cons.mp h
    cases hm with
    | head => exact if_pos rfl
    | tail _ hm' =>
      have hne : k' ≠ k := fun hh => hnd.1 (hh ▸ CMap.mem_keys_of_mem hm')
      show (if k' = k then n' else CMap.get r k) = n
      rw [if_neg hne]; exact ih hnd.2 hm'


/-! ## phase 1 -/

theorem State.phase1One_ready (keys : List Nat) (s : State) (k n : Nat) (ob : Obj) (t : Table)
    (st : Nat) (hg : s.heap[k]? = some ob) (hf : ob.freed = false) (hl : ob.links = some t)
    (hs : ob.strong = .cnt st) (hle : st ≤ n) :
    State.phase1One keys s (k, n) = s.setObj k (p1Obj keys ob) := by
  have hc := State.cell_of_not_freed hg hf
  unfold State.phase1One
  simp only [hc, hl, hs]
  have h0 : st - min n st = 0 := by rw [Nat.min_eq_right hle]; exact Nat.sub_self _
  simp only [h0, p1Obj, hl, Option.map_some]

/-- readiness of one entry, relative to the current state -/
def Ready1 (s : State) (e : Nat × Nat) : Prop :=
  ∃ ob t st, s.heap[e.1]? = some ob ∧ ob.freed = false ∧ ob.links = some t
    ∧ ob.strong = .cnt st ∧ st ≤ e.2

theorem State.phase1_fold (keys : List Nat) (l : CMap) (s : State)
    (hnd : l.keys.Nodup) (hr : ∀ e ∈ l, Ready1 s e) :
    let s1 := l.foldl (State.phase1One keys) s
    s1 = { s with heap := s1.heap } ∧ s1.heap.length = s.heap.length
    ∧ (∀ k ∈ l.keys, ∀ ob, s.heap[k]? = some ob → s1.heap[k]? = some (p1Obj keys ob))
    ∧ (∀ o, o ∉ l.keys → s1.heap[o]? = s.heap[o]?) := by
  induction l generalizing s with
  | nil => exact ⟨rfl, rfl, fun _ h => (nomatch h), fun _ _ => rfl⟩
  | cons e r ih =>
    obtain ⟨k, n⟩ := e
    have hnd' : k ∉ CMap.keys r ∧ (CMap.keys r).Nodup := List.nodup_cons.mp hnd
    obtain ⟨ob, t, st, hg, hf, hl, hs, hle⟩ := hr (k, n) (List.mem_cons_self ..)
    have hstep := State.phase1One_ready keys s k n ob t st hg hf hl hs hle
    have hlt := State.get_lt hg
    -- the remaining entries are still ready after the step
    have hr' : ∀ e ∈ r, Ready1 (s.setObj k (p1Obj keys ob)) e := by
      intro e he
      have hne : k ≠ e.1 := fun hh => hnd'.1 (hh ▸ CMap.mem_keys_of_mem he)
      obtain ⟨ob', t', st', hg', rest⟩ := hr e (List.mem_cons_of_mem _ he)
      exact ⟨ob', t', st', by rw [State.setObj_get_other _ _ _ _ hne]; exact hg', rest⟩
    obtain ⟨h1, h2, h3, h4⟩ := ih (s.setObj k (p1Obj keys ob)) hnd'.2 hr'
    simp only [List.foldl_cons, hstep]
    refine ⟨?_, ?_, ?_, ?_⟩
    · exact State.withHeap_trans (a := s) (b := s.setObj k (p1Obj keys ob)) rfl h1
    · rw [h2, State.setObj_heap_length]
    · intro k' hk' ob' hg'
      have hk'' : k' = k ∨ k' ∈ CMap.keys r := List.mem_cons.mp hk'
      rcases hk'' with rfl | hk''
      · rw [h4 _ hnd'.1, State.setObj_get_same _ _ _ hlt]
        rw [hg] at hg'; cases hg'; rfl
      · have hne : k ≠ k' := fun hh => hnd'.1 (hh ▸ hk'')
        exact h3 k' hk'' ob' (by rw [State.setObj_get_other _ _ _ _ hne]; exact hg')
    · intro o ho
      have ho' : o ≠ k ∧ o ∉ CMap.keys r := not_or.mp (mt List.mem_cons.mpr ho)
      rw [h4 o ho'.2, State.setObj_get_other _ _ _ _ (Ne.symm ho'.1)]

/-- **Phase 1.**  No error, heap length and every non-heap field unchanged; every key object gets
its table filtered and its strong count zeroed; every other slot is untouched. -/
theorem phase1_spec (s : State) (c : CMap) (h : CycleReady s c) :
    (s.cyc1 c).err = none
    ∧ s.cyc1 c = { s with heap := (s.cyc1 c).heap }
    ∧ (s.cyc1 c).heap.length = s.heap.length
    ∧ (∀ k ∈ c.keys, ∀ ob, s.heap[k]? = some ob → (s.cyc1 c).heap[k]? = some (p1Obj c.keys ob))
    ∧ (∀ o, o ∉ c.keys → (s.cyc1 c).heap[o]? = s.heap[o]?) := by
  have hr : ∀ e ∈ c, Ready1 s e := by
    intro e he
    obtain ⟨ob, t, st, v, hg, hf, hl, hs, _, hle⟩ := h.ready e.1 (CMap.mem_keys_of_mem he)
    rw [CMap.get_of_mem c h.nodup e.1 e.2 he] at hle
    exact ⟨ob, t, st, hg, hf, hl, hs, hle⟩
  obtain ⟨h1, h2, h3, h4⟩ := State.phase1_fold c.keys c s h.nodup hr
  refine ⟨?_, h1, h2, h3, h4⟩
  have : (s.cyc1 c).err = s.err := State.withHeap_err h1
  rw [this, h.noerr]

theorem phase1_key (s : State) (c : CMap) (h : CycleReady s c) (k : Nat) (hk : k ∈ c.keys)
    (ob : Obj) (t : Table) (hg : s.heap[k]? = some ob) (hl : ob.links = some t) :
    (s.cyc1 c).heap[k]? = some { ob with
      links := some (t.filter (fun x => !(x.1.kind == .fwd && c.keys.contains x.1.ptr))),
      strong := .cnt 0 } := by
  rw [(phase1_spec s c h).2.2.2.1 k hk ob hg]
  simp only [p1Obj, hl, Option.map_some]

/-! ## phase 2 -/

theorem State.phase2One_ready (acc : State × List Val) (k : Nat) (ob : Obj) (v : Val)
    (hg : acc.1.heap[k]? = some ob) (hf : ob.freed = false) (hs : ob.strong = .cnt 0)
    (hv : ob.value = some v) :
    State.phase2One acc k = (acc.1.setObj k (p2Obj ob), acc.2 ++ [v]) := by
  have hc := State.cell_of_not_freed hg hf
  unfold State.phase2One
  simp only [hc, hs, hv]
  rfl

/-- readiness of one key for phase 2, relative to the current state -/
def Ready2 (s : State) (k : Nat) : Prop :=
  ∃ ob v, s.heap[k]? = some ob ∧ ob.freed = false ∧ ob.strong = .cnt 0 ∧ ob.value = some v

theorem State.phase2_fold (l : List Nat) (acc : State × List Val)
    (hnd : l.Nodup) (hr : ∀ k ∈ l, Ready2 acc.1 k) :
    let r := l.foldl State.phase2One acc
    r.1 = { acc.1 with heap := r.1.heap } ∧ r.1.heap.length = acc.1.heap.length
    ∧ (∀ k ∈ l, ∀ ob, acc.1.heap[k]? = some ob → r.1.heap[k]? = some (p2Obj ob))
    ∧ (∀ o, o ∉ l → r.1.heap[o]? = acc.1.heap[o]?)
    ∧ r.2.map some
        = acc.2.map some ++ l.map (fun k => (acc.1.heap[k]?).bind (fun ob => ob.value)) := by
  induction l generalizing acc with
  | nil => exact ⟨rfl, rfl, fun _ h => (nomatch h), fun _ _ => rfl, (List.append_nil _).symm⟩
  | cons k r ih =>
    have hnd' : k ∉ r ∧ r.Nodup := List.nodup_cons.mp hnd
    obtain ⟨ob, v, hg, hf, hs, hv⟩ := hr k (List.mem_cons_self ..)
    have hstep := State.phase2One_ready acc k ob v hg hf hs hv
    have hlt := State.get_lt hg
    have hr' : ∀ k' ∈ r, Ready2 (acc.1.setObj k (p2Obj ob), acc.2 ++ [v]).1 k' := by
      intro k' hk'
      have hne : k ≠ k' := fun hh => hnd'.1 (hh ▸ hk')
      obtain ⟨ob', v', hg', rest⟩ := hr k' (List.mem_cons_of_mem _ hk')
      exact ⟨ob', v', by
        show (acc.1.setObj k (p2Obj ob)).heap[k']? = some ob'
        rw [State.setObj_get_other _ _ _ _ hne]; exact hg', rest⟩
    obtain ⟨h1, h2, h3, h4, h5⟩ := ih (acc.1.setObj k (p2Obj ob), acc.2 ++ [v]) hnd'.2 hr'
    simp only [List.foldl_cons, hstep]
    refine ⟨?_, ?_, ?_, ?_, ?_⟩
    · exact State.withHeap_trans (a := acc.1) (b := acc.1.setObj k (p2Obj ob)) rfl h1
    · rw [h2]; exact State.setObj_heap_length _ _ _
    · intro k' hk' ob' hg'
      have hk'' : k' = k ∨ k' ∈ r := List.mem_cons.mp hk'
      rcases hk'' with rfl | hk''
      · rw [h4 _ hnd'.1]
        show (acc.1.setObj k' (p2Obj ob)).heap[k']? = _
        rw [State.setObj_get_same _ _ _ hlt]
        rw [hg] at hg'; cases hg'; rfl
      · have hne : k ≠ k' := fun hh => hnd'.1 (hh ▸ hk'')
        exact h3 k' hk'' ob' (by
          show (acc.1.setObj k (p2Obj ob)).heap[k']? = some ob'
          rw [State.setObj_get_other _ _ _ _ hne]; exact hg')
    · intro o ho
      have ho' : o ≠ k ∧ o ∉ r := not_or.mp (mt List.mem_cons.mpr ho)
      rw [h4 o ho'.2]
      exact State.setObj_get_other _ _ _ _ (Ne.symm ho'.1)
    · rw [h5]
      have hmap : r.map (fun k' => ((acc.1.setObj k (p2Obj ob), acc.2 ++ [v]).1.heap[k']?).bind
            (fun ob => ob.value))
          = r.map (fun k' => (acc.1.heap[k']?).bind (fun ob => ob.value)) := by
        apply List.map_congr_left
        intro k' hk'
        have hne : k ≠ k' := fun hh => hnd'.1 (hh ▸ hk')
        show ((acc.1.setObj k (p2Obj ob)).heap[k']?).bind _ = _
        rw [State.setObj_get_other _ _ _ _ hne]
      have hk : (acc.1.heap[k]?).bind (fun ob => ob.value) = some v := by rw [hg]; exact hv
      rw [hmap, List.map_append, List.append_assoc, List.map_cons (l := r), hk]; rfl

/-- **Phase 2.**  No error, heap length and every non-heap field unchanged; every key object is
marked uninit with value and table moved out; every other slot is as in `s`; the collected values
are exactly the keys' values, in key order. -/
theorem phase2_spec (s : State) (c : CMap) (h : CycleReady s c) :
    (s.cyc2 c).1.err = none
    ∧ (s.cyc2 c).1 = { s with heap := (s.cyc2 c).1.heap }
    ∧ (s.cyc2 c).1.heap.length = s.heap.length
    ∧ (∀ k ∈ c.keys, ∀ ob, s.heap[k]? = some ob → (s.cyc2 c).1.heap[k]? = some (p2Obj ob))
    ∧ (∀ o, o ∉ c.keys → (s.cyc2 c).1.heap[o]? = s.heap[o]?)
    ∧ (s.cyc2 c).2.map some = c.keys.map (fun k => (s.heap[k]?).bind (fun ob => ob.value)) := by
  obtain ⟨_, p1, p2, p3, p4⟩ := phase1_spec s c h
  have hr : ∀ k ∈ c.keys, Ready2 (s.cyc1 c, ([] : List Val)).1 k := by
    intro k hk
    obtain ⟨ob, t, st, v, hg, hf, hl, hs, hv, _⟩ := h.ready k hk
    exact ⟨p1Obj c.keys ob, v, p3 k hk ob hg, hf, rfl, hv⟩
  obtain ⟨h1, h2, h3, h4, h5⟩ := State.phase2_fold c.keys (s.cyc1 c, []) h.nodup hr
  have hfr : (s.cyc2 c).1 = { s with heap := (s.cyc2 c).1.heap } := State.withHeap_trans p1 h1
  refine ⟨?_, hfr, ?_, ?_, ?_, ?_⟩
  · have : (s.cyc2 c).1.err = s.err := State.withHeap_err hfr
    rw [this, h.noerr]
  · exact h2.trans p2
  · intro k hk ob hg
    have := h3 k hk (p1Obj c.keys ob) (p3 k hk ob hg)
    rw [p2Obj_p1Obj] at this
    exact this
  · intro o ho
    exact (h4 o ho).trans (p4 o ho)
  · have h5' : (s.cyc2 c).2.map some
        = c.keys.map (fun k => ((s.cyc1 c).heap[k]?).bind (fun ob => ob.value)) := h5
    rw [h5']
    apply List.map_congr_left
    intro k hk
    obtain ⟨ob, t, st, v, hg, _⟩ := h.ready k hk
    rw [p3 k hk ob hg, hg]
    rfl

theorem phase2_vals_length (s : State) (c : CMap) (h : CycleReady s c) :
    (s.cyc2 c).2.length = c.keys.length := by
  have := congrArg List.length (phase2_spec s c h).2.2.2.2.2
  simpa using this

theorem phase2_vals_get (s : State) (c : CMap) (h : CycleReady s c) (i : Nat) (k : Nat)
    (hk : c.keys[i]? = some k) :
    ∃ ob v, s.heap[k]? = some ob ∧ ob.value = some v ∧ (s.cyc2 c).2[i]? = some v := by
  have hm : k ∈ c.keys := List.mem_of_getElem? hk
  obtain ⟨ob, t, st, v, hg, _, _, _, hv, _⟩ := h.ready k hm
  refine ⟨ob, v, hg, hv, ?_⟩
  have := congrArg (fun l => l[i]?) (phase2_spec s c h).2.2.2.2.2
  simp only [List.getElem?_map, hk, Option.map_some, hg, Option.bind_some, hv] at this
  cases hx : (s.cyc2 c).2[i]? with
  | none => rw [hx] at this; cases this
  | some w => rw [hx] at this; simp at this; rw [this]

theorem eraseIdx_perm_cons' {α : Type} (l : List α) (i : Nat) (a : α) (h : l[i]? = some a) :
    (a :: l.eraseIdx i).Perm l := by
  rw [List.eraseIdx_eq_take_drop_succ]
  conv => rhs; rw [eq_take_cons_drop h]
  exact List.perm_middle.symm

/-- the hint only chooses the order in which the group's values are destroyed -/
theorem reorder_perm (hint : List Nat) (vs : List Val) : (reorder hint vs).Perm vs := by
  induction hint generalizing vs with
  | nil => simp [reorder]
  | cons h hs ih =>
    unfold reorder
    split
    · rename_i i hi
      split
      · rename_i v hv
        exact ((ih (vs.eraseIdx i)).cons v).trans (eraseIdx_perm_cons' vs i v hv)
      · exact ih vs
    · exact ih vs


theorem sumList_reorder (hint : List Nat) (vs : List Val) (f : Val → Nat) :
    State.sumList ((reorder hint vs).map f) = State.sumList (vs.map f) :=
  State.sumList_perm ((reorder_perm hint vs).map f)

theorem reorder_length (hint : List Nat) (vs : List Val) : (reorder hint vs).length = vs.length :=
  (reorder_perm hint vs).length_eq

theorem mem_reorder (hint : List Nat) (vs : List Val) (v : Val) : v ∈ reorder hint vs ↔ v ∈ vs :=
  (reorder_perm hint vs).mem_iff

theorem dropCycle_eq (s : State) (c : CMap) (h : CycleReady s c) :
    s.dropCycle c = { s with
      heap := (s.cyc2 c).1.heap
      stack := (reorder s.hint (s.cyc2 c).2).map Frame.dropVal ++ [Frame.phase3 c.keys] ++ s.stack } := by
  have hfr := (phase2_spec s c h).2.1
  rw [State.dropCycle_eq_push, State.push]
  generalize s.cyc2 c = r at hfr ⊢
  rw [hfr]

/-- **`dropCycle`.**  The heap is the phase-2 heap, no error, the destructor frames (in hint order)
and the `phase3` frame are pushed, everything else is unchanged. -/
theorem dropCycle_spec (s : State) (c : CMap) (h : CycleReady s c) :
    (s.dropCycle c).heap = (s.cyc2 c).1.heap
    ∧ (s.dropCycle c).err = none
    ∧ (s.dropCycle c).stack
        = (reorder s.hint (s.cyc2 c).2).map Frame.dropVal ++ [Frame.phase3 c.keys] ++ s.stack
    ∧ (s.dropCycle c).roots = s.roots
    ∧ (s.dropCycle c).wroots = s.wroots
    ∧ (s.dropCycle c).vals = s.vals
    ∧ (s.dropCycle c).raws = s.raws
    ∧ (s.dropCycle c).log = s.log
    ∧ (s.dropCycle c).unwinding = s.unwinding
    ∧ (s.dropCycle c).hint = s.hint
    ∧ (s.dropCycle c).nextVid = s.nextVid := by
  rw [dropCycle_eq s c h]
  exact ⟨rfl, h.noerr, rfl, rfl, rfl, rfl, rfl, rfl, rfl, rfl, rfl⟩

theorem dropCycle_heap_length (s : State) (c : CMap) (h : CycleReady s c) :
    (s.dropCycle c).heap.length = s.heap.length := by
  rw [(dropCycle_spec s c h).1]; exact (phase2_spec s c h).2.2.1

theorem dropCycle_heap_key (s : State) (c : CMap) (h : CycleReady s c) (k : Nat) (hk : k ∈ c.keys)
    (ob : Obj) (hg : s.heap[k]? = some ob) :
    (s.dropCycle c).heap[k]? = some { ob with strong := .uninit, value := none, links := none } := by
  rw [(dropCycle_spec s c h).1]; exact (phase2_spec s c h).2.2.2.1 k hk ob hg

theorem dropCycle_heap_other (s : State) (c : CMap) (h : CycleReady s c) (o : Nat)
    (ho : o ∉ c.keys) : (s.dropCycle c).heap[o]? = s.heap[o]? := by
  rw [(dropCycle_spec s c h).1]; exact (phase2_spec s c h).2.2.2.2.1 o ho

end Cactus
