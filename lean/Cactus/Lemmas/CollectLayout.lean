import Cactus.Lemmas.Final
import Cactus.Lemmas.Layout
import Cactus.Lemmas.GroupOrder
import Cactus.Lemmas.NoErr
/-!
# C09 — a whole collecting `Rc::drop` does not depend on the layout hint

The results of `Layout.lean`, `GroupOrder.lean` and `CycleStruct.lean` are chained into one statement
about the group teardown of `Rc::drop` (`dropCycle`, the block of destructor frames, and the `phase3`
frame):

* `collected_values_hold_dead_handles`: under `Full` the values collected by `dropCycle` hold strong
  handles to members of the group only, which are not live after `dropCycle`;
* `collection_block_ready`: the block of `dropVal` frames pushed by `dropCycle` satisfies the side
  conditions `Ready` of `dropVal_block`;
* `collection_layout_independent`: for quiet values, whatever the two hints, running the block and
  the `phase3` frame leads to states with the old stack, equal heaps and handle tables, no error,
  and logs that are permutations of each other.
-/
namespace Cactus
open State

/-! ## `Full` implies the contract -/

theorem full_contract {s : State} (hF : s.Full) : s.P :=
  fun a b ha => Nat.le_of_eq (hF a b ha)

/-! ## `cycleRefs`, `hasExternalOwners`, `CycleReady` and the result of `cyc2` do not read the hint -/

theorem hint_cycleRefs (s : State) (h : List Nat) (x : Nat) :
    cycleRefs ({ s with hint := h } : State) x = cycleRefs s x :=
  cycleRefs_congr (s := s) (s' := { s with hint := h }) rfl x

theorem hint_hasExternalOwners (s : State) (h : List Nat) (c : CMap) :
    hasExternalOwners ({ s with hint := h } : State) c = hasExternalOwners s c := rfl

theorem hint_cycleReady (s : State) (h : List Nat) (c : CMap) (hR : CycleReady s c) :
    CycleReady ({ s with hint := h } : State) c :=
  ⟨hR.nodup, hR.noerr, hR.ready⟩

theorem cyc2_hint (s : State) (c : CMap) (hR : CycleReady s c) (h : List Nat) :
    (({ s with hint := h } : State).cyc2 c).1.heap = (s.cyc2 c).1.heap
    ∧ (({ s with hint := h } : State).cyc2 c).2 = (s.cyc2 c).2 := by
  have hR' := hint_cycleReady s h c hR
  obtain ⟨-, -, -, k1, o1, v1⟩ := phase2_spec s c hR
  obtain ⟨-, -, -, k2, o2, v2⟩ := phase2_spec _ c hR'
  constructor
  · apply List.ext_getElem?
    intro i
    by_cases hi : i ∈ c.keys
    · obtain ⟨ob, _, _, _, hg, _⟩ := hR.ready i hi
      rw [k1 i hi ob hg, k2 i hi ob hg]
    · rw [o1 i hi, o2 i hi]
  · have e : (({ s with hint := h } : State).cyc2 c).2.map some = (s.cyc2 c).2.map some :=
      v2.trans v1.symm
    exact (List.map_inj_right (fun x y hxy => Option.some.inj hxy)).mp e

/-! ## the collected values hold handles to dead members only -/

theorem Teardown.mem_vals {s s' : State} {ks : List Nat} {vs : List Val}
    (hT : Teardown s s' ks vs) {v : Val} (hv : v ∈ vs) :
    ∃ k ∈ ks, ∃ ob, s.heap[k]? = some ob ∧ ob.value = some v := by
  have hm : some v ∈ vs.map some := List.mem_map.mpr ⟨v, hv, rfl⟩
  rw [hT.vals] at hm
  obtain ⟨k, hk, hkv⟩ := List.mem_map.mp hm
  cases hg : s.heap[k]? with
  | none => rw [hg] at hkv; cases hkv
  | some ob =>
    rw [hg] at hkv
    exact ⟨k, hk, ob, hg, hkv⟩

/-- Under `Full`, after a passed orphan test, every strong handle stored in a collected
value designates a member of the group, which is not live after `dropCycle`. -/
theorem collected_values_hold_dead_handles (s2 : State) (o : Nat)
    (hI : s2.InvCore) (herr : s2.err = none) (hF : s2.Full) (ho : s2.isLive o = true)
    (hne : (cycleRefs s2 o).cmap.isEmpty = false)
    (hext : hasExternalOwners s2 (cycleRefs s2 o).cmap = false) :
    ∀ t ∈ blockHeld (s2.cyc2 (cycleRefs s2 o).cmap).2,
      t ∈ (cycleRefs s2 o).cmap.keys
      ∧ (s2.dropCycle (cycleRefs s2 o).cmap).isLive t = false := by
  intro t ht
  have hT := dropCycle_teardown s2 o hI.1 hI.2.1 herr ho hne hext
  simp only [blockHeld, List.mem_flatten, List.mem_map] at ht
  obtain ⟨l, ⟨v, hv, rfl⟩, htl⟩ := ht
  obtain ⟨k, hk, ob, hg, hval⟩ := hT.mem_vals hv
  have hH : 0 < s2.H k t := by
    have : s2.H k t = v.held.count t := by simp [State.H, State.heldOf, hg, hval]
    rw [this]
    exact List.count_pos_iff.mpr htl
  have hkv := (keys_eq_visited s2 o hI.1 hI.2.1 ho hne hext k).mp hk
  have hmem := (full_group_closed s2 o hI.1 hI.2.1 hF ho hne hext k t hkv hH).2
  exact ⟨hmem, hT.key_not_live hmem⟩

/-! ## the block pushed by `dropCycle` is ready -/

theorem dropCycle_safe (s2 : State) (o : Nat)
    (hI : s2.InvCore) (hR : s2.InvR) (hS : s2.InvSCore) (herr : s2.err = none) (hF : s2.Full)
    (ho : s2.isLive o = true)
    (hne : (cycleRefs s2 o).cmap.isEmpty = false)
    (hext : hasExternalOwners s2 (cycleRefs s2 o).cmap = false) :
    (s2.dropCycle (cycleRefs s2 o).cmap).InvCore
    ∧ (s2.dropCycle (cycleRefs s2 o).cmap).InvR
    ∧ (s2.dropCycle (cycleRefs s2 o).cmap).InvSCore := by
  have hT := dropCycle_teardown s2 o hI.1 hI.2.1 herr ho hne hext
  have hcl := closure_keys s2 o hI.1 hI.2.1 hI.2.2.1 (full_contract hF) ho hne hext
  exact ⟨dropCycle_inv s2 o hI herr ho hne hext, hR.dropCycle _, hT.invSCore hI.1 hS hcl⟩

/-- The block of destructor frames pushed by `dropCycle` satisfies the side conditions of
`dropVal_block`. -/
theorem collection_block_ready (s2 : State) (o : Nat)
    (hI : s2.InvCore) (hR : s2.InvR) (hS : s2.InvSCore) (herr : s2.err = none) (hF : s2.Full)
    (ho : s2.isLive o = true)
    (hne : (cycleRefs s2 o).cmap.isEmpty = false)
    (hext : hasExternalOwners s2 (cycleRefs s2 o).cmap = false) :
    Ready (s2.dropCycle (cycleRefs s2 o).cmap).heap
      (blockHeld (s2.cyc2 (cycleRefs s2 o).cmap).2)
      (blockWeaks (s2.cyc2 (cycleRefs s2 o).cmap).2) := by
  obtain ⟨hc3, hR3, hS3⟩ := dropCycle_safe s2 o hI hR hS herr hF ho hne hext
  have hCR := cycleReady_of_inv s2 o hI.1 hI.2.1 herr ho hext
  have hst := (dropCycle_spec s2 _ hCR).2.2.1
  rw [List.append_assoc] at hst
  have hperm := reorder_perm s2.hint (s2.cyc2 (cycleRefs s2 o).cmap).2
  have hdead := collected_values_hold_dead_handles s2 o hI herr hF ho hne hext
  have hr := ready_of_inv _ _ _ hc3 hR3 hS3 hst
    (fun t ht => (hdead t ((blockHeld_perm hperm).mem_iff.mp ht)).2)
  exact hr.perm (blockHeld_perm hperm) (blockWeaks_perm hperm)

/-- what the invariants give for the teardown of the group `c` found by a passed orphan test; `c` is
a variable so that callers need not have the map in the form `(cycleRefs s2 o).cmap` -/
theorem collection_facts (s2 : State) (o : Nat) (c : CMap) (hc : c = (cycleRefs s2 o).cmap)
    (hI : s2.InvCore) (hR : s2.InvR) (hS : s2.InvSCore) (herr : s2.err = none) (hF : s2.Full)
    (ho : s2.isLive o = true) (hne : c.isEmpty = false) (hext : hasExternalOwners s2 c = false) :
    CycleReady s2 c ∧ Teardown s2 (s2.dropCycle c) c.keys (s2.cyc2 c).2
    ∧ ((s2.dropCycle c).InvCore ∧ (s2.dropCycle c).InvR ∧ (s2.dropCycle c).InvSCore)
    ∧ Ready (s2.dropCycle c).heap (blockHeld (s2.cyc2 c).2) (blockWeaks (s2.cyc2 c).2) := by
  subst hc
  exact ⟨cycleReady_of_inv s2 o hI.1 hI.2.1 herr ho hext,
    dropCycle_teardown s2 o hI.1 hI.2.1 herr ho hne hext,
    dropCycle_safe s2 o hI hR hS herr hF ho hne hext,
    collection_block_ready s2 o hI hR hS herr hF ho hne hext⟩

/-! ## states equal up to the order of the log (and the hint) -/

/-- same state up to the order of the log; `hint`, `unwinding`, `nextVid` are not compared -/
structure LogEq (a b : State) : Prop where
  heap : a.heap = b.heap
  roots : a.roots = b.roots
  wroots : a.wroots = b.wroots
  vals : a.vals = b.vals
  raws : a.raws = b.raws
  stack : a.stack = b.stack
  err : a.err = b.err
  log : a.log.Perm b.log

namespace LogEq
variable {a b : State}

theorem symm (h : LogEq a b) : LogEq b a :=
  ⟨h.heap.symm, h.roots.symm, h.wroots.symm, h.vals.symm, h.raws.symm, h.stack.symm, h.err.symm,
    h.log.symm⟩

theorem trans {c : State} (h : LogEq a b) (h' : LogEq b c) : LogEq a c :=
  ⟨h.heap.trans h'.heap, h.roots.trans h'.roots, h.wroots.trans h'.wroots, h.vals.trans h'.vals,
    h.raws.trans h'.raws, h.stack.trans h'.stack, h.err.trans h'.err, h.log.trans h'.log⟩

theorem cell (h : LogEq a b) (k : Nat) : a.cell k = b.cell k := by
  simp only [State.cell, h.heap]

theorem fail (h : LogEq a b) (e : Err) : LogEq (a.fail e) (b.fail e) := by
  have he := h.err
  unfold State.fail
  cases hb : b.err with
  | none =>
    rw [hb] at he
    simp only [he]
    exact ⟨h.heap, h.roots, h.wroots, h.vals, h.raws, h.stack, rfl, h.log⟩
  | some x =>
    rw [hb] at he
    simp only [he]
    exact ⟨h.heap, h.roots, h.wroots, h.vals, h.raws, h.stack, he.trans hb.symm, h.log⟩

theorem setObj (h : LogEq a b) (k : Nat) (ob : Obj) : LogEq (a.setObj k ob) (b.setObj k ob) :=
  ⟨by simp only [State.setObj, h.heap], h.roots, h.wroots, h.vals, h.raws, h.stack, h.err, h.log⟩

theorem emit (h : LogEq a b) (e : Ev) : LogEq (a.emit e) (b.emit e) :=
  ⟨h.heap, h.roots, h.wroots, h.vals, h.raws, h.stack, h.err, h.log.append_right [e]⟩

theorem decWeakFree (h : LogEq a b) (k : Nat) (imp : Bool) :
    LogEq (a.decWeakFree k imp) (b.decWeakFree k imp) := by
  unfold State.decWeakFree
  rw [h.cell k]
  cases b.cell k with
  | none => exact h.fail _
  | some ob =>
    simp only
    split
    · exact h.fail _
    · exact (h.setObj _ _).emit _
    · exact h.setObj _ _

theorem phase3One (h : LogEq a b) (k : Nat) : LogEq (a.phase3One k) (b.phase3One k) := by
  unfold State.phase3One
  rw [h.cell k]
  cases b.cell k with
  | none => exact h.fail _
  | some ob =>
    simp only
    split
    · exact h.decWeakFree k true
    · exact h

theorem foldl_phase3One (ks : List Nat) :
    ∀ {a b : State}, LogEq a b → LogEq (ks.foldl State.phase3One a) (ks.foldl State.phase3One b) := by
  induction ks with
  | nil => intro a b h; exact h
  | cons k ks ih => intro a b h; exact ih (h.phase3One k)

end LogEq

/-- the `phase3` frame does not read the log (nor the hint): congruence of `step` -/
theorem step_phase3_congr {a b : State} (h : LogEq a b) (ks : List Nat) (rest : List Frame)
    (hst : a.stack = .phase3 ks :: rest) (hea : a.err = none) :
    LogEq (step a) (step b) := by
  rw [step_eq_frame hea hst, step_eq_frame (h.err ▸ hea) (h.stack ▸ hst)]
  exact LogEq.foldl_phase3One ks
    ⟨h.heap, h.roots, h.wroots, h.vals, h.raws, rfl, h.err, h.log⟩

/-! ## running steps keeps the invariants -/

theorem runSteps_err_none (n : Nat) : ∀ s : State, (runSteps n s).err = none → s.err = none := by
  induction n with
  | zero => intro s h; exact h
  | succ n ih => intro s h; exact step_err_none (ih (step s) h)

theorem runSteps_inv (n : Nat) : ∀ s : State, s.Inv → s.InvR → (runSteps n s).err = none →
    (runSteps n s).Inv ∧ (runSteps n s).InvR := by
  induction n with
  | zero => intro s hI hR _; exact ⟨hI, hR⟩
  | succ n ih =>
    intro s hI hR he
    have he1 : (step s).err = none := runSteps_err_none n (step s) he
    exact ih (step s) (step_inv s hI hR) (step_invR s hR he1) he

theorem phase3_err_none {s : State} (herr : s.err = none) (hcore : s.InvCore) {ks : List Nat}
    {rest : List Frame} (hst : s.stack = .phase3 ks :: rest) :
    (step s).err = none ∧ (step s).stack = rest := by
  have h0 : ({ s with stack := rest } : State).InvCore :=
    pop_InvCore hst (by simp) (by simp) hcore
  obtain ⟨-, hph, how⟩ : s.InvK := hcore.2.2.2.2
  rw [step_eq_frame herr hst]
  refine ⟨?_, foldl_phase3One_stack _ _⟩
  rw [(InvCore_phase3_fold ks _ h0 (fun k hk => ?_) (fun k => ?_)).2]
  · exact herr
  · exact hph ks (by rw [hst]; exact List.mem_cons_self) k hk
  · have h1 := how k
    rw [owed_of_stack_cons hst k, Frame.owes_phase3] at h1
    exact h1

/-! ## two blocks from states that agree on heap and log -/

theorem blockResult_congr (a b : State) (vs vs' : List Val) (hh : a.heap = b.heap)
    (hl : a.log = b.log) (hp : vs.Perm vs') (hgood : GoodW a.heap (blockWeaks vs)) :
    (blockResult a vs).heap = (blockResult b vs').heap
    ∧ (blockResult a vs).log.Perm (blockResult b vs').log := by
  have h1 := blockResult_items a vs hgood
  have h2 := blockResult_items b vs' (hh ▸ hgood.perm (blockWeaks_perm hp))
  exact ⟨h1.heap_eq h2 hh (rels_blockItems_perm hp),
    h1.log_perm h2 (hl ▸ .refl _) (fun i => by rw [hh]) (rels_blockItems_perm hp)
      (evs_blockItems_perm hp)⟩

/-! ## the whole teardown is independent of the hint -/

/-- one side of the comparison: whatever the hint `h`, from `{ s2 with hint := h }.dropCycle c` the
block of destructor frames runs to completion, and the state reached is, up to the order of the log,
the closed form of the block taken in the order of phase 2 -/
theorem collection_block_run (s2 : State) (o : Nat) (h : List Nat)
    (hI : s2.InvCore) (hR : s2.InvR) (hS : s2.InvSCore) (herr : s2.err = none) (hF : s2.Full)
    (ho : s2.isLive o = true)
    (hne : (cycleRefs s2 o).cmap.isEmpty = false)
    (hext : hasExternalOwners s2 (cycleRefs s2 o).cmap = false)
    (hq : ∀ v ∈ (s2.cyc2 (cycleRefs s2 o).cmap).2, v.quiet) :
    ∃ n t, runSteps n (({ s2 with hint := h } : State).dropCycle (cycleRefs s2 o).cmap) = t
      ∧ t.InvCore ∧ t.stack = .phase3 (cycleRefs s2 o).cmap.keys :: s2.stack ∧ t.err = none
      ∧ LogEq t (blockResult { (s2.cyc2 (cycleRefs s2 o).cmap).1 with
            stack := .phase3 (cycleRefs s2 o).cmap.keys :: s2.stack }
          (s2.cyc2 (cycleRefs s2 o).cmap).2) := by
  have hCR := cycleReady_of_inv s2 o hI.1 hI.2.1 herr ho hext
  obtain ⟨hheap, hvals⟩ := cyc2_hint s2 _ hCR h
  obtain ⟨-, -, hsafe, hready⟩ := collection_facts ({ s2 with hint := h } : State) o _
    (congrArg TraceResult.cmap (hint_cycleRefs s2 h o)).symm hI hR hS herr hF ho hne hext
  rw [hvals] at hready
  obtain ⟨d1, d2, d3, d4, d5, d6, d7, d8, -⟩ := dropCycle_spec _ _ (hint_cycleReady s2 h _ hCR)
  rw [hvals, List.append_assoc] at d3
  obtain ⟨-, p2, -⟩ := phase2_spec s2 _ hCR
  generalize (cycleRefs s2 o).cmap = c at *
  generalize ({ s2 with hint := h } : State).dropCycle c = s3 at *
  generalize hvs : (s2.cyc2 c).2 = vs at *
  have hperm := reorder_perm h vs
  have hr := hready.perm (blockHeld_perm hperm.symm) (blockWeaks_perm hperm.symm)
  obtain ⟨n, hn⟩ := run_block (reorder h vs) s3 (.phase3 c.keys :: s2.stack) d2 d3
    (fun v hv => hq v ((mem_reorder h _ v).mp hv)) hr
  -- the two closed forms
  have i1 := blockResult_items { s3 with stack := .phase3 c.keys :: s2.stack } (reorder h vs) hr.1
  have hgood0 : GoodW (s2.cyc2 c).1.heap (blockWeaks vs) := by
    rw [← hheap, ← d1]; exact hready.1
  have i0 := blockResult_items { (s2.cyc2 c).1 with stack := .phase3 c.keys :: s2.stack } vs hgood0
  obtain ⟨e1, e2⟩ := blockResult_congr { s3 with stack := .phase3 c.keys :: s2.stack }
    { (s2.cyc2 c).1 with stack := .phase3 c.keys :: s2.stack } (reorder h vs) vs (d1.trans hheap)
    (d8.trans (by rw [p2])) hperm hr.1
  have herrn : (runSteps n s3).err = none := by rw [hn, i1.err_eq]; exact d2
  refine ⟨n, _, rfl, (runSteps_inv n s3 (fun _ => hsafe.1) hsafe.2.1 herrn).1 herrn, ?_, herrn, ?_⟩
  · rw [hn, i1.stack_eq]
  · rw [hn]
    refine ⟨e1, ?_, ?_, ?_, ?_, i1.stack_eq.trans i0.stack_eq.symm, ?_, e2⟩
    · rw [i1.ctl, i0.ctl, p2]; exact d4
    · rw [i1.ctl, i0.ctl, p2]; exact d5
    · rw [i1.ctl, i0.ctl, p2]; exact d6
    · rw [i1.ctl, i0.ctl, p2]; exact d7
    · rw [i1.err_eq, i0.err_eq, p2]; exact d2.trans herr.symm

/-- For two hints `h1 h2`: the destructor blocks of `{ s2 with hint := h1 }.dropCycle c`
and `{ s2 with hint := h2 }.dropCycle c` and the following `phase3` frame run to completion and
lead to two states with the stack of `s2`, equal heaps, equal handle tables, no error, and logs
that are permutations of each other. -/
theorem collection_layout_independent (s2 : State) (o : Nat) (h1 h2 : List Nat)
    (hI : s2.InvCore) (hR : s2.InvR) (hS : s2.InvSCore) (herr : s2.err = none) (hF : s2.Full)
    (ho : s2.isLive o = true)
    (hne : (cycleRefs s2 o).cmap.isEmpty = false)
    (hext : hasExternalOwners s2 (cycleRefs s2 o).cmap = false)
    (hq : ∀ v ∈ (s2.cyc2 (cycleRefs s2 o).cmap).2, v.quiet) :
    ∃ n1 n2,
      let r1 := runSteps n1 (({ s2 with hint := h1 } : State).dropCycle (cycleRefs s2 o).cmap)
      let r2 := runSteps n2 (({ s2 with hint := h2 } : State).dropCycle (cycleRefs s2 o).cmap)
      r1.stack = s2.stack ∧ r2.stack = s2.stack ∧ r1.heap = r2.heap ∧ r1.roots = r2.roots
      ∧ r1.wroots = r2.wroots ∧ r1.vals = r2.vals ∧ r1.raws = r2.raws
      ∧ r1.err = none ∧ r2.err = none ∧ r1.log.Perm r2.log := by
  obtain ⟨m1, t1, a1, a2, a3, a4, a5⟩ := collection_block_run s2 o h1 hI hR hS herr hF ho hne hext hq
  obtain ⟨m2, t2, b1, b2, b3, b4, b5⟩ := collection_block_run s2 o h2 hI hR hS herr hF ho hne hext hq
  -- the `phase3` frame
  have hfin := step_phase3_congr (a5.trans b5.symm) _ _ a3 a4
  obtain ⟨p1, p2⟩ := phase3_err_none a4 a2 a3
  obtain ⟨q1, q2⟩ := phase3_err_none b4 b2 b3
  refine ⟨m1 + 1, m2 + 1, ?_⟩
  simp only [runSteps_add, a1, b1]
  exact ⟨p2, q2, hfin.heap, hfin.roots, hfin.wroots, hfin.vals, hfin.raws, p1, q1, hfin.log⟩

end Cactus
