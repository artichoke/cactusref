import Cactus.Lemmas.Final
/-!
# C09 — what an operation destroys does not depend on addresses or table order (decision level)

Layout enters the model only through (a) the order of entries inside a link table and (b) the
`hint` (the order in which the values of a collected group are destroyed).  `State.LayoutEq`
relates two states that differ in nothing else; `State.LayoutEqL` also lets the order of the events
in the log differ, which is what whole histories need.  On such states all counting functions
agree, the structural invariants transfer, the reachability trace visits the same *set* of objects, builds a
map with the same key set and the same counts, and therefore the orphan test takes the same
decision and selects the same group.  Under `Full` the values of a collected group hold strong
handles to members of the group only.
-/
namespace Cactus
open State

/-! ## the relation -/

/-- two `links` cells agree up to the order of the entries -/
def LinksEq : Option Table → Option Table → Prop
  | none, none => True
  | some t, some t' => t.Perm t'
  | _, _ => False

theorem LinksEq.refl (l : Option Table) : LinksEq l l := by
  cases l with
  | none => trivial
  | some t => exact List.Perm.refl t

theorem LinksEq.symm {l l' : Option Table} (h : LinksEq l l') : LinksEq l' l := by
  cases l <;> cases l' <;> simp only [LinksEq] at h ⊢
  exact h.symm

theorem LinksEq.trans {l l' l'' : Option Table} (h : LinksEq l l') (h' : LinksEq l' l'') :
    LinksEq l l'' := by
  cases l <;> cases l' <;> cases l'' <;> simp only [LinksEq] at h h' ⊢
  exact h.trans h'

theorem LinksEq.isSome {l l' : Option Table} (h : LinksEq l l') : l.isSome = l'.isSome := by
  cases l <;> cases l' <;> simp only [LinksEq] at h <;> rfl

theorem LinksEq.none_iff {l l' : Option Table} (h : LinksEq l l') : l = none ↔ l' = none := by
  cases l <;> cases l' <;> simp only [LinksEq] at h <;> simp

theorem LinksEq.nil_iff {l l' : Option Table} (h : LinksEq l l') : l = some [] ↔ l' = some [] := by
  cases l <;> cases l' <;> simp only [LinksEq] at h
  · simp
  · simp only [Option.some.injEq]
    constructor
    · rintro rfl; exact (List.nil_perm.mp h)
    · rintro rfl; exact (List.perm_nil.mp h)

theorem LinksEq.getD_perm {l l' : Option Table} (h : LinksEq l l') :
    (l.getD []).Perm (l'.getD []) := by
  cases l <;> cases l' <;> simp only [LinksEq] at h
  · exact List.Perm.refl _
  · exact h

/-- two objects agree in every field except the order of the entries of their link table -/
structure Obj.LayoutEq (a b : Obj) : Prop where
  strong : a.strong = b.strong
  weak : a.weak = b.weak
  value : a.value = b.value
  freed : a.freed = b.freed
  implicit : a.implicit = b.implicit
  links : LinksEq a.links b.links

theorem Obj.LayoutEq.refl (a : Obj) : Obj.LayoutEq a a :=
  ⟨rfl, rfl, rfl, rfl, rfl, LinksEq.refl _⟩

theorem Obj.LayoutEq.symm {a b : Obj} (h : Obj.LayoutEq a b) : Obj.LayoutEq b a :=
  ⟨h.strong.symm, h.weak.symm, h.value.symm, h.freed.symm, h.implicit.symm, h.links.symm⟩

theorem Obj.LayoutEq.trans {a b c : Obj} (h : Obj.LayoutEq a b) (h' : Obj.LayoutEq b c) :
    Obj.LayoutEq a c :=
  ⟨h.strong.trans h'.strong, h.weak.trans h'.weak, h.value.trans h'.value,
    h.freed.trans h'.freed, h.implicit.trans h'.implicit, h.links.trans h'.links⟩

/-- same length, slot by slot the same object up to the order of the table entries -/
def HeapEq (h h' : List Obj) : Prop :=
  h.length = h'.length ∧ ∀ (i : Nat) (a b : Obj), h[i]? = some a → h'[i]? = some b → Obj.LayoutEq a b

namespace HeapEq

theorem refl (h : List Obj) : HeapEq h h :=
  ⟨rfl, fun i a b ha hb => by rw [ha] at hb; cases hb; exact Obj.LayoutEq.refl a⟩

theorem symm {h h' : List Obj} (e : HeapEq h h') : HeapEq h' h :=
  ⟨e.1.symm, fun i a b ha hb => (e.2 i b a hb ha).symm⟩

theorem cases {h h' : List Obj} (e : HeapEq h h') (i : Nat) :
    (h[i]? = none ∧ h'[i]? = none)
    ∨ ∃ a b, h[i]? = some a ∧ h'[i]? = some b ∧ Obj.LayoutEq a b := by
  by_cases hi : i < h.length
  · have hi' : i < h'.length := e.1 ▸ hi
    exact Or.inr ⟨_, _, List.getElem?_eq_getElem hi, List.getElem?_eq_getElem hi',
      e.2 i _ _ (List.getElem?_eq_getElem hi) (List.getElem?_eq_getElem hi')⟩
  · exact Or.inl ⟨List.getElem?_eq_none (Nat.le_of_not_lt hi),
      List.getElem?_eq_none (Nat.le_of_not_lt (e.1 ▸ hi))⟩

theorem trans {h h' h'' : List Obj} (e : HeapEq h h') (e' : HeapEq h' h'') : HeapEq h h'' := by
  refine ⟨e.1.trans e'.1, fun i a c ha hc => ?_⟩
  rcases e.cases i with ⟨h1, -⟩ | ⟨a', b, h1, h2, hab⟩
  · rw [h1] at ha; cases ha
  · rw [h1] at ha
    cases ha
    exact hab.trans (e'.2 i b c h2 hc)

/-- whatever is read off a slot through a function that does not look at the order of the table
entries is the same in both heaps -/
theorem match_eq {α : Type} {h h' : List Obj} (e : HeapEq h h') (g : Obj → α) (d : α)
    (hg : ∀ a b, Obj.LayoutEq a b → g a = g b) (i : Nat) :
    (match h[i]? with | some ob => g ob | none => d)
      = (match h'[i]? with | some ob => g ob | none => d) := by
  rcases e.cases i with ⟨h1, h2⟩ | ⟨a, b, h1, h2, hab⟩
  · rw [h1, h2]
  · rw [h1, h2]
    exact hg a b hab

end HeapEq

/-- same state up to layout: same heap length, objects agree up to the order of table entries,
all non-heap fields equal except `hint` (arbitrary) -/
def State.LayoutEq (s s' : State) : Prop :=
  s.heap.length = s'.heap.length
  ∧ (∀ (i : Nat) (a b : Obj), s.heap[i]? = some a → s'.heap[i]? = some b → Obj.LayoutEq a b)
  ∧ s.roots = s'.roots ∧ s.wroots = s'.wroots ∧ s.vals = s'.vals ∧ s.raws = s'.raws
  ∧ s.stack = s'.stack ∧ s.log = s'.log ∧ s.err = s'.err ∧ s.unwinding = s'.unwinding
  ∧ s.nextVid = s'.nextVid

/-- **`LayoutEq` with the event log compared up to permutation**: same heap up to the order of the
entries inside link tables, logs are permutations of each other, all other fields equal except
`hint` (arbitrary).  (Structure form of the conjunction; see `State.layoutEqL_iff`.) -/
structure State.LayoutEqL (s s' : State) : Prop where
  heap : HeapEq s.heap s'.heap
  roots : s.roots = s'.roots
  wroots : s.wroots = s'.wroots
  vals : s.vals = s'.vals
  raws : s.raws = s'.raws
  stack : s.stack = s'.stack
  log : s.log.Perm s'.log
  err : s.err = s'.err
  unwinding : s.unwinding = s'.unwinding
  nextVid : s.nextVid = s'.nextVid

/-- `LayoutEqL` is `LayoutEq` with `s.log = s'.log` replaced by `s.log.Perm s'.log` -/
theorem State.layoutEqL_iff (s s' : State) :
    s.LayoutEqL s' ↔
      (s.heap.length = s'.heap.length
      ∧ (∀ (i : Nat) (a b : Obj), s.heap[i]? = some a → s'.heap[i]? = some b → Obj.LayoutEq a b)
      ∧ s.roots = s'.roots ∧ s.wroots = s'.wroots ∧ s.vals = s'.vals ∧ s.raws = s'.raws
      ∧ s.stack = s'.stack ∧ s.log.Perm s'.log ∧ s.err = s'.err ∧ s.unwinding = s'.unwinding
      ∧ s.nextVid = s'.nextVid) := by
  constructor
  · intro h
    exact ⟨h.heap.1, h.heap.2, h.roots, h.wroots, h.vals, h.raws, h.stack, h.log, h.err,
      h.unwinding, h.nextVid⟩
  · rintro ⟨h0, h1, h2, h3, h4, h5, h6, h7, h8, h9, h10⟩
    exact ⟨⟨h0, h1⟩, h2, h3, h4, h5, h6, h7, h8, h9, h10⟩

namespace State.LayoutEqL

theorem refl (s : State) : s.LayoutEqL s :=
  ⟨HeapEq.refl _, rfl, rfl, rfl, rfl, rfl, List.Perm.refl _, rfl, rfl, rfl⟩

theorem symm {s s' : State} (h : s.LayoutEqL s') : s'.LayoutEqL s :=
  ⟨h.heap.symm, h.roots.symm, h.wroots.symm, h.vals.symm, h.raws.symm, h.stack.symm, h.log.symm,
    h.err.symm, h.unwinding.symm, h.nextVid.symm⟩

theorem trans {s s' s'' : State} (h : s.LayoutEqL s') (h' : s'.LayoutEqL s'') : s.LayoutEqL s'' :=
  ⟨h.heap.trans h'.heap, h.roots.trans h'.roots, h.wroots.trans h'.wroots, h.vals.trans h'.vals,
    h.raws.trans h'.raws, h.stack.trans h'.stack, h.log.trans h'.log, h.err.trans h'.err,
    h.unwinding.trans h'.unwinding, h.nextVid.trans h'.nextVid⟩

theorem equivalence : Equivalence State.LayoutEqL := ⟨refl, symm, trans⟩

theorem of_layoutEq {s s' : State} (h : s.LayoutEq s') : s.LayoutEqL s' := by
  obtain ⟨h0, h1, h2, h3, h4, h5, h6, h7, h8, h9, h10⟩ := h
  exact ⟨⟨h0, h1⟩, h2, h3, h4, h5, h6, h7 ▸ List.Perm.refl _, h8, h9, h10⟩

/-- forgetting the log of the second state gives a `LayoutEq` pair: all congruence lemmas about
`LayoutEq` apply (none of the functions they speak about reads the log) -/
theorem toLayoutEq {s s' : State} (h : s.LayoutEqL s') :
    s.LayoutEq { s' with log := s.log } :=
  ⟨h.heap.1, h.heap.2, h.roots, h.wroots, h.vals, h.raws, h.stack, rfl, h.err, h.unwinding,
    h.nextVid⟩

end State.LayoutEqL

theorem State.layoutEq_iff (s s' : State) : s.LayoutEq s' ↔ s.LayoutEqL s' ∧ s.log = s'.log :=
  ⟨fun h => ⟨.of_layoutEq h, let ⟨_, _, _, _, _, _, _, hl, _⟩ := h; hl⟩,
    fun ⟨h, hl⟩ => ⟨h.heap.1, h.heap.2, h.roots, h.wroots, h.vals, h.raws, h.stack, hl, h.err,
      h.unwinding, h.nextVid⟩⟩

namespace State.LayoutEq

theorem refl (s : State) : s.LayoutEq s :=
  (layoutEq_iff s s).2 ⟨.refl s, rfl⟩

theorem symm {s s' : State} (h : s.LayoutEq s') : s'.LayoutEq s := by
  obtain ⟨h, hl⟩ := (layoutEq_iff s s').1 h
  exact (layoutEq_iff s' s).2 ⟨h.symm, hl.symm⟩

theorem trans {s s' s'' : State} (h : s.LayoutEq s') (h' : s'.LayoutEq s'') : s.LayoutEq s'' := by
  obtain ⟨h, hl⟩ := (layoutEq_iff s s').1 h
  obtain ⟨h', hl'⟩ := (layoutEq_iff s' s'').1 h'
  exact (layoutEq_iff s s'').2 ⟨h.trans h', hl.trans hl'⟩

theorem equivalence : Equivalence State.LayoutEq :=
  ⟨refl, symm, trans⟩

theorem of_hint (s : State) (hint : List Nat) : s.LayoutEq { s with hint := hint } :=
  refl s

section
variable {s s' : State} (h : s.LayoutEq s')
include h

theorem heap : HeapEq s.heap s'.heap := ⟨h.1, h.2.1⟩

theorem cell_cases (o : Nat) :
    (s.cell o = none ∧ s'.cell o = none)
    ∨ ∃ a b, s.cell o = some a ∧ s'.cell o = some b ∧ Obj.LayoutEq a b := by
  rcases h.heap.cases o with ⟨h1, h2⟩ | ⟨a, b, h1, h2, hab⟩
  · exact Or.inl ⟨by simp [State.cell, h1], by simp [State.cell, h2]⟩
  · cases hf : a.freed with
    | true =>
      have hf' : b.freed = true := by rw [← hab.freed]; exact hf
      exact Or.inl ⟨by simp [State.cell, h1, hf], by simp [State.cell, h2, hf']⟩
    | false =>
      have hf' : b.freed = false := by rw [← hab.freed]; exact hf
      exact Or.inr ⟨a, b, by simp [State.cell, h1, hf], by simp [State.cell, h2, hf'], hab⟩

/-! ### accessors and counting functions agree -/

theorem isLive_eq (o : Nat) : s.isLive o = s'.isLive o :=
  h.heap.match_eq (fun ob => !ob.freed && !ob.strong.isDead) false
    (fun a b hab => by rw [hab.freed, hab.strong]) o

theorem strongOf_eq (o : Nat) : s.strongOf o = s'.strongOf o :=
  h.heap.match_eq (·.strong) .uninit (fun _ _ hab => hab.strong) o

theorem strongNat_eq (o : Nat) : s.strongNat o = s'.strongNat o :=
  h.heap.match_eq (α := Nat) (fun ob => match ob.strong with | .cnt n => n | .uninit => 0) 0
    (fun a b hab => by rw [hab.strong]) o

theorem weakNat_eq (o : Nat) : s.weakNat o = s'.weakNat o :=
  h.heap.match_eq (·.weak) 0 (fun _ _ hab => hab.weak) o

theorem implicitNat_eq (o : Nat) : s.implicitNat o = s'.implicitNat o :=
  h.heap.match_eq (fun ob => if ob.implicit then 1 else 0) 0
    (fun a b hab => by rw [hab.implicit]) o

theorem heldOf_eq (o : Nat) : s.heldOf o = s'.heldOf o :=
  h.heap.match_eq (α := List Nat) (fun ob => match ob.value with | some v => v.held | none => [])
    []
    (fun a b hab => by rw [hab.value]) o

theorem weaksOf_eq (o : Nat) : s.weaksOf o = s'.weaksOf o :=
  h.heap.match_eq (α := List Nat) (fun ob => match ob.value with | some v => v.weaks | none => [])
    []
    (fun a b hab => by rw [hab.value]) o

theorem H_eq (a b : Nat) : s.H a b = s'.H a b := by
  simp [State.H, h.heldOf_eq a]

theorem cell_isNone_eq (o : Nat) : (s.cell o).isNone = (s'.cell o).isNone := by
  rcases h.cell_cases o with ⟨h1, h2⟩ | ⟨a, b, h1, h2, -⟩ <;> rw [h1, h2] <;> rfl

theorem ext_eq (o : Nat) : s.ext o = s'.ext o := by
  have hL := LayoutEqL.of_layoutEq h
  simp [State.ext, hL.roots, hL.vals, hL.raws]

theorem extW_eq (o : Nat) : s.extW o = s'.extW o := by
  have hL := LayoutEqL.of_layoutEq h
  simp [State.extW, hL.wroots, hL.vals]

theorem pend_eq (o : Nat) : s.pend o = s'.pend o := by
  rw [State.pend, State.pend, (LayoutEqL.of_layoutEq h).stack]

theorem pendW_eq (o : Nat) : s.pendW o = s'.pendW o := by
  rw [State.pendW, State.pendW, (LayoutEqL.of_layoutEq h).stack]

theorem owed_eq (o : Nat) : s.owed o = s'.owed o := by
  rw [State.owed, State.owed, (LayoutEqL.of_layoutEq h).stack]

theorem inHeap_eq (o : Nat) : s.inHeap o = s'.inHeap o := by
  have hh : (fun a => (s.heldOf a).count o) = (fun a => (s'.heldOf a).count o) := by
    funext a; rw [h.heldOf_eq a]
  simp only [State.inHeap, h.1, hh]

theorem inHeapW_eq (o : Nat) : s.inHeapW o = s'.inHeapW o := by
  have hh : (fun a => (s.weaksOf a).count o) = (fun a => (s'.weaksOf a).count o) := by
    funext a; rw [h.weaksOf_eq a]
  simp only [State.inHeapW, h.1, hh]

/-! ### tables agree up to the order of entries -/

theorem tableOf_cases (n : Nat) :
    (s.tableOf n = none ∧ s'.tableOf n = none)
    ∨ ∃ t t', s.tableOf n = some t ∧ s'.tableOf n = some t' ∧ t.Perm t' := by
  rcases h.cell_cases n with ⟨h1, h2⟩ | ⟨a, b, h1, h2, hab⟩
  · exact Or.inl ⟨by simp only [State.tableOf, h1], by simp only [State.tableOf, h2]⟩
  · simp only [State.tableOf, h1, h2]
    have hl := hab.links
    cases hla : a.links <;> cases hlb : b.links <;> rw [hla, hlb] at hl <;>
      simp only [LinksEq] at hl
    · exact Or.inl ⟨rfl, rfl⟩
    · exact Or.inr ⟨_, _, rfl, rfl, hl⟩

theorem tbl_perm (n : Nat) : (s.tbl n).Perm (s'.tbl n) := by
  rcases h.tableOf_cases n with ⟨h1, h2⟩ | ⟨t, t', h1, h2, hp⟩
  · simp [State.tbl, h1, h2]
  · simpa [State.tbl, h1, h2] using hp

theorem mem_tbl_iff (n : Nat) (e : Link × Nat) : e ∈ s.tbl n ↔ e ∈ s'.tbl n :=
  (h.tbl_perm n).mem_iff

theorem named_iff (n j : Nat) : named (s.tbl n) j ↔ named (s'.tbl n) j := by
  simp only [named, h.mem_tbl_iff]

theorem F_eq (hB : s.InvB) (a b : Nat) : s.F a b = s'.F a b :=
  Table.get_perm _ _ (s.tbl_WF hB a) (h.tbl_perm a) _

theorem B_eq (hB : s.InvB) (a b : Nat) : s.B a b = s'.B a b :=
  Table.get_perm _ _ (s.tbl_WF hB a) (h.tbl_perm a) _

/-! ### the structural invariants transfer -/

theorem invO (hO : s.InvO) : s'.InvO := by
  intro o b hb
  rcases h.heap.cases o with ⟨-, h2⟩ | ⟨a, b', h1, h2, hab⟩
  · rw [h2] at hb; cases hb
  · rw [h2] at hb
    cases hb
    obtain ⟨c1, c2, c3, c4⟩ := hO o a h1
    refine ⟨?_, ?_, ?_, ?_⟩
    · intro n hn
      obtain ⟨d1, d2, d3, d4⟩ := c1 n (hab.strong.trans hn)
      exact ⟨by rw [← hab.value]; exact d1, by rw [← hab.links.isSome]; exact d2,
        by rw [← hab.freed]; exact d3, by rw [← hab.implicit]; exact d4⟩
    · intro hn
      obtain ⟨d1, d2⟩ := c2 (hab.strong.trans hn)
      exact ⟨by rw [← hab.value]; exact d1, hab.links.none_iff.mp d2⟩
    · intro hn
      obtain ⟨d1, d2⟩ := c3 (hab.strong.trans hn)
      refine ⟨by rw [← hab.value]; exact d1, ?_⟩
      rcases d2 with d2 | ⟨d2, d3⟩
      · exact Or.inl (hab.links.none_iff.mp d2)
      · exact Or.inr ⟨hab.links.nil_iff.mp d2, by rw [← hab.implicit]; exact d3⟩
    · rw [← hab.freed, ← hab.weak]; exact c4

theorem invB (hB : s.InvB) : s'.InvB := by
  refine ⟨?_, ?_⟩
  · intro o t' ht'
    rcases h.tableOf_cases o with ⟨-, h2⟩ | ⟨t, t'', h1, h2, hp⟩
    · rw [h2] at ht'; cases ht'
    · rw [h2] at ht'
      cases ht'
      obtain ⟨hw, he⟩ := hB.1 o t h1
      refine ⟨Table.WF_perm t t' hw hp, ?_⟩
      intro e hm
      obtain ⟨e1, e2⟩ := he e (hp.mem_iff.mpr hm)
      exact ⟨e1, fun hk => by rw [← h.isLive_eq]; exact e2 hk⟩
  · intro a b ha hb
    rw [← h.isLive_eq] at ha hb
    rw [← h.F_eq hB, ← h.B_eq hB]
    exact hB.2 a b ha hb

theorem invC (hC : s.InvC) : s'.InvC := by
  intro t ht
  rw [← h.isLive_eq] at ht
  rw [← h.strongNat_eq, ← h.ext_eq, ← h.inHeap_eq, ← h.pend_eq]
  exact hC t ht

theorem invW (hW : s.InvW) : s'.InvW := by
  intro t ht
  rw [← h.1] at ht
  rw [← h.weakNat_eq, ← h.extW_eq, ← h.inHeapW_eq, ← h.pendW_eq, ← h.implicitNat_eq]
  exact hW t ht

theorem full (hB : s.InvB) (hF : s.Full) : s'.Full := by
  intro a b ha
  rw [← h.isLive_eq] at ha
  rw [← h.F_eq hB, ← h.H_eq]
  exact hF a b ha

theorem contract (hB : s.InvB) (hP : s.P) : s'.P := by
  intro a b ha
  rw [← h.isLive_eq] at ha
  rw [← h.F_eq hB, ← h.H_eq]
  exact hP a b ha

/-! ### Forward reachability is a property of the entry *sets* -/

theorem fwdReach_imp {x n : Nat} (hr : FwdReach s x n) : FwdReach s' x n := by
  induction hr with
  | refl => exact FwdReach.refl _
  | step _ hc ih => exact FwdReach.step ih ((h.mem_tbl_iff _ _).mp hc)

end

theorem fwdReach_iff {s s' : State} (h : s.LayoutEq s') (x n : Nat) :
    FwdReach s x n ↔ FwdReach s' x n :=
  ⟨h.fwdReach_imp, h.symm.fwdReach_imp⟩

end State.LayoutEq

/-! ## small facts about maps -/

/-- with distinct keys an entry of a map is determined by its key -/
theorem CMap.mem_iff_of_nodup (m : CMap) (hn : m.keys.Nodup) (k c : Nat) :
    (k, c) ∈ m ↔ k ∈ m.keys ∧ c = m.get k := by
  induction m with
  | nil => simp [CMap.keys]
  | cons hd r ih =>
    obtain ⟨k', c'⟩ := hd
    simp only [CMap.keys, List.map_cons, List.nodup_cons] at hn ih ⊢
    have ih := ih hn.2
    by_cases hk : k' = k
    · subst hk
      have hnot : ¬ (k', c) ∈ r := fun hm => hn.1 (List.mem_map.mpr ⟨_, hm, rfl⟩)
      simp only [List.mem_cons, Prod.mk.injEq, true_and, CMap.get, if_true, true_or]
      constructor
      · rintro (h1 | h1)
        · exact h1
        · exact absurd h1 hnot
      · intro h1; exact Or.inl h1
    · have hk' : ¬ k = k' := fun e => hk e.symm
      simp only [List.mem_cons, Prod.mk.injEq, hk', false_and, false_or, CMap.get, hk, if_false]
      exact ih

/-- `hasExternalOwners` depends on the map only through its key set and its `get` -/
theorem hasExternalOwners_iff (s : State) (m : CMap) (hn : m.keys.Nodup) :
    hasExternalOwners s m = true
      ↔ ∃ k ∈ m.keys, strongExceeds (s.strongOf k) (m.get k) = true := by
  unfold hasExternalOwners
  rw [List.any_eq_true]
  constructor
  · rintro ⟨⟨k, c⟩, hm, hp⟩
    obtain ⟨hk, hc⟩ := (CMap.mem_iff_of_nodup m hn k c).mp hm
    subst hc
    exact ⟨k, hk, hp⟩
  · rintro ⟨k, hk, hp⟩
    exact ⟨(k, m.get k), (CMap.mem_iff_of_nodup m hn k _).mpr ⟨hk, rfl⟩, hp⟩

theorem CMap.isEmpty_iff_keys (m : CMap) : m.isEmpty = true ↔ ∀ k, k ∉ m.keys := by
  cases m with
  | nil => simp [CMap.keys]
  | cons e r =>
    simp only [List.isEmpty_cons, Bool.false_eq_true, false_iff]
    intro hk
    exact hk e.1 (by simp [CMap.keys])

/-! ## the trace does not depend on the layout -/

/-- **C09, decision level.**  On two states that differ only in the order of table entries (and in
the hint) the reachability trace from a live object visits the same set of objects, builds a map
with the same key set and the same counts, and the orphan test takes the same decision. -/
theorem cycleRefs_layout (s s' : State) (x : Nat) (h : s.LayoutEq s')
    (hO : s.InvO) (hB : s.InvB) (hx : s.isLive x = true) :
    (∀ k, k ∈ (cycleRefs s x).visited ↔ k ∈ (cycleRefs s' x).visited)
    ∧ (∀ k, k ∈ (cycleRefs s x).cmap.keys ↔ k ∈ (cycleRefs s' x).cmap.keys)
    ∧ (∀ k, (cycleRefs s x).cmap.get k = (cycleRefs s' x).cmap.get k)
    ∧ (cycleRefs s x).cmap.isEmpty = (cycleRefs s' x).cmap.isEmpty
    ∧ hasExternalOwners s (cycleRefs s x).cmap = hasExternalOwners s' (cycleRefs s' x).cmap := by
  have hO' : s'.InvO := h.invO hO
  have hB' : s'.InvB := h.invB hB
  have hx' : s'.isLive x = true := by rw [← h.isLive_eq]; exact hx
  have T := s.traced x hO hB hx
  have T' := s'.traced x hO' hB' hx'
  -- same visited set: both are the Forward-reachable set
  have hvis : ∀ k, k ∈ (cycleRefs s x).visited ↔ k ∈ (cycleRefs s' x).visited :=
    fun k => by rw [T.reach, T'.reach, h.fwdReach_iff]
  have hperm : (cycleRefs s x).visited.Perm (cycleRefs s' x).visited :=
    (List.perm_ext_iff_of_nodup T.nodup T'.nodup).mpr hvis
  -- same key set: objects named by a visited object
  have hks : ∀ k, k ∈ (cycleRefs s x).cmap.keys ↔ k ∈ (cycleRefs s' x).cmap.keys := by
    intro k
    rw [T.key k, T'.key k]
    constructor
    · rintro ⟨n, hn, hnm⟩; exact ⟨n, (hvis n).mp hn, (h.named_iff n k).mp hnm⟩
    · rintro ⟨n, hn, hnm⟩; exact ⟨n, (hvis n).mpr hn, (h.named_iff n k).mpr hnm⟩
  -- same counts
  have hget : ∀ k, (cycleRefs s x).cmap.get k = (cycleRefs s' x).cmap.get k := by
    intro k
    rw [cmap_get_eq s x hO hB hx k, cmap_get_eq s' x hO' hB' hx' k,
      sumOver_perm hperm (fun n => s.F n k)]
    exact sumOver_congr _ (fun n _ => h.F_eq hB n k)
  refine ⟨hvis, hks, hget, ?_, ?_⟩
  · rw [Bool.eq_iff_iff, CMap.isEmpty_iff_keys, CMap.isEmpty_iff_keys]
    constructor
    · intro hh k hk; exact hh k ((hks k).mpr hk)
    · intro hh k hk; exact hh k ((hks k).mp hk)
  · rw [Bool.eq_iff_iff, hasExternalOwners_iff s _ T.keysNodup, hasExternalOwners_iff s' _ T'.keysNodup]
    constructor
    · rintro ⟨k, hk, hp⟩
      exact ⟨k, (hks k).mp hk, by rw [← h.strongOf_eq, ← hget]; exact hp⟩
    · rintro ⟨k, hk, hp⟩
      exact ⟨k, (hks k).mpr hk, by rw [h.strongOf_eq, hget]; exact hp⟩

/-- the other two tests of the trace branch of `Rc::drop` are layout independent as well (they
never fire in a state satisfying the invariants) -/
theorem cycleRefs_layout_ok (s s' : State) (x : Nat) (h : s.LayoutEq s')
    (hO : s.InvO) (hB : s.InvB) (hx : s.isLive x = true) :
    (cycleRefs s x).bad = (cycleRefs s' x).bad
    ∧ (cycleRefs s x).outOfFuel = (cycleRefs s' x).outOfFuel
    ∧ firstUnreadable s (cycleRefs s x).cmap = firstUnreadable s' (cycleRefs s' x).cmap := by
  have hO' : s'.InvO := h.invO hO
  have hB' : s'.InvB := h.invB hB
  have hx' : s'.isLive x = true := by rw [← h.isLive_eq]; exact hx
  obtain ⟨hb, hf⟩ := cycleRefs_ok s x hO hB hx
  obtain ⟨hb', hf'⟩ := cycleRefs_ok s' x hO' hB' hx'
  rw [hb, hb', hf, hf', firstUnreadable_none s x hO hB hx, firstUnreadable_none s' x hO' hB' hx']
  exact ⟨rfl, rfl, rfl⟩

/-- **C09: the group torn down does not depend on the layout.**  If the orphan test passes in `s`
it passes in every layout variant `s'`, and the set of objects torn down (`cmap.keys`, which is
the visited set) is the same, whatever the hints; as lists without repetition the two groups are
permutations of each other. -/
theorem group_members_layout (s s' : State) (x : Nat) (h : s.LayoutEq s')
    (hO : s.InvO) (hB : s.InvB) (hx : s.isLive x = true)
    (hne : (cycleRefs s x).cmap.isEmpty = false)
    (hext : hasExternalOwners s (cycleRefs s x).cmap = false) :
    (cycleRefs s' x).cmap.isEmpty = false
    ∧ hasExternalOwners s' (cycleRefs s' x).cmap = false
    ∧ (∀ k, k ∈ (cycleRefs s x).cmap.keys ↔ k ∈ (cycleRefs s' x).cmap.keys)
    ∧ (cycleRefs s x).cmap.keys.Perm (cycleRefs s' x).cmap.keys
    ∧ (∀ k, k ∈ (cycleRefs s' x).cmap.keys ↔ k ∈ (cycleRefs s x).visited) := by
  obtain ⟨-, hks, -, hemp, hex⟩ := cycleRefs_layout s s' x h hO hB hx
  have hO' : s'.InvO := h.invO hO
  have hB' : s'.InvB := h.invB hB
  have hx' : s'.isLive x = true := by rw [← h.isLive_eq]; exact hx
  refine ⟨by rw [← hemp]; exact hne, by rw [← hex]; exact hext, hks, ?_, ?_⟩
  · exact (List.perm_ext_iff_of_nodup (keys_nodup s x hO hB hx) (keys_nodup s' x hO' hB' hx')).mpr hks
  · intro k
    rw [← hks k]
    exact keys_eq_visited s x hO hB hx hne hext k

/-! ## under `Full` a collected group is closed under stored handles -/

/-- Under `Full` the value of a visited object holds strong handles to visited objects only
(the orphan test need not even pass for this). -/
theorem full_visited_closed (s : State) (x : Nat) (hO : s.InvO) (hB : s.InvB) (hF : s.Full)
    (hx : s.isLive x = true) (m t : Nat) (hm : m ∈ (cycleRefs s x).visited) (hH : 0 < s.H m t) :
    t ∈ (cycleRefs s x).visited := by
  have hml : s.isLive m = true := visited_live s x hO hB hx m hm
  have hpos : 0 < s.F m t := by rw [hF m t hml]; exact hH
  obtain ⟨c, hc⟩ := (s.F_pos_iff hB m t).mp hpos
  exact (s.traced x hO hB hx).closed hm hc

/-- **C09, group closure.**  If every stored handle is recorded (`Full`) and the orphan test
passes for `x`, the values of the collected group hold strong handles to members of the group
only: whatever order the hint chooses for destroying them, every handle they release targets an
object that is already dead (`C16_drop_dead_noop`). -/
theorem full_group_closed (s : State) (x : Nat) (hO : s.InvO) (hB : s.InvB) (hF : s.Full)
    (hx : s.isLive x = true)
    (hne : (cycleRefs s x).cmap.isEmpty = false)
    (hext : hasExternalOwners s (cycleRefs s x).cmap = false)
    (m t : Nat) (hm : m ∈ (cycleRefs s x).visited) (hH : 0 < s.H m t) :
    t ∈ (cycleRefs s x).visited ∧ t ∈ (cycleRefs s x).cmap.keys := by
  have hv := full_visited_closed s x hO hB hF hx m t hm hH
  exact ⟨hv, (keys_eq_visited s x hO hB hx hne hext t).mpr hv⟩

end Cactus
