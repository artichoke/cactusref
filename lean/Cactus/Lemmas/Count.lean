import Cactus.Spec.Inv
import Cactus.Lemmas.Basic
import Cactus.Lemmas.Table
/-!
# Counting lemmas

A library of rewriting ("frame") lemmas: how the counting functions of `Spec/Inv.lean`
(`ext`, `extW`, `pend`, `pendW`, `owed`, `inHeap`, `inHeapW`, `strongNat`, `weakNat`, `implicitNat`,
`heldOf`, `weaksOf`, `H`, `F`, `B`) and the accessors of the model (`heap`, `cell`, `tableOf`, `tbl`,
`isLive`, `strongOf`) change under the primitive state updates of the machine.

Sections
* A  `sumList`, `List.count`
* I  accessors: `cell`, `isLive`, `tableOf`, `tbl`, `strongNat`, … in terms of `heap[o]?`
* B  frame lemmas ("untouched")
* C  stack updates
* D  program handle lists
* E  `setObj`
* F  `alloc`
* G0 `HeapRel`: updates that overwrite heap objects by variants of themselves, one lemma per accessor
* G  `setLinks`, `adopt`, `unadopt`
* H  `setStrong`, `incStrong`, `incWeak`, `decWeakFree`, `modVal`
* J  selectors `nthMod`, `idxMod`, `useRoot`, `badRoot`

Conventions
* naming: `<function>_<update>` (`<update>_<field>` for projections); the record update
  `{ s with fld := x }` is called `withFld`; `_same` / `_other` = at the updated index / elsewhere;
  `_of_get` = from `s.heap[o]? = some ob`; `_cases` = "fails or is a `setObj`".
* lemmas about `{ s with … }` are `@[simp ↓]`: they must fire before `simp` rewrites inside the record.
* indicator terms are oriented `if <modified/owned object> = <queried object> then 1 else 0`.
* helper definitions: `Strong.toNat`, `Obj.heldList`, `Obj.weakList`, `Obj.fresh`.
-/
namespace Cactus

/-! ## A. `sumList` and `List.count` -/

namespace State

theorem sumList_eq_sum (l : List Nat) : sumList l = l.sum := rfl

@[simp] theorem sumList_nil : sumList [] = 0 := rfl

@[simp] theorem sumList_cons (a : Nat) (l : List Nat) : sumList (a :: l) = a + sumList l := rfl

@[simp] theorem sumList_singleton (a : Nat) : sumList [a] = a := rfl

@[simp] theorem sumList_append (l₁ l₂ : List Nat) :
    sumList (l₁ ++ l₂) = sumList l₁ + sumList l₂ := List.sum_append_nat

theorem sumList_map_add {α : Type} (l : List α) (f g : α → Nat) :
    sumList (l.map (fun x => f x + g x)) = sumList (l.map f) + sumList (l.map g) := by
  induction l with
  | nil => rfl
  | cons a l ih =>
    show f a + g a + sumList (l.map fun x => f x + g x) = f a + sumList (l.map f) + (g a + sumList (l.map g))
    rw [ih, Nat.add_add_add_comm]

theorem sumList_perm {l₁ l₂ : List Nat} (h : l₁.Perm l₂) : sumList l₁ = sumList l₂ := h.sum_nat

theorem sumList_map_perm {α : Type} {l₁ l₂ : List α} (h : l₁.Perm l₂) (f : α → Nat) :
    sumList (l₁.map f) = sumList (l₂.map f) := sumList_perm (h.map f)

@[simp] theorem sumList_map_const_zero {α : Type} (l : List α) :
    sumList (l.map (fun _ => 0)) = 0 := by
  induction l with
  | nil => rfl
  | cons a l ih => simp [ih]

theorem sumList_eq_zero_iff (l : List Nat) : sumList l = 0 ↔ ∀ x ∈ l, x = 0 := List.sum_eq_zero_iff_forall_eq_nat

theorem sumList_pos_iff (l : List Nat) : 0 < sumList l ↔ ∃ x ∈ l, 0 < x := List.sum_pos_iff_exists_pos_nat

theorem sumList_map_eq_zero_iff {α : Type} (l : List α) (f : α → Nat) :
    sumList (l.map f) = 0 ↔ ∀ x ∈ l, f x = 0 :=
  (sumList_eq_zero_iff _).trans List.forall_mem_map

theorem sumList_map_pos_iff {α : Type} (l : List α) (f : α → Nat) :
    0 < sumList (l.map f) ↔ ∃ x ∈ l, 0 < f x :=
  (sumList_pos_iff _).trans
    ⟨fun ⟨_, hx, hp⟩ => (List.mem_map.mp hx).elim fun a ha => ⟨a, ha.1, ha.2 ▸ hp⟩,
      fun ⟨a, ha, hp⟩ => ⟨f a, List.mem_map_of_mem ha, hp⟩⟩

theorem sumList_map_le {α : Type} (l : List α) (f g : α → Nat) (h : ∀ x ∈ l, f x ≤ g x) :
    sumList (l.map f) ≤ sumList (l.map g) := by
  induction l with
  | nil => exact Nat.le_refl _
  | cons a l ih =>
    exact Nat.add_le_add (h a List.mem_cons_self) (ih fun x hx => h x (List.mem_cons_of_mem _ hx))

theorem sumList_map_congr {α : Type} (l : List α) (f g : α → Nat) (h : ∀ x ∈ l, f x = g x) :
    sumList (l.map f) = sumList (l.map g) := by
  rw [List.map_congr_left h]

theorem le_sumList_of_mem {x : Nat} {l : List Nat} (h : x ∈ l) : x ≤ sumList l := by
  induction l with
  | nil => cases h
  | cons a l ih =>
    rcases List.mem_cons.mp h with rfl | h'
    · exact Nat.le_add_right _ _
    · exact Nat.le_trans (ih h') (Nat.le_add_left _ _)

theorem le_sumList_map_of_mem {α : Type} {a : α} {l : List α} (f : α → Nat) (h : a ∈ l) :
    f a ≤ sumList (l.map f) := le_sumList_of_mem (List.mem_map_of_mem h)

theorem sumList_map_filter {α : Type} (l : List α) (p : α → Bool) (f : α → Nat)
    (h : ∀ x ∈ l, p x = false → f x = 0) :
    sumList ((l.filter p).map f) = sumList (l.map f) := by
  induction l with
  | nil => rfl
  | cons a l ih =>
    have ih' := ih (fun x hx => h x (by simp [hx]))
    cases hp : p a with
    | true => simp [hp, ih']
    | false => simp [hp, ih', h a (by simp) hp]

theorem sumList_range_succ (n : Nat) (g : Nat → Nat) :
    sumList ((List.range (n + 1)).map g) = sumList ((List.range n).map g) + g n := by
  rw [List.range_succ, List.map_append, sumList_append]; rfl

theorem sumList_range_congr (n : Nat) (g g' : Nat → Nat) (h : ∀ i, i < n → g' i = g i) :
    sumList ((List.range n).map g') = sumList ((List.range n).map g) :=
  sumList_map_congr _ _ _ (fun x hx => h x (List.mem_range.mp hx))

theorem sumList_range_update (n a : Nat) (g g' : Nat → Nat) (ha : a < n)
    (h : ∀ i, i < n → i ≠ a → g' i = g i) :
    sumList ((List.range n).map g') + g a = sumList ((List.range n).map g) + g' a := by
  induction n with
  | zero => omega
  | succ n ih =>
    rw [sumList_range_succ, sumList_range_succ]
    by_cases hn : a = n
    · subst hn
      have := sumList_range_congr a g g' (fun i hi => h i (by omega) (by omega))
      omega
    · have h1 := ih (by omega) (fun i hi hia => h i (by omega) hia)
      have h2 := h n (by omega) (fun e => hn e.symm)
      omega

theorem le_sumList_range {n a : Nat} (g : Nat → Nat) (ha : a < n) :
    g a ≤ sumList ((List.range n).map g) :=
  le_sumList_map_of_mem g (List.mem_range.mpr ha)

theorem sumList_range_pos_iff (n : Nat) (g : Nat → Nat) :
    0 < sumList ((List.range n).map g) ↔ ∃ a, a < n ∧ 0 < g a :=
  (sumList_map_pos_iff _ _).trans
    ⟨fun ⟨a, ha, h⟩ => ⟨a, List.mem_range.mp ha, h⟩, fun ⟨a, ha, h⟩ => ⟨a, List.mem_range.mpr ha, h⟩⟩

theorem sumList_range_eq_zero_iff (n : Nat) (g : Nat → Nat) :
    sumList ((List.range n).map g) = 0 ↔ ∀ a, a < n → g a = 0 :=
  (sumList_map_eq_zero_iff _ _).trans
    ⟨fun h a ha => h a (List.mem_range.mpr ha), fun h a ha => h a (List.mem_range.mp ha)⟩

end State

/-! ### `List.count` (on `Nat`) -/

theorem count_append (l₁ l₂ : List Nat) (o : Nat) :
    (l₁ ++ l₂).count o = l₁.count o + l₂.count o := List.count_append

@[simp] theorem count_singleton_ite (t o : Nat) : [t].count o = if t = o then 1 else 0 := by
  rw [List.count_singleton]; simp only [beq_iff_eq]

theorem count_concat (l : List Nat) (t o : Nat) :
    (l ++ [t]).count o = l.count o + (if t = o then 1 else 0) := by
  rw [List.count_append, count_singleton_ite]


theorem count_cons' (l : List Nat) (t o : Nat) :
    (t :: l).count o = (if t = o then 1 else 0) + l.count o := by
  rw [List.count_cons, Nat.add_comm]; simp only [beq_iff_eq]

theorem count_pos_iff_mem (l : List Nat) (o : Nat) : 0 < l.count o ↔ o ∈ l := List.count_pos_iff

theorem count_eq_zero_iff_not_mem (l : List Nat) (o : Nat) : l.count o = 0 ↔ o ∉ l :=
  List.count_eq_zero

theorem eq_take_cons_drop {α : Type} {l : List α} {i : Nat} {a : α} (h : l[i]? = some a) :
    l = l.take i ++ a :: l.drop (i + 1) := by
  obtain ⟨hi, rfl⟩ := List.getElem?_eq_some_iff.mp h
  rw [List.getElem_cons_drop, List.take_append_drop]

theorem count_eraseIdx_add {α : Type} [DecidableEq α] (l : List α) (i : Nat) (o : α) :
    (l.eraseIdx i).count o + (if l[i]? = some o then 1 else 0) = l.count o := by
  cases h : l[i]? with
  | none => rw [List.eraseIdx_of_length_le (List.getElem?_eq_none_iff.mp h), if_neg (by simp)]; rfl
  | some a =>
    rw [List.eraseIdx_eq_take_drop_succ]
    conv => rhs; rw [eq_take_cons_drop h]
    simp only [List.count_append, List.count_cons, Option.some.injEq, beq_iff_eq]
    exact Nat.add_assoc _ _ _

theorem count_eraseIdx_le {α : Type} [DecidableEq α] (l : List α) (i : Nat) (o : α) :
    (l.eraseIdx i).count o ≤ l.count o := Nat.le.intro (count_eraseIdx_add l i o)

theorem count_eraseIdx_of_ne {α : Type} [DecidableEq α] (l : List α) (i : Nat) (o : α)
    (h : l[i]? ≠ some o) : (l.eraseIdx i).count o = l.count o := by
  have := count_eraseIdx_add l i o; rwa [if_neg h] at this

theorem count_eraseIdx_of_eq {α : Type} [DecidableEq α] (l : List α) (i : Nat) (o : α)
    (h : l[i]? = some o) : (l.eraseIdx i).count o + 1 = l.count o := by
  have := count_eraseIdx_add l i o; rwa [if_pos h] at this

theorem count_set_add {α : Type} [DecidableEq α] (l : List α) (i : Nat) (t o : α) (h : i < l.length) :
    (l.set i t).count o + (if l[i]? = some o then 1 else 0)
      = l.count o + (if t = o then 1 else 0) := by
  have hg : l[i]? = some l[i] := List.getElem?_eq_getElem h
  rw [List.set_eq_take_append_cons_drop, if_pos h, hg]
  conv => rhs; rw [eq_take_cons_drop hg]
  simp only [List.count_append, List.count_cons, Option.some.injEq, beq_iff_eq]
  rw [← Nat.add_assoc, ← Nat.add_assoc, Nat.add_right_comm]

theorem count_set_of_ge {α : Type} [DecidableEq α] (l : List α) (i : Nat) (t o : α)
    (h : l.length ≤ i) : (l.set i t).count o = l.count o := by
  rw [List.set_eq_of_length_le h]

theorem mem_of_getElem?_eq_some {α : Type} {l : List α} {i : Nat} {o : α} (h : l[i]? = some o) :
    o ∈ l := List.mem_of_getElem? h


/-! ## I. Accessors in terms of `heap[o]?` -/

/-- numeric value of a strong cell (`uninit` counts as `0`) -/
def Strong.toNat : Strong → Nat
  | .cnt n => n
  | .uninit => 0

@[simp] theorem Strong.toNat_cnt (n : Nat) : (Strong.cnt n).toNat = n := rfl
@[simp] theorem Strong.toNat_uninit : Strong.uninit.toNat = 0 := rfl
@[simp] theorem Strong.isDead_cnt_zero : (Strong.cnt 0).isDead = true := rfl
@[simp] theorem Strong.isDead_uninit : Strong.uninit.isDead = true := rfl
@[simp] theorem Strong.isDead_cnt_succ (n : Nat) : (Strong.cnt (n + 1)).isDead = false := rfl

theorem Strong.isDead_eq_false_iff (st : Strong) : st.isDead = false ↔ ∃ n, st = .cnt (n + 1) := by
  cases st with
  | uninit => simp
  | cnt n => cases n <;> simp

theorem Strong.isDead_eq_true_iff (st : Strong) : st.isDead = true ↔ st = .cnt 0 ∨ st = .uninit := by
  cases st with
  | uninit => simp
  | cnt n => cases n <;> simp

theorem Strong.toNat_pos_iff (st : Strong) : 0 < st.toNat ↔ st.isDead = false := by
  cases st with
  | uninit => simp
  | cnt n => cases n <;> simp

theorem Strong.isDead_iff_toNat_eq_zero (st : Strong) : st.isDead = true ↔ st.toNat = 0 := by
  cases st with
  | uninit => simp
  | cnt n => cases n <;> simp

/-- strong handles owned by the value stored in an object (`[]` when moved out) -/
def Obj.heldList (ob : Obj) : List Nat :=
  match ob.value with
  | some v => v.held
  | none => []

/-- Weak handles owned by the value stored in an object (`[]` when moved out) -/
def Obj.weakList (ob : Obj) : List Nat :=
  match ob.value with
  | some v => v.weaks
  | none => []

theorem Obj.heldList_of_some {ob : Obj} {v : Val} (h : ob.value = some v) : ob.heldList = v.held := by
  simp [Obj.heldList, h]
theorem Obj.heldList_of_none {ob : Obj} (h : ob.value = none) : ob.heldList = [] := by
  simp [Obj.heldList, h]
theorem Obj.weakList_of_some {ob : Obj} {v : Val} (h : ob.value = some v) : ob.weakList = v.weaks := by
  simp [Obj.weakList, h]
theorem Obj.weakList_of_none {ob : Obj} (h : ob.value = none) : ob.weakList = [] := by
  simp [Obj.weakList, h]
theorem Obj.heldList_congr {ob ob' : Obj} (h : ob'.value = ob.value) : ob'.heldList = ob.heldList := by
  simp [Obj.heldList, h]
theorem Obj.weakList_congr {ob ob' : Obj} (h : ob'.value = ob.value) : ob'.weakList = ob.weakList := by
  simp [Obj.weakList, h]
@[simp] theorem Obj.heldList_mk_some (st : Strong) (w : Nat) (l : Option Table) (v : Val) (f i : Bool) :
    (Obj.mk st w l (some v) f i).heldList = v.held := rfl
@[simp] theorem Obj.heldList_mk_none (st : Strong) (w : Nat) (l : Option Table) (f i : Bool) :
    (Obj.mk st w l none f i).heldList = [] := rfl
@[simp] theorem Obj.weakList_mk_some (st : Strong) (w : Nat) (l : Option Table) (v : Val) (f i : Bool) :
    (Obj.mk st w l (some v) f i).weakList = v.weaks := rfl
@[simp] theorem Obj.weakList_mk_none (st : Strong) (w : Nat) (l : Option Table) (f i : Bool) :
    (Obj.mk st w l none f i).weakList = [] := rfl
@[simp] theorem Obj.heldList_mk_value (ob : Obj) (st : Strong) (w : Nat) (l : Option Table) (f i : Bool) :
    (Obj.mk st w l ob.value f i).heldList = ob.heldList := rfl
@[simp] theorem Obj.weakList_mk_value (ob : Obj) (st : Strong) (w : Nat) (l : Option Table) (f i : Bool) :
    (Obj.mk st w l ob.value f i).weakList = ob.weakList := rfl

namespace State

/-! ### definitional unfoldings -/

theorem tbl_def (s : State) (o : Nat) : s.tbl o = (s.tableOf o).getD [] := rfl
theorem F_def (s : State) (a b : Nat) : s.F a b = (s.tbl a).get ⟨b, .fwd⟩ := rfl
theorem B_def (s : State) (b a : Nat) : s.B b a = (s.tbl b).get ⟨a, .bwd⟩ := rfl
theorem H_def (s : State) (a b : Nat) : s.H a b = (s.heldOf a).count b := rfl
theorem ext_def (s : State) (o : Nat) :
    s.ext o = s.roots.count o + s.raws.count o + sumList (s.vals.map (fun v => v.held.count o)) := rfl
theorem extW_def (s : State) (o : Nat) :
    s.extW o = s.wroots.count o + sumList (s.vals.map (fun v => v.weaks.count o)) := rfl
theorem pend_def (s : State) (o : Nat) : s.pend o = sumList (s.stack.map (Frame.strongTo o)) := rfl
theorem pendW_def (s : State) (o : Nat) : s.pendW o = sumList (s.stack.map (Frame.weakTo o)) := rfl
theorem owed_def (s : State) (o : Nat) : s.owed o = sumList (s.stack.map (Frame.owes o)) := rfl
theorem inHeap_def (s : State) (o : Nat) :
    s.inHeap o = sumList ((List.range s.heap.length).map (fun a => s.H a o)) := rfl
theorem inHeapW_def (s : State) (o : Nat) :
    s.inHeapW o = sumList ((List.range s.heap.length).map (fun a => (s.weaksOf a).count o)) := rfl

/-! ### every accessor at an allocated index -/

section get
variable {s : State} {o : Nat} {ob : Obj}

theorem get_lt (h : s.heap[o]? = some ob) : o < s.heap.length :=
  (List.getElem?_eq_some_iff.mp h).1

theorem get_none_iff : s.heap[o]? = none ↔ s.heap.length ≤ o := List.getElem?_eq_none_iff

theorem cell_of_get (h : s.heap[o]? = some ob) : s.cell o = if ob.freed then none else some ob := by
  unfold cell; rw [h]
theorem strongOf_of_get (h : s.heap[o]? = some ob) : s.strongOf o = ob.strong := by
  unfold strongOf; rw [h]
theorem isLive_of_get (h : s.heap[o]? = some ob) : s.isLive o = (!ob.freed && !ob.strong.isDead) := by
  unfold isLive; rw [h]
theorem tableOf_of_get (h : s.heap[o]? = some ob) : s.tableOf o = if ob.freed then none else ob.links := by
  unfold tableOf; rw [cell_of_get h]; cases ob.freed <;> rfl
theorem tbl_of_get (h : s.heap[o]? = some ob) : s.tbl o = if ob.freed then [] else ob.links.getD [] := by
  unfold tbl; rw [tableOf_of_get h]; cases ob.freed <;> rfl
theorem heldOf_of_get (h : s.heap[o]? = some ob) : s.heldOf o = ob.heldList := by
  unfold heldOf; rw [h]; rfl
theorem weaksOf_of_get (h : s.heap[o]? = some ob) : s.weaksOf o = ob.weakList := by
  unfold weaksOf; rw [h]; rfl
theorem H_of_get (h : s.heap[o]? = some ob) (t : Nat) : s.H o t = ob.heldList.count t := by
  unfold H; rw [heldOf_of_get h]
theorem strongNat_of_get (h : s.heap[o]? = some ob) : s.strongNat o = ob.strong.toNat := by
  unfold strongNat; rw [h]; dsimp only; cases ob.strong <;> rfl
theorem weakNat_of_get (h : s.heap[o]? = some ob) : s.weakNat o = ob.weak := by
  unfold weakNat; rw [h]
theorem implicitNat_of_get (h : s.heap[o]? = some ob) : s.implicitNat o = if ob.implicit then 1 else 0 := by
  unfold implicitNat; rw [h]

theorem cell_of_get_none (h : s.heap[o]? = none) : s.cell o = none := by unfold cell; rw [h]
theorem strongOf_of_get_none (h : s.heap[o]? = none) : s.strongOf o = .uninit := by unfold strongOf; rw [h]
theorem isLive_of_get_none (h : s.heap[o]? = none) : s.isLive o = false := by unfold isLive; rw [h]
theorem tableOf_of_get_none (h : s.heap[o]? = none) : s.tableOf o = none := by
  unfold tableOf; rw [cell_of_get_none h]
theorem tbl_of_get_none (h : s.heap[o]? = none) : s.tbl o = [] := by
  unfold tbl; rw [tableOf_of_get_none h]; rfl
theorem heldOf_of_get_none (h : s.heap[o]? = none) : s.heldOf o = [] := by unfold heldOf; rw [h]
theorem weaksOf_of_get_none (h : s.heap[o]? = none) : s.weaksOf o = [] := by unfold weaksOf; rw [h]
theorem H_of_get_none (h : s.heap[o]? = none) (t : Nat) : s.H o t = 0 := by
  unfold H; rw [heldOf_of_get_none h]; rfl
theorem strongNat_of_get_none (h : s.heap[o]? = none) : s.strongNat o = 0 := by unfold strongNat; rw [h]
theorem weakNat_of_get_none (h : s.heap[o]? = none) : s.weakNat o = 0 := by unfold weakNat; rw [h]
theorem implicitNat_of_get_none (h : s.heap[o]? = none) : s.implicitNat o = 0 := by unfold implicitNat; rw [h]
theorem F_of_get_none (h : s.heap[o]? = none) (b : Nat) : s.F o b = 0 := by
  unfold F; rw [tbl_of_get_none h]; rfl
theorem B_of_get_none (h : s.heap[o]? = none) (b : Nat) : s.B o b = 0 := by
  unfold B; rw [tbl_of_get_none h]; rfl

end get

/-! ### `cell` -/

theorem cell_eq_some_iff (s : State) (o : Nat) (ob : Obj) :
    s.cell o = some ob ↔ s.heap[o]? = some ob ∧ ob.freed = false := by
  constructor
  · exact cell_some_get s o ob
  · rintro ⟨h, hf⟩; simp [cell_of_get h, hf]

theorem cell_eq_none_iff (s : State) (o : Nat) :
    s.cell o = none ↔ ∀ ob, s.heap[o]? = some ob → ob.freed = true := by
  cases h : s.heap[o]? with
  | none => simp [cell_of_get_none h]
  | some ob => cases hf : ob.freed <;> simp [cell_of_get h, hf]

theorem cell_of_not_freed {s : State} {o : Nat} {ob : Obj} (h : s.heap[o]? = some ob)
    (hf : ob.freed = false) : s.cell o = some ob := (cell_eq_some_iff s o ob).mpr ⟨h, hf⟩

theorem cell_of_freed {s : State} {o : Nat} {ob : Obj} (h : s.heap[o]? = some ob)
    (hf : ob.freed = true) : s.cell o = none := by simp [cell_of_get h, hf]

theorem get_of_cell {s : State} {o : Nat} {ob : Obj} (h : s.cell o = some ob) : s.heap[o]? = some ob :=
  (cell_some_get s o ob h).1

theorem freed_of_cell {s : State} {o : Nat} {ob : Obj} (h : s.cell o = some ob) : ob.freed = false :=
  (cell_some_get s o ob h).2

theorem cell_of_ge {s : State} {o : Nat} (h : s.heap.length ≤ o) : s.cell o = none :=
  cell_of_get_none (get_none_iff.mpr h)

/-! ### `isLive` -/

theorem isLive_eq_true_iff (s : State) (o : Nat) :
    s.isLive o = true ↔ ∃ ob n, s.heap[o]? = some ob ∧ ob.freed = false ∧ ob.strong = .cnt (n + 1) := by
  cases h : s.heap[o]? with
  | none => simp [isLive_of_get_none h]
  | some ob =>
    rw [isLive_of_get h]
    simp only [Bool.and_eq_true, Bool.not_eq_true', Strong.isDead_eq_false_iff, Option.some.injEq]
    constructor
    · rintro ⟨hf, n, hn⟩; exact ⟨ob, n, rfl, hf, hn⟩
    · rintro ⟨ob', n, rfl, hf, hn⟩; exact ⟨hf, n, hn⟩

theorem isLive_iff_cell (s : State) (o : Nat) :
    s.isLive o = true ↔ ∃ ob n, s.cell o = some ob ∧ ob.strong = .cnt (n + 1) := by
  rw [isLive_eq_true_iff]
  constructor
  · rintro ⟨ob, n, h, hf, hn⟩; exact ⟨ob, n, cell_of_not_freed h hf, hn⟩
  · rintro ⟨ob, n, h, hn⟩; exact ⟨ob, n, get_of_cell h, freed_of_cell h, hn⟩

theorem isLive_lt {s : State} {o : Nat} (h : s.isLive o = true) : o < s.heap.length := by
  obtain ⟨ob, _, hg, _⟩ := (isLive_eq_true_iff s o).mp h
  exact get_lt hg

theorem isLive_of_ge {s : State} {o : Nat} (h : s.heap.length ≤ o) : s.isLive o = false :=
  isLive_of_get_none (get_none_iff.mpr h)

theorem isLive_of_cell {s : State} {o : Nat} {ob : Obj} (h : s.cell o = some ob) :
    s.isLive o = !ob.strong.isDead := by
  rw [isLive_of_get (get_of_cell h), freed_of_cell h]; rfl

theorem isLive_of_cell_none {s : State} {o : Nat} (h : s.cell o = none) : s.isLive o = false := by
  cases hg : s.heap[o]? with
  | none => exact isLive_of_get_none hg
  | some ob => rw [isLive_of_get hg, (cell_eq_none_iff s o).mp h ob hg]; rfl

theorem strongNat_pos_of_isLive {s : State} {o : Nat} (h : s.isLive o = true) : 0 < s.strongNat o := by
  obtain ⟨ob, n, hg, _, hn⟩ := (isLive_eq_true_iff s o).mp h
  rw [strongNat_of_get hg, hn]; simp

theorem isLive_iff_strongNat_pos {s : State} {o : Nat} {ob : Obj} (h : s.heap[o]? = some ob)
    (hf : ob.freed = false) : s.isLive o = true ↔ 0 < s.strongNat o := by
  rw [isLive_of_get h, strongNat_of_get h, hf, Strong.toNat_pos_iff]; simp

theorem isLive_cell_isSome {s : State} {o : Nat} (h : s.isLive o = true) : (s.cell o).isSome = true := by
  obtain ⟨ob, _, hc, _⟩ := (isLive_iff_cell s o).mp h
  simp [hc]

/-! ### `tableOf`, `tbl` -/

theorem tableOf_eq_some_iff (s : State) (o : Nat) (t : Table) :
    s.tableOf o = some t ↔ ∃ ob, s.heap[o]? = some ob ∧ ob.freed = false ∧ ob.links = some t := by
  constructor
  · intro h
    obtain ⟨ob, hc, hl⟩ := tableOf_eq_some s o t h
    exact ⟨ob, get_of_cell hc, freed_of_cell hc, hl⟩
  · rintro ⟨ob, hg, hf, hl⟩
    simp [tableOf_of_get hg, hf, hl]

theorem tableOf_of_cell {s : State} {o : Nat} {ob : Obj} (h : s.cell o = some ob) :
    s.tableOf o = ob.links := by simp [tableOf, h]

theorem tableOf_of_cell_none {s : State} {o : Nat} (h : s.cell o = none) : s.tableOf o = none := by
  simp [tableOf, h]

theorem tbl_eq_of_tableOf {s : State} {o : Nat} {t : Table} (h : s.tableOf o = some t) : s.tbl o = t := by
  simp [tbl, h]

theorem tbl_eq_nil_of_tableOf_none {s : State} {o : Nat} (h : s.tableOf o = none) : s.tbl o = [] := by
  simp [tbl, h]

theorem tbl_of_cell {s : State} {o : Nat} {ob : Obj} (h : s.cell o = some ob) :
    s.tbl o = ob.links.getD [] := by simp [tbl, tableOf_of_cell h]

theorem tbl_of_cell_none {s : State} {o : Nat} (h : s.cell o = none) : s.tbl o = [] := by
  simp [tbl, tableOf_of_cell_none h]

theorem F_of_tableOf {s : State} {a : Nat} {t : Table} (h : s.tableOf a = some t) (b : Nat) :
    s.F a b = t.get ⟨b, .fwd⟩ := by simp [F, tbl_eq_of_tableOf h]

theorem B_of_tableOf {s : State} {b : Nat} {t : Table} (h : s.tableOf b = some t) (a : Nat) :
    s.B b a = t.get ⟨a, .bwd⟩ := by simp [B, tbl_eq_of_tableOf h]

theorem F_of_tableOf_none {s : State} {a : Nat} (h : s.tableOf a = none) (b : Nat) : s.F a b = 0 := by
  simp [F, tbl_eq_nil_of_tableOf_none h]

theorem B_of_tableOf_none {s : State} {b : Nat} (h : s.tableOf b = none) (a : Nat) : s.B b a = 0 := by
  simp [B, tbl_eq_nil_of_tableOf_none h]

/-! ### `inHeap` / `inHeapW` and single objects -/

theorem H_le_inHeap (s : State) (a o : Nat) : s.H a o ≤ s.inHeap o := by
  by_cases h : a < s.heap.length
  · exact le_sumList_range (fun a => (s.heldOf a).count o) h
  · rw [H_of_get_none (get_none_iff.mpr (by omega))]; omega

theorem count_weaksOf_le_inHeapW (s : State) (a o : Nat) : (s.weaksOf a).count o ≤ s.inHeapW o := by
  by_cases h : a < s.heap.length
  · exact le_sumList_range (fun a => (s.weaksOf a).count o) h
  · rw [weaksOf_of_get_none (get_none_iff.mpr (by omega))]; simp

theorem inHeap_pos_iff (s : State) (o : Nat) : 0 < s.inHeap o ↔ ∃ a, a < s.heap.length ∧ 0 < s.H a o := by
  unfold inHeap; rw [sumList_range_pos_iff]; rfl

theorem inHeap_eq_zero_iff (s : State) (o : Nat) : s.inHeap o = 0 ↔ ∀ a, s.H a o = 0 := by
  constructor
  · intro h a; have := H_le_inHeap s a o; omega
  · intro h; unfold inHeap; rw [sumList_range_eq_zero_iff]; intro a _; exact h a

theorem inHeapW_pos_iff (s : State) (o : Nat) :
    0 < s.inHeapW o ↔ ∃ a, a < s.heap.length ∧ o ∈ s.weaksOf a := by
  unfold inHeapW; rw [sumList_range_pos_iff]; simp [List.count_pos_iff]

/-! ### congruence: each function only reads some fields

The per-object accessors read the heap at one index only (`_congr_get`). -/

section congr
variable {s s' : State}

section get
variable {o : Nat} (h : s'.heap[o]? = s.heap[o]?)
include h

theorem cell_congr_get : s'.cell o = s.cell o := by unfold cell; rw [h]
theorem strongOf_congr_get : s'.strongOf o = s.strongOf o := by unfold strongOf; rw [h]
theorem isLive_congr_get : s'.isLive o = s.isLive o := by unfold isLive; rw [h]
theorem tableOf_congr_get : s'.tableOf o = s.tableOf o := by unfold tableOf; rw [cell_congr_get h]
theorem tbl_congr_get : s'.tbl o = s.tbl o := by unfold tbl; rw [tableOf_congr_get h]
theorem F_congr_get (b : Nat) : s'.F o b = s.F o b := by unfold F; rw [tbl_congr_get h]
theorem B_congr_get (b : Nat) : s'.B o b = s.B o b := by unfold B; rw [tbl_congr_get h]
theorem heldOf_congr_get : s'.heldOf o = s.heldOf o := by unfold heldOf; rw [h]
theorem weaksOf_congr_get : s'.weaksOf o = s.weaksOf o := by unfold weaksOf; rw [h]
theorem H_congr_get (b : Nat) : s'.H o b = s.H o b := by unfold H; rw [heldOf_congr_get h]
theorem strongNat_congr_get : s'.strongNat o = s.strongNat o := by unfold strongNat; rw [h]
theorem weakNat_congr_get : s'.weakNat o = s.weakNat o := by unfold weakNat; rw [h]
theorem implicitNat_congr_get : s'.implicitNat o = s.implicitNat o := by unfold implicitNat; rw [h]

end get

theorem inHeap_congr_of (hl : s'.heap.length = s.heap.length) (h : ∀ a, s'.heldOf a = s.heldOf a) (o : Nat) :
    s'.inHeap o = s.inHeap o := by
  unfold inHeap; rw [hl]; exact sumList_range_congr _ _ _ (fun a _ => by rw [h a])
theorem inHeapW_congr_of (hl : s'.heap.length = s.heap.length) (h : ∀ a, s'.weaksOf a = s.weaksOf a) (o : Nat) :
    s'.inHeapW o = s.inHeapW o := by
  unfold inHeapW; rw [hl]; exact sumList_range_congr _ _ _ (fun a _ => by rw [h a])

theorem cell_congr (h : s'.heap = s.heap) (o : Nat) : s'.cell o = s.cell o := cell_congr_get (congrArg (·[o]?) h)
theorem strongOf_congr (h : s'.heap = s.heap) (o : Nat) : s'.strongOf o = s.strongOf o := strongOf_congr_get (congrArg (·[o]?) h)
theorem isLive_congr (h : s'.heap = s.heap) (o : Nat) : s'.isLive o = s.isLive o := isLive_congr_get (congrArg (·[o]?) h)
theorem tableOf_congr (h : s'.heap = s.heap) (o : Nat) : s'.tableOf o = s.tableOf o :=
  tableOf_congr_get (congrArg (·[o]?) h)
theorem tbl_congr (h : s'.heap = s.heap) (o : Nat) : s'.tbl o = s.tbl o := tbl_congr_get (congrArg (·[o]?) h)
theorem F_congr (h : s'.heap = s.heap) (a b : Nat) : s'.F a b = s.F a b := F_congr_get (congrArg (·[a]?) h) b
theorem B_congr (h : s'.heap = s.heap) (a b : Nat) : s'.B a b = s.B a b := B_congr_get (congrArg (·[a]?) h) b
theorem heldOf_congr (h : s'.heap = s.heap) (o : Nat) : s'.heldOf o = s.heldOf o := heldOf_congr_get (congrArg (·[o]?) h)
theorem weaksOf_congr (h : s'.heap = s.heap) (o : Nat) : s'.weaksOf o = s.weaksOf o := weaksOf_congr_get (congrArg (·[o]?) h)
theorem H_congr (h : s'.heap = s.heap) (a b : Nat) : s'.H a b = s.H a b := H_congr_get (congrArg (·[a]?) h) b
theorem inHeap_congr (h : s'.heap = s.heap) (o : Nat) : s'.inHeap o = s.inHeap o :=
  inHeap_congr_of (congrArg List.length h) (heldOf_congr h) o
theorem inHeapW_congr (h : s'.heap = s.heap) (o : Nat) : s'.inHeapW o = s.inHeapW o :=
  inHeapW_congr_of (congrArg List.length h) (weaksOf_congr h) o
theorem strongNat_congr (h : s'.heap = s.heap) (o : Nat) : s'.strongNat o = s.strongNat o :=
  strongNat_congr_get (congrArg (·[o]?) h)
theorem weakNat_congr (h : s'.heap = s.heap) (o : Nat) : s'.weakNat o = s.weakNat o := weakNat_congr_get (congrArg (·[o]?) h)
theorem implicitNat_congr (h : s'.heap = s.heap) (o : Nat) : s'.implicitNat o = s.implicitNat o :=
  implicitNat_congr_get (congrArg (·[o]?) h)
theorem ext_congr (h₁ : s'.roots = s.roots) (h₂ : s'.raws = s.raws) (h₃ : s'.vals = s.vals) (o : Nat) :
    s'.ext o = s.ext o := by unfold ext; rw [h₁, h₂, h₃]
theorem extW_congr (h₁ : s'.wroots = s.wroots) (h₂ : s'.vals = s.vals) (o : Nat) :
    s'.extW o = s.extW o := by unfold extW; rw [h₁, h₂]
theorem pend_congr (h : s'.stack = s.stack) (o : Nat) : s'.pend o = s.pend o := by unfold pend; rw [h]
theorem pendW_congr (h : s'.stack = s.stack) (o : Nat) : s'.pendW o = s.pendW o := by unfold pendW; rw [h]
theorem owed_congr (h : s'.stack = s.stack) (o : Nat) : s'.owed o = s.owed o := by unfold owed; rw [h]

end congr

end State
namespace State

/-! ## B. Frame lemmas: fields and functions untouched by a primitive update

`withFld` stands for the record update `{ s with fld := x }`; those
lemmas are `@[simp ↓]` (tried *before* `simp` rewrites inside the record, which would otherwise
destroy the `{ s with … }` shape when `s` is itself an updated state). -/

/-! ### B.0 projections of the primitive updates (complements `Lemmas/Basic.lean`) -/

@[simp] theorem fail_hint (s : State) (e : Err) : (s.fail e).hint = s.hint := by unfold fail; split <;> rfl
@[simp] theorem fail_nextVid (s : State) (e : Err) : (s.fail e).nextVid = s.nextVid := by unfold fail; split <;> rfl
@[simp] theorem emit_wroots (s : State) (e : Ev) : (s.emit e).wroots = s.wroots := rfl
@[simp] theorem emit_vals (s : State) (e : Ev) : (s.emit e).vals = s.vals := rfl
@[simp] theorem emit_raws (s : State) (e : Ev) : (s.emit e).raws = s.raws := rfl
@[simp] theorem emit_unwinding (s : State) (e : Ev) : (s.emit e).unwinding = s.unwinding := rfl
@[simp] theorem emit_hint (s : State) (e : Ev) : (s.emit e).hint = s.hint := rfl
@[simp] theorem emit_nextVid (s : State) (e : Ev) : (s.emit e).nextVid = s.nextVid := rfl
@[simp] theorem push_wroots (s : State) (fs : List Frame) : (s.push fs).wroots = s.wroots := rfl
@[simp] theorem push_vals (s : State) (fs : List Frame) : (s.push fs).vals = s.vals := rfl
@[simp] theorem push_raws (s : State) (fs : List Frame) : (s.push fs).raws = s.raws := rfl
@[simp] theorem push_unwinding (s : State) (fs : List Frame) : (s.push fs).unwinding = s.unwinding := rfl
@[simp] theorem push_hint (s : State) (fs : List Frame) : (s.push fs).hint = s.hint := rfl
@[simp] theorem push_nextVid (s : State) (fs : List Frame) : (s.push fs).nextVid = s.nextVid := rfl
@[simp] theorem setObj_wroots (s : State) (a : Nat) (ob : Obj) : (s.setObj a ob).wroots = s.wroots := rfl
@[simp] theorem setObj_vals (s : State) (a : Nat) (ob : Obj) : (s.setObj a ob).vals = s.vals := rfl
@[simp] theorem setObj_raws (s : State) (a : Nat) (ob : Obj) : (s.setObj a ob).raws = s.raws := rfl
@[simp] theorem setObj_unwinding (s : State) (a : Nat) (ob : Obj) : (s.setObj a ob).unwinding = s.unwinding := rfl
@[simp] theorem setObj_hint (s : State) (a : Nat) (ob : Obj) : (s.setObj a ob).hint = s.hint := rfl
@[simp] theorem setObj_nextVid (s : State) (a : Nat) (ob : Obj) : (s.setObj a ob).nextVid = s.nextVid := rfl
@[simp] theorem alloc_roots (s : State) (v : Val) : (s.alloc v).roots = s.roots := rfl
@[simp] theorem alloc_wroots (s : State) (v : Val) : (s.alloc v).wroots = s.wroots := rfl
@[simp] theorem alloc_vals (s : State) (v : Val) : (s.alloc v).vals = s.vals := rfl
@[simp] theorem alloc_raws (s : State) (v : Val) : (s.alloc v).raws = s.raws := rfl
@[simp] theorem alloc_stack (s : State) (v : Val) : (s.alloc v).stack = s.stack := rfl
@[simp] theorem alloc_log (s : State) (v : Val) : (s.alloc v).log = s.log := rfl
@[simp] theorem alloc_err (s : State) (v : Val) : (s.alloc v).err = s.err := rfl
@[simp] theorem alloc_unwinding (s : State) (v : Val) : (s.alloc v).unwinding = s.unwinding := rfl
@[simp] theorem alloc_hint (s : State) (v : Val) : (s.alloc v).hint = s.hint := rfl
@[simp] theorem alloc_nextVid (s : State) (v : Val) : (s.alloc v).nextVid = s.nextVid := rfl
@[simp] theorem setObj_heap (s : State) (a : Nat) (ob : Obj) : (s.setObj a ob).heap = s.heap.set a ob := rfl

/-! ### B. untouched by `fail` -/

@[simp] theorem cell_fail (s : State) (e : Err) (o : Nat) : (s.fail e).cell o = s.cell o := cell_congr (fail_heap s e) o
@[simp] theorem tableOf_fail (s : State) (e : Err) (o : Nat) : (s.fail e).tableOf o = s.tableOf o := tableOf_congr (fail_heap s e) o
@[simp] theorem tbl_fail (s : State) (e : Err) (o : Nat) : (s.fail e).tbl o = s.tbl o := tbl_congr (fail_heap s e) o
@[simp] theorem isLive_fail (s : State) (e : Err) (o : Nat) : (s.fail e).isLive o = s.isLive o := isLive_congr (fail_heap s e) o
@[simp] theorem strongOf_fail (s : State) (e : Err) (o : Nat) : (s.fail e).strongOf o = s.strongOf o := strongOf_congr (fail_heap s e) o
@[simp] theorem heldOf_fail (s : State) (e : Err) (o : Nat) : (s.fail e).heldOf o = s.heldOf o := heldOf_congr (fail_heap s e) o
@[simp] theorem weaksOf_fail (s : State) (e : Err) (o : Nat) : (s.fail e).weaksOf o = s.weaksOf o := weaksOf_congr (fail_heap s e) o
@[simp] theorem H_fail (s : State) (e : Err) (x y : Nat) : (s.fail e).H x y = s.H x y := H_congr (fail_heap s e) x y
@[simp] theorem F_fail (s : State) (e : Err) (x y : Nat) : (s.fail e).F x y = s.F x y := F_congr (fail_heap s e) x y
@[simp] theorem B_fail (s : State) (e : Err) (x y : Nat) : (s.fail e).B x y = s.B x y := B_congr (fail_heap s e) x y
@[simp] theorem ext_fail (s : State) (e : Err) (o : Nat) : (s.fail e).ext o = s.ext o := ext_congr (fail_roots s e) (fail_raws s e) (fail_vals s e) o
@[simp] theorem extW_fail (s : State) (e : Err) (o : Nat) : (s.fail e).extW o = s.extW o := extW_congr (fail_wroots s e) (fail_vals s e) o
@[simp] theorem pend_fail (s : State) (e : Err) (o : Nat) : (s.fail e).pend o = s.pend o := pend_congr (fail_stack s e) o
@[simp] theorem pendW_fail (s : State) (e : Err) (o : Nat) : (s.fail e).pendW o = s.pendW o := pendW_congr (fail_stack s e) o
@[simp] theorem owed_fail (s : State) (e : Err) (o : Nat) : (s.fail e).owed o = s.owed o := owed_congr (fail_stack s e) o
@[simp] theorem inHeap_fail (s : State) (e : Err) (o : Nat) : (s.fail e).inHeap o = s.inHeap o := inHeap_congr (fail_heap s e) o
@[simp] theorem inHeapW_fail (s : State) (e : Err) (o : Nat) : (s.fail e).inHeapW o = s.inHeapW o := inHeapW_congr (fail_heap s e) o
@[simp] theorem strongNat_fail (s : State) (e : Err) (o : Nat) : (s.fail e).strongNat o = s.strongNat o := strongNat_congr (fail_heap s e) o
@[simp] theorem weakNat_fail (s : State) (e : Err) (o : Nat) : (s.fail e).weakNat o = s.weakNat o := weakNat_congr (fail_heap s e) o
@[simp] theorem implicitNat_fail (s : State) (e : Err) (o : Nat) : (s.fail e).implicitNat o = s.implicitNat o := implicitNat_congr (fail_heap s e) o

/-! ### B. untouched by `emit` -/

@[simp] theorem cell_emit (s : State) (e : Ev) (o : Nat) : (s.emit e).cell o = s.cell o := rfl
@[simp] theorem tableOf_emit (s : State) (e : Ev) (o : Nat) : (s.emit e).tableOf o = s.tableOf o := rfl
@[simp] theorem tbl_emit (s : State) (e : Ev) (o : Nat) : (s.emit e).tbl o = s.tbl o := rfl
@[simp] theorem isLive_emit (s : State) (e : Ev) (o : Nat) : (s.emit e).isLive o = s.isLive o := rfl
@[simp] theorem strongOf_emit (s : State) (e : Ev) (o : Nat) : (s.emit e).strongOf o = s.strongOf o := rfl
@[simp] theorem heldOf_emit (s : State) (e : Ev) (o : Nat) : (s.emit e).heldOf o = s.heldOf o := rfl
@[simp] theorem weaksOf_emit (s : State) (e : Ev) (o : Nat) : (s.emit e).weaksOf o = s.weaksOf o := rfl
@[simp] theorem H_emit (s : State) (e : Ev) (x y : Nat) : (s.emit e).H x y = s.H x y := rfl
@[simp] theorem F_emit (s : State) (e : Ev) (x y : Nat) : (s.emit e).F x y = s.F x y := rfl
@[simp] theorem B_emit (s : State) (e : Ev) (x y : Nat) : (s.emit e).B x y = s.B x y := rfl
@[simp] theorem ext_emit (s : State) (e : Ev) (o : Nat) : (s.emit e).ext o = s.ext o := rfl
@[simp] theorem extW_emit (s : State) (e : Ev) (o : Nat) : (s.emit e).extW o = s.extW o := rfl
@[simp] theorem pend_emit (s : State) (e : Ev) (o : Nat) : (s.emit e).pend o = s.pend o := rfl
@[simp] theorem pendW_emit (s : State) (e : Ev) (o : Nat) : (s.emit e).pendW o = s.pendW o := rfl
@[simp] theorem owed_emit (s : State) (e : Ev) (o : Nat) : (s.emit e).owed o = s.owed o := rfl
@[simp] theorem inHeap_emit (s : State) (e : Ev) (o : Nat) : (s.emit e).inHeap o = s.inHeap o := rfl
@[simp] theorem inHeapW_emit (s : State) (e : Ev) (o : Nat) : (s.emit e).inHeapW o = s.inHeapW o := rfl
@[simp] theorem strongNat_emit (s : State) (e : Ev) (o : Nat) : (s.emit e).strongNat o = s.strongNat o := rfl
@[simp] theorem weakNat_emit (s : State) (e : Ev) (o : Nat) : (s.emit e).weakNat o = s.weakNat o := rfl
@[simp] theorem implicitNat_emit (s : State) (e : Ev) (o : Nat) : (s.emit e).implicitNat o = s.implicitNat o := rfl

/-! ### B. untouched by `push` -/

@[simp] theorem cell_push (s : State) (fs : List Frame) (o : Nat) : (s.push fs).cell o = s.cell o := rfl
@[simp] theorem tableOf_push (s : State) (fs : List Frame) (o : Nat) : (s.push fs).tableOf o = s.tableOf o := rfl
@[simp] theorem tbl_push (s : State) (fs : List Frame) (o : Nat) : (s.push fs).tbl o = s.tbl o := rfl
@[simp] theorem isLive_push (s : State) (fs : List Frame) (o : Nat) : (s.push fs).isLive o = s.isLive o := rfl
@[simp] theorem strongOf_push (s : State) (fs : List Frame) (o : Nat) : (s.push fs).strongOf o = s.strongOf o := rfl
@[simp] theorem heldOf_push (s : State) (fs : List Frame) (o : Nat) : (s.push fs).heldOf o = s.heldOf o := rfl
@[simp] theorem weaksOf_push (s : State) (fs : List Frame) (o : Nat) : (s.push fs).weaksOf o = s.weaksOf o := rfl
@[simp] theorem H_push (s : State) (fs : List Frame) (x y : Nat) : (s.push fs).H x y = s.H x y := rfl
@[simp] theorem F_push (s : State) (fs : List Frame) (x y : Nat) : (s.push fs).F x y = s.F x y := rfl
@[simp] theorem B_push (s : State) (fs : List Frame) (x y : Nat) : (s.push fs).B x y = s.B x y := rfl
@[simp] theorem ext_push (s : State) (fs : List Frame) (o : Nat) : (s.push fs).ext o = s.ext o := rfl
@[simp] theorem extW_push (s : State) (fs : List Frame) (o : Nat) : (s.push fs).extW o = s.extW o := rfl
@[simp] theorem inHeap_push (s : State) (fs : List Frame) (o : Nat) : (s.push fs).inHeap o = s.inHeap o := rfl
@[simp] theorem inHeapW_push (s : State) (fs : List Frame) (o : Nat) : (s.push fs).inHeapW o = s.inHeapW o := rfl
@[simp] theorem strongNat_push (s : State) (fs : List Frame) (o : Nat) : (s.push fs).strongNat o = s.strongNat o := rfl
@[simp] theorem weakNat_push (s : State) (fs : List Frame) (o : Nat) : (s.push fs).weakNat o = s.weakNat o := rfl
@[simp] theorem implicitNat_push (s : State) (fs : List Frame) (o : Nat) : (s.push fs).implicitNat o = s.implicitNat o := rfl

/-! ### B. untouched by `withStack` -/

@[simp ↓] theorem cell_withStack (s : State) (st : List Frame) (o : Nat) : ({ s with stack := st } : State).cell o = s.cell o := rfl
@[simp ↓] theorem tableOf_withStack (s : State) (st : List Frame) (o : Nat) : ({ s with stack := st } : State).tableOf o = s.tableOf o := rfl
@[simp ↓] theorem tbl_withStack (s : State) (st : List Frame) (o : Nat) : ({ s with stack := st } : State).tbl o = s.tbl o := rfl
@[simp ↓] theorem isLive_withStack (s : State) (st : List Frame) (o : Nat) : ({ s with stack := st } : State).isLive o = s.isLive o := rfl
@[simp ↓] theorem strongOf_withStack (s : State) (st : List Frame) (o : Nat) : ({ s with stack := st } : State).strongOf o = s.strongOf o := rfl
@[simp ↓] theorem heldOf_withStack (s : State) (st : List Frame) (o : Nat) : ({ s with stack := st } : State).heldOf o = s.heldOf o := rfl
@[simp ↓] theorem weaksOf_withStack (s : State) (st : List Frame) (o : Nat) : ({ s with stack := st } : State).weaksOf o = s.weaksOf o := rfl
@[simp ↓] theorem H_withStack (s : State) (st : List Frame) (x y : Nat) : ({ s with stack := st } : State).H x y = s.H x y := rfl
@[simp ↓] theorem F_withStack (s : State) (st : List Frame) (x y : Nat) : ({ s with stack := st } : State).F x y = s.F x y := rfl
@[simp ↓] theorem B_withStack (s : State) (st : List Frame) (x y : Nat) : ({ s with stack := st } : State).B x y = s.B x y := rfl
@[simp ↓] theorem ext_withStack (s : State) (st : List Frame) (o : Nat) : ({ s with stack := st } : State).ext o = s.ext o := rfl
@[simp ↓] theorem extW_withStack (s : State) (st : List Frame) (o : Nat) : ({ s with stack := st } : State).extW o = s.extW o := rfl
@[simp ↓] theorem inHeap_withStack (s : State) (st : List Frame) (o : Nat) : ({ s with stack := st } : State).inHeap o = s.inHeap o := rfl
@[simp ↓] theorem inHeapW_withStack (s : State) (st : List Frame) (o : Nat) : ({ s with stack := st } : State).inHeapW o = s.inHeapW o := rfl
@[simp ↓] theorem strongNat_withStack (s : State) (st : List Frame) (o : Nat) : ({ s with stack := st } : State).strongNat o = s.strongNat o := rfl
@[simp ↓] theorem weakNat_withStack (s : State) (st : List Frame) (o : Nat) : ({ s with stack := st } : State).weakNat o = s.weakNat o := rfl
@[simp ↓] theorem implicitNat_withStack (s : State) (st : List Frame) (o : Nat) : ({ s with stack := st } : State).implicitNat o = s.implicitNat o := rfl

/-! ### B. untouched by `withRoots` -/

@[simp ↓] theorem cell_withRoots (s : State) (r : List Nat) (o : Nat) : ({ s with roots := r } : State).cell o = s.cell o := rfl
@[simp ↓] theorem tableOf_withRoots (s : State) (r : List Nat) (o : Nat) : ({ s with roots := r } : State).tableOf o = s.tableOf o := rfl
@[simp ↓] theorem tbl_withRoots (s : State) (r : List Nat) (o : Nat) : ({ s with roots := r } : State).tbl o = s.tbl o := rfl
@[simp ↓] theorem isLive_withRoots (s : State) (r : List Nat) (o : Nat) : ({ s with roots := r } : State).isLive o = s.isLive o := rfl
@[simp ↓] theorem strongOf_withRoots (s : State) (r : List Nat) (o : Nat) : ({ s with roots := r } : State).strongOf o = s.strongOf o := rfl
@[simp ↓] theorem heldOf_withRoots (s : State) (r : List Nat) (o : Nat) : ({ s with roots := r } : State).heldOf o = s.heldOf o := rfl
@[simp ↓] theorem weaksOf_withRoots (s : State) (r : List Nat) (o : Nat) : ({ s with roots := r } : State).weaksOf o = s.weaksOf o := rfl
@[simp ↓] theorem H_withRoots (s : State) (r : List Nat) (x y : Nat) : ({ s with roots := r } : State).H x y = s.H x y := rfl
@[simp ↓] theorem F_withRoots (s : State) (r : List Nat) (x y : Nat) : ({ s with roots := r } : State).F x y = s.F x y := rfl
@[simp ↓] theorem B_withRoots (s : State) (r : List Nat) (x y : Nat) : ({ s with roots := r } : State).B x y = s.B x y := rfl
@[simp ↓] theorem extW_withRoots (s : State) (r : List Nat) (o : Nat) : ({ s with roots := r } : State).extW o = s.extW o := rfl
@[simp ↓] theorem pend_withRoots (s : State) (r : List Nat) (o : Nat) : ({ s with roots := r } : State).pend o = s.pend o := rfl
@[simp ↓] theorem pendW_withRoots (s : State) (r : List Nat) (o : Nat) : ({ s with roots := r } : State).pendW o = s.pendW o := rfl
@[simp ↓] theorem owed_withRoots (s : State) (r : List Nat) (o : Nat) : ({ s with roots := r } : State).owed o = s.owed o := rfl
@[simp ↓] theorem inHeap_withRoots (s : State) (r : List Nat) (o : Nat) : ({ s with roots := r } : State).inHeap o = s.inHeap o := rfl
@[simp ↓] theorem inHeapW_withRoots (s : State) (r : List Nat) (o : Nat) : ({ s with roots := r } : State).inHeapW o = s.inHeapW o := rfl
@[simp ↓] theorem strongNat_withRoots (s : State) (r : List Nat) (o : Nat) : ({ s with roots := r } : State).strongNat o = s.strongNat o := rfl
@[simp ↓] theorem weakNat_withRoots (s : State) (r : List Nat) (o : Nat) : ({ s with roots := r } : State).weakNat o = s.weakNat o := rfl
@[simp ↓] theorem implicitNat_withRoots (s : State) (r : List Nat) (o : Nat) : ({ s with roots := r } : State).implicitNat o = s.implicitNat o := rfl

/-! ### B. untouched by `withWroots` -/

@[simp ↓] theorem cell_withWroots (s : State) (r : List Nat) (o : Nat) : ({ s with wroots := r } : State).cell o = s.cell o := rfl
@[simp ↓] theorem tableOf_withWroots (s : State) (r : List Nat) (o : Nat) : ({ s with wroots := r } : State).tableOf o = s.tableOf o := rfl
@[simp ↓] theorem tbl_withWroots (s : State) (r : List Nat) (o : Nat) : ({ s with wroots := r } : State).tbl o = s.tbl o := rfl
@[simp ↓] theorem isLive_withWroots (s : State) (r : List Nat) (o : Nat) : ({ s with wroots := r } : State).isLive o = s.isLive o := rfl
@[simp ↓] theorem strongOf_withWroots (s : State) (r : List Nat) (o : Nat) : ({ s with wroots := r } : State).strongOf o = s.strongOf o := rfl
@[simp ↓] theorem heldOf_withWroots (s : State) (r : List Nat) (o : Nat) : ({ s with wroots := r } : State).heldOf o = s.heldOf o := rfl
@[simp ↓] theorem weaksOf_withWroots (s : State) (r : List Nat) (o : Nat) : ({ s with wroots := r } : State).weaksOf o = s.weaksOf o := rfl
@[simp ↓] theorem H_withWroots (s : State) (r : List Nat) (x y : Nat) : ({ s with wroots := r } : State).H x y = s.H x y := rfl
@[simp ↓] theorem F_withWroots (s : State) (r : List Nat) (x y : Nat) : ({ s with wroots := r } : State).F x y = s.F x y := rfl
@[simp ↓] theorem B_withWroots (s : State) (r : List Nat) (x y : Nat) : ({ s with wroots := r } : State).B x y = s.B x y := rfl
@[simp ↓] theorem ext_withWroots (s : State) (r : List Nat) (o : Nat) : ({ s with wroots := r } : State).ext o = s.ext o := rfl
@[simp ↓] theorem pend_withWroots (s : State) (r : List Nat) (o : Nat) : ({ s with wroots := r } : State).pend o = s.pend o := rfl
@[simp ↓] theorem pendW_withWroots (s : State) (r : List Nat) (o : Nat) : ({ s with wroots := r } : State).pendW o = s.pendW o := rfl
@[simp ↓] theorem owed_withWroots (s : State) (r : List Nat) (o : Nat) : ({ s with wroots := r } : State).owed o = s.owed o := rfl
@[simp ↓] theorem inHeap_withWroots (s : State) (r : List Nat) (o : Nat) : ({ s with wroots := r } : State).inHeap o = s.inHeap o := rfl
@[simp ↓] theorem inHeapW_withWroots (s : State) (r : List Nat) (o : Nat) : ({ s with wroots := r } : State).inHeapW o = s.inHeapW o := rfl
@[simp ↓] theorem strongNat_withWroots (s : State) (r : List Nat) (o : Nat) : ({ s with wroots := r } : State).strongNat o = s.strongNat o := rfl
@[simp ↓] theorem weakNat_withWroots (s : State) (r : List Nat) (o : Nat) : ({ s with wroots := r } : State).weakNat o = s.weakNat o := rfl
@[simp ↓] theorem implicitNat_withWroots (s : State) (r : List Nat) (o : Nat) : ({ s with wroots := r } : State).implicitNat o = s.implicitNat o := rfl

/-! ### B. untouched by `withVals` -/

@[simp ↓] theorem cell_withVals (s : State) (vs : List Val) (o : Nat) : ({ s with vals := vs } : State).cell o = s.cell o := rfl
@[simp ↓] theorem tableOf_withVals (s : State) (vs : List Val) (o : Nat) : ({ s with vals := vs } : State).tableOf o = s.tableOf o := rfl
@[simp ↓] theorem tbl_withVals (s : State) (vs : List Val) (o : Nat) : ({ s with vals := vs } : State).tbl o = s.tbl o := rfl
@[simp ↓] theorem isLive_withVals (s : State) (vs : List Val) (o : Nat) : ({ s with vals := vs } : State).isLive o = s.isLive o := rfl
@[simp ↓] theorem strongOf_withVals (s : State) (vs : List Val) (o : Nat) : ({ s with vals := vs } : State).strongOf o = s.strongOf o := rfl
@[simp ↓] theorem heldOf_withVals (s : State) (vs : List Val) (o : Nat) : ({ s with vals := vs } : State).heldOf o = s.heldOf o := rfl
@[simp ↓] theorem weaksOf_withVals (s : State) (vs : List Val) (o : Nat) : ({ s with vals := vs } : State).weaksOf o = s.weaksOf o := rfl
@[simp ↓] theorem H_withVals (s : State) (vs : List Val) (x y : Nat) : ({ s with vals := vs } : State).H x y = s.H x y := rfl
@[simp ↓] theorem F_withVals (s : State) (vs : List Val) (x y : Nat) : ({ s with vals := vs } : State).F x y = s.F x y := rfl
@[simp ↓] theorem B_withVals (s : State) (vs : List Val) (x y : Nat) : ({ s with vals := vs } : State).B x y = s.B x y := rfl
@[simp ↓] theorem pend_withVals (s : State) (vs : List Val) (o : Nat) : ({ s with vals := vs } : State).pend o = s.pend o := rfl
@[simp ↓] theorem pendW_withVals (s : State) (vs : List Val) (o : Nat) : ({ s with vals := vs } : State).pendW o = s.pendW o := rfl
@[simp ↓] theorem owed_withVals (s : State) (vs : List Val) (o : Nat) : ({ s with vals := vs } : State).owed o = s.owed o := rfl
@[simp ↓] theorem inHeap_withVals (s : State) (vs : List Val) (o : Nat) : ({ s with vals := vs } : State).inHeap o = s.inHeap o := rfl
@[simp ↓] theorem inHeapW_withVals (s : State) (vs : List Val) (o : Nat) : ({ s with vals := vs } : State).inHeapW o = s.inHeapW o := rfl
@[simp ↓] theorem strongNat_withVals (s : State) (vs : List Val) (o : Nat) : ({ s with vals := vs } : State).strongNat o = s.strongNat o := rfl
@[simp ↓] theorem weakNat_withVals (s : State) (vs : List Val) (o : Nat) : ({ s with vals := vs } : State).weakNat o = s.weakNat o := rfl
@[simp ↓] theorem implicitNat_withVals (s : State) (vs : List Val) (o : Nat) : ({ s with vals := vs } : State).implicitNat o = s.implicitNat o := rfl

/-! ### B. untouched by `withRaws` -/

@[simp ↓] theorem cell_withRaws (s : State) (r : List Nat) (o : Nat) : ({ s with raws := r } : State).cell o = s.cell o := rfl
@[simp ↓] theorem tableOf_withRaws (s : State) (r : List Nat) (o : Nat) : ({ s with raws := r } : State).tableOf o = s.tableOf o := rfl
@[simp ↓] theorem tbl_withRaws (s : State) (r : List Nat) (o : Nat) : ({ s with raws := r } : State).tbl o = s.tbl o := rfl
@[simp ↓] theorem isLive_withRaws (s : State) (r : List Nat) (o : Nat) : ({ s with raws := r } : State).isLive o = s.isLive o := rfl
@[simp ↓] theorem strongOf_withRaws (s : State) (r : List Nat) (o : Nat) : ({ s with raws := r } : State).strongOf o = s.strongOf o := rfl
@[simp ↓] theorem heldOf_withRaws (s : State) (r : List Nat) (o : Nat) : ({ s with raws := r } : State).heldOf o = s.heldOf o := rfl
@[simp ↓] theorem weaksOf_withRaws (s : State) (r : List Nat) (o : Nat) : ({ s with raws := r } : State).weaksOf o = s.weaksOf o := rfl
@[simp ↓] theorem H_withRaws (s : State) (r : List Nat) (x y : Nat) : ({ s with raws := r } : State).H x y = s.H x y := rfl
@[simp ↓] theorem F_withRaws (s : State) (r : List Nat) (x y : Nat) : ({ s with raws := r } : State).F x y = s.F x y := rfl
@[simp ↓] theorem B_withRaws (s : State) (r : List Nat) (x y : Nat) : ({ s with raws := r } : State).B x y = s.B x y := rfl
@[simp ↓] theorem extW_withRaws (s : State) (r : List Nat) (o : Nat) : ({ s with raws := r } : State).extW o = s.extW o := rfl
@[simp ↓] theorem pend_withRaws (s : State) (r : List Nat) (o : Nat) : ({ s with raws := r } : State).pend o = s.pend o := rfl
@[simp ↓] theorem pendW_withRaws (s : State) (r : List Nat) (o : Nat) : ({ s with raws := r } : State).pendW o = s.pendW o := rfl
@[simp ↓] theorem owed_withRaws (s : State) (r : List Nat) (o : Nat) : ({ s with raws := r } : State).owed o = s.owed o := rfl
@[simp ↓] theorem inHeap_withRaws (s : State) (r : List Nat) (o : Nat) : ({ s with raws := r } : State).inHeap o = s.inHeap o := rfl
@[simp ↓] theorem inHeapW_withRaws (s : State) (r : List Nat) (o : Nat) : ({ s with raws := r } : State).inHeapW o = s.inHeapW o := rfl
@[simp ↓] theorem strongNat_withRaws (s : State) (r : List Nat) (o : Nat) : ({ s with raws := r } : State).strongNat o = s.strongNat o := rfl
@[simp ↓] theorem weakNat_withRaws (s : State) (r : List Nat) (o : Nat) : ({ s with raws := r } : State).weakNat o = s.weakNat o := rfl
@[simp ↓] theorem implicitNat_withRaws (s : State) (r : List Nat) (o : Nat) : ({ s with raws := r } : State).implicitNat o = s.implicitNat o := rfl

/-! ### B. untouched by `withHint` -/

@[simp ↓] theorem cell_withHint (s : State) (h : List Nat) (o : Nat) : ({ s with hint := h } : State).cell o = s.cell o := rfl
@[simp ↓] theorem tableOf_withHint (s : State) (h : List Nat) (o : Nat) : ({ s with hint := h } : State).tableOf o = s.tableOf o := rfl
@[simp ↓] theorem tbl_withHint (s : State) (h : List Nat) (o : Nat) : ({ s with hint := h } : State).tbl o = s.tbl o := rfl
@[simp ↓] theorem isLive_withHint (s : State) (h : List Nat) (o : Nat) : ({ s with hint := h } : State).isLive o = s.isLive o := rfl
@[simp ↓] theorem strongOf_withHint (s : State) (h : List Nat) (o : Nat) : ({ s with hint := h } : State).strongOf o = s.strongOf o := rfl
@[simp ↓] theorem heldOf_withHint (s : State) (h : List Nat) (o : Nat) : ({ s with hint := h } : State).heldOf o = s.heldOf o := rfl
@[simp ↓] theorem weaksOf_withHint (s : State) (h : List Nat) (o : Nat) : ({ s with hint := h } : State).weaksOf o = s.weaksOf o := rfl
@[simp ↓] theorem H_withHint (s : State) (h : List Nat) (x y : Nat) : ({ s with hint := h } : State).H x y = s.H x y := rfl
@[simp ↓] theorem F_withHint (s : State) (h : List Nat) (x y : Nat) : ({ s with hint := h } : State).F x y = s.F x y := rfl
@[simp ↓] theorem B_withHint (s : State) (h : List Nat) (x y : Nat) : ({ s with hint := h } : State).B x y = s.B x y := rfl
@[simp ↓] theorem ext_withHint (s : State) (h : List Nat) (o : Nat) : ({ s with hint := h } : State).ext o = s.ext o := rfl
@[simp ↓] theorem extW_withHint (s : State) (h : List Nat) (o : Nat) : ({ s with hint := h } : State).extW o = s.extW o := rfl
@[simp ↓] theorem pend_withHint (s : State) (h : List Nat) (o : Nat) : ({ s with hint := h } : State).pend o = s.pend o := rfl
@[simp ↓] theorem pendW_withHint (s : State) (h : List Nat) (o : Nat) : ({ s with hint := h } : State).pendW o = s.pendW o := rfl
@[simp ↓] theorem owed_withHint (s : State) (h : List Nat) (o : Nat) : ({ s with hint := h } : State).owed o = s.owed o := rfl
@[simp ↓] theorem inHeap_withHint (s : State) (h : List Nat) (o : Nat) : ({ s with hint := h } : State).inHeap o = s.inHeap o := rfl
@[simp ↓] theorem inHeapW_withHint (s : State) (h : List Nat) (o : Nat) : ({ s with hint := h } : State).inHeapW o = s.inHeapW o := rfl
@[simp ↓] theorem strongNat_withHint (s : State) (h : List Nat) (o : Nat) : ({ s with hint := h } : State).strongNat o = s.strongNat o := rfl
@[simp ↓] theorem weakNat_withHint (s : State) (h : List Nat) (o : Nat) : ({ s with hint := h } : State).weakNat o = s.weakNat o := rfl
@[simp ↓] theorem implicitNat_withHint (s : State) (h : List Nat) (o : Nat) : ({ s with hint := h } : State).implicitNat o = s.implicitNat o := rfl

/-! ### B. untouched by `withUnwinding` -/

@[simp ↓] theorem cell_withUnwinding (s : State) (b : Bool) (o : Nat) : ({ s with unwinding := b } : State).cell o = s.cell o := rfl
@[simp ↓] theorem tableOf_withUnwinding (s : State) (b : Bool) (o : Nat) : ({ s with unwinding := b } : State).tableOf o = s.tableOf o := rfl
@[simp ↓] theorem tbl_withUnwinding (s : State) (b : Bool) (o : Nat) : ({ s with unwinding := b } : State).tbl o = s.tbl o := rfl
@[simp ↓] theorem isLive_withUnwinding (s : State) (b : Bool) (o : Nat) : ({ s with unwinding := b } : State).isLive o = s.isLive o := rfl
@[simp ↓] theorem strongOf_withUnwinding (s : State) (b : Bool) (o : Nat) : ({ s with unwinding := b } : State).strongOf o = s.strongOf o := rfl
@[simp ↓] theorem heldOf_withUnwinding (s : State) (b : Bool) (o : Nat) : ({ s with unwinding := b } : State).heldOf o = s.heldOf o := rfl
@[simp ↓] theorem weaksOf_withUnwinding (s : State) (b : Bool) (o : Nat) : ({ s with unwinding := b } : State).weaksOf o = s.weaksOf o := rfl
@[simp ↓] theorem H_withUnwinding (s : State) (b : Bool) (x y : Nat) : ({ s with unwinding := b } : State).H x y = s.H x y := rfl
@[simp ↓] theorem F_withUnwinding (s : State) (b : Bool) (x y : Nat) : ({ s with unwinding := b } : State).F x y = s.F x y := rfl
@[simp ↓] theorem B_withUnwinding (s : State) (b : Bool) (x y : Nat) : ({ s with unwinding := b } : State).B x y = s.B x y := rfl
@[simp ↓] theorem ext_withUnwinding (s : State) (b : Bool) (o : Nat) : ({ s with unwinding := b } : State).ext o = s.ext o := rfl
@[simp ↓] theorem extW_withUnwinding (s : State) (b : Bool) (o : Nat) : ({ s with unwinding := b } : State).extW o = s.extW o := rfl
@[simp ↓] theorem pend_withUnwinding (s : State) (b : Bool) (o : Nat) : ({ s with unwinding := b } : State).pend o = s.pend o := rfl
@[simp ↓] theorem pendW_withUnwinding (s : State) (b : Bool) (o : Nat) : ({ s with unwinding := b } : State).pendW o = s.pendW o := rfl
@[simp ↓] theorem owed_withUnwinding (s : State) (b : Bool) (o : Nat) : ({ s with unwinding := b } : State).owed o = s.owed o := rfl
@[simp ↓] theorem inHeap_withUnwinding (s : State) (b : Bool) (o : Nat) : ({ s with unwinding := b } : State).inHeap o = s.inHeap o := rfl
@[simp ↓] theorem inHeapW_withUnwinding (s : State) (b : Bool) (o : Nat) : ({ s with unwinding := b } : State).inHeapW o = s.inHeapW o := rfl
@[simp ↓] theorem strongNat_withUnwinding (s : State) (b : Bool) (o : Nat) : ({ s with unwinding := b } : State).strongNat o = s.strongNat o := rfl
@[simp ↓] theorem weakNat_withUnwinding (s : State) (b : Bool) (o : Nat) : ({ s with unwinding := b } : State).weakNat o = s.weakNat o := rfl
@[simp ↓] theorem implicitNat_withUnwinding (s : State) (b : Bool) (o : Nat) : ({ s with unwinding := b } : State).implicitNat o = s.implicitNat o := rfl

/-! ### B. untouched by `withNextVid` -/

@[simp ↓] theorem cell_withNextVid (s : State) (n : Nat) (o : Nat) : ({ s with nextVid := n } : State).cell o = s.cell o := rfl
@[simp ↓] theorem tableOf_withNextVid (s : State) (n : Nat) (o : Nat) : ({ s with nextVid := n } : State).tableOf o = s.tableOf o := rfl
@[simp ↓] theorem tbl_withNextVid (s : State) (n : Nat) (o : Nat) : ({ s with nextVid := n } : State).tbl o = s.tbl o := rfl
@[simp ↓] theorem isLive_withNextVid (s : State) (n : Nat) (o : Nat) : ({ s with nextVid := n } : State).isLive o = s.isLive o := rfl
@[simp ↓] theorem strongOf_withNextVid (s : State) (n : Nat) (o : Nat) : ({ s with nextVid := n } : State).strongOf o = s.strongOf o := rfl
@[simp ↓] theorem heldOf_withNextVid (s : State) (n : Nat) (o : Nat) : ({ s with nextVid := n } : State).heldOf o = s.heldOf o := rfl
@[simp ↓] theorem weaksOf_withNextVid (s : State) (n : Nat) (o : Nat) : ({ s with nextVid := n } : State).weaksOf o = s.weaksOf o := rfl
@[simp ↓] theorem H_withNextVid (s : State) (n : Nat) (x y : Nat) : ({ s with nextVid := n } : State).H x y = s.H x y := rfl
@[simp ↓] theorem F_withNextVid (s : State) (n : Nat) (x y : Nat) : ({ s with nextVid := n } : State).F x y = s.F x y := rfl
@[simp ↓] theorem B_withNextVid (s : State) (n : Nat) (x y : Nat) : ({ s with nextVid := n } : State).B x y = s.B x y := rfl
@[simp ↓] theorem ext_withNextVid (s : State) (n : Nat) (o : Nat) : ({ s with nextVid := n } : State).ext o = s.ext o := rfl
@[simp ↓] theorem extW_withNextVid (s : State) (n : Nat) (o : Nat) : ({ s with nextVid := n } : State).extW o = s.extW o := rfl
@[simp ↓] theorem pend_withNextVid (s : State) (n : Nat) (o : Nat) : ({ s with nextVid := n } : State).pend o = s.pend o := rfl
@[simp ↓] theorem pendW_withNextVid (s : State) (n : Nat) (o : Nat) : ({ s with nextVid := n } : State).pendW o = s.pendW o := rfl
@[simp ↓] theorem owed_withNextVid (s : State) (n : Nat) (o : Nat) : ({ s with nextVid := n } : State).owed o = s.owed o := rfl
@[simp ↓] theorem inHeap_withNextVid (s : State) (n : Nat) (o : Nat) : ({ s with nextVid := n } : State).inHeap o = s.inHeap o := rfl
@[simp ↓] theorem inHeapW_withNextVid (s : State) (n : Nat) (o : Nat) : ({ s with nextVid := n } : State).inHeapW o = s.inHeapW o := rfl
@[simp ↓] theorem strongNat_withNextVid (s : State) (n : Nat) (o : Nat) : ({ s with nextVid := n } : State).strongNat o = s.strongNat o := rfl
@[simp ↓] theorem weakNat_withNextVid (s : State) (n : Nat) (o : Nat) : ({ s with nextVid := n } : State).weakNat o = s.weakNat o := rfl
@[simp ↓] theorem implicitNat_withNextVid (s : State) (n : Nat) (o : Nat) : ({ s with nextVid := n } : State).implicitNat o = s.implicitNat o := rfl

/-! ### B. untouched by `withRootsNextVid` -/

@[simp ↓] theorem cell_withRootsNextVid (s : State) (r : List Nat) (n : Nat) (o : Nat) : ({ s with roots := r, nextVid := n } : State).cell o = s.cell o := rfl
@[simp ↓] theorem tableOf_withRootsNextVid (s : State) (r : List Nat) (n : Nat) (o : Nat) : ({ s with roots := r, nextVid := n } : State).tableOf o = s.tableOf o := rfl
@[simp ↓] theorem tbl_withRootsNextVid (s : State) (r : List Nat) (n : Nat) (o : Nat) : ({ s with roots := r, nextVid := n } : State).tbl o = s.tbl o := rfl
@[simp ↓] theorem isLive_withRootsNextVid (s : State) (r : List Nat) (n : Nat) (o : Nat) : ({ s with roots := r, nextVid := n } : State).isLive o = s.isLive o := rfl
@[simp ↓] theorem strongOf_withRootsNextVid (s : State) (r : List Nat) (n : Nat) (o : Nat) : ({ s with roots := r, nextVid := n } : State).strongOf o = s.strongOf o := rfl
@[simp ↓] theorem heldOf_withRootsNextVid (s : State) (r : List Nat) (n : Nat) (o : Nat) : ({ s with roots := r, nextVid := n } : State).heldOf o = s.heldOf o := rfl
@[simp ↓] theorem weaksOf_withRootsNextVid (s : State) (r : List Nat) (n : Nat) (o : Nat) : ({ s with roots := r, nextVid := n } : State).weaksOf o = s.weaksOf o := rfl
@[simp ↓] theorem H_withRootsNextVid (s : State) (r : List Nat) (n : Nat) (x y : Nat) : ({ s with roots := r, nextVid := n } : State).H x y = s.H x y := rfl
@[simp ↓] theorem F_withRootsNextVid (s : State) (r : List Nat) (n : Nat) (x y : Nat) : ({ s with roots := r, nextVid := n } : State).F x y = s.F x y := rfl
@[simp ↓] theorem B_withRootsNextVid (s : State) (r : List Nat) (n : Nat) (x y : Nat) : ({ s with roots := r, nextVid := n } : State).B x y = s.B x y := rfl
@[simp ↓] theorem extW_withRootsNextVid (s : State) (r : List Nat) (n : Nat) (o : Nat) : ({ s with roots := r, nextVid := n } : State).extW o = s.extW o := rfl
@[simp ↓] theorem pend_withRootsNextVid (s : State) (r : List Nat) (n : Nat) (o : Nat) : ({ s with roots := r, nextVid := n } : State).pend o = s.pend o := rfl
@[simp ↓] theorem pendW_withRootsNextVid (s : State) (r : List Nat) (n : Nat) (o : Nat) : ({ s with roots := r, nextVid := n } : State).pendW o = s.pendW o := rfl
@[simp ↓] theorem owed_withRootsNextVid (s : State) (r : List Nat) (n : Nat) (o : Nat) : ({ s with roots := r, nextVid := n } : State).owed o = s.owed o := rfl
@[simp ↓] theorem inHeap_withRootsNextVid (s : State) (r : List Nat) (n : Nat) (o : Nat) : ({ s with roots := r, nextVid := n } : State).inHeap o = s.inHeap o := rfl
@[simp ↓] theorem inHeapW_withRootsNextVid (s : State) (r : List Nat) (n : Nat) (o : Nat) : ({ s with roots := r, nextVid := n } : State).inHeapW o = s.inHeapW o := rfl
@[simp ↓] theorem strongNat_withRootsNextVid (s : State) (r : List Nat) (n : Nat) (o : Nat) : ({ s with roots := r, nextVid := n } : State).strongNat o = s.strongNat o := rfl
@[simp ↓] theorem weakNat_withRootsNextVid (s : State) (r : List Nat) (n : Nat) (o : Nat) : ({ s with roots := r, nextVid := n } : State).weakNat o = s.weakNat o := rfl
@[simp ↓] theorem implicitNat_withRootsNextVid (s : State) (r : List Nat) (n : Nat) (o : Nat) : ({ s with roots := r, nextVid := n } : State).implicitNat o = s.implicitNat o := rfl

/-! ### B. untouched by `withRootsVals` -/

@[simp ↓] theorem cell_withRootsVals (s : State) (r : List Nat) (vs : List Val) (o : Nat) : ({ s with roots := r, vals := vs } : State).cell o = s.cell o := rfl
@[simp ↓] theorem tableOf_withRootsVals (s : State) (r : List Nat) (vs : List Val) (o : Nat) : ({ s with roots := r, vals := vs } : State).tableOf o = s.tableOf o := rfl
@[simp ↓] theorem tbl_withRootsVals (s : State) (r : List Nat) (vs : List Val) (o : Nat) : ({ s with roots := r, vals := vs } : State).tbl o = s.tbl o := rfl
@[simp ↓] theorem isLive_withRootsVals (s : State) (r : List Nat) (vs : List Val) (o : Nat) : ({ s with roots := r, vals := vs } : State).isLive o = s.isLive o := rfl
@[simp ↓] theorem strongOf_withRootsVals (s : State) (r : List Nat) (vs : List Val) (o : Nat) : ({ s with roots := r, vals := vs } : State).strongOf o = s.strongOf o := rfl
@[simp ↓] theorem heldOf_withRootsVals (s : State) (r : List Nat) (vs : List Val) (o : Nat) : ({ s with roots := r, vals := vs } : State).heldOf o = s.heldOf o := rfl
@[simp ↓] theorem weaksOf_withRootsVals (s : State) (r : List Nat) (vs : List Val) (o : Nat) : ({ s with roots := r, vals := vs } : State).weaksOf o = s.weaksOf o := rfl
@[simp ↓] theorem H_withRootsVals (s : State) (r : List Nat) (vs : List Val) (x y : Nat) : ({ s with roots := r, vals := vs } : State).H x y = s.H x y := rfl
@[simp ↓] theorem F_withRootsVals (s : State) (r : List Nat) (vs : List Val) (x y : Nat) : ({ s with roots := r, vals := vs } : State).F x y = s.F x y := rfl
@[simp ↓] theorem B_withRootsVals (s : State) (r : List Nat) (vs : List Val) (x y : Nat) : ({ s with roots := r, vals := vs } : State).B x y = s.B x y := rfl
@[simp ↓] theorem pend_withRootsVals (s : State) (r : List Nat) (vs : List Val) (o : Nat) : ({ s with roots := r, vals := vs } : State).pend o = s.pend o := rfl
@[simp ↓] theorem pendW_withRootsVals (s : State) (r : List Nat) (vs : List Val) (o : Nat) : ({ s with roots := r, vals := vs } : State).pendW o = s.pendW o := rfl
@[simp ↓] theorem owed_withRootsVals (s : State) (r : List Nat) (vs : List Val) (o : Nat) : ({ s with roots := r, vals := vs } : State).owed o = s.owed o := rfl
@[simp ↓] theorem inHeap_withRootsVals (s : State) (r : List Nat) (vs : List Val) (o : Nat) : ({ s with roots := r, vals := vs } : State).inHeap o = s.inHeap o := rfl
@[simp ↓] theorem inHeapW_withRootsVals (s : State) (r : List Nat) (vs : List Val) (o : Nat) : ({ s with roots := r, vals := vs } : State).inHeapW o = s.inHeapW o := rfl
@[simp ↓] theorem strongNat_withRootsVals (s : State) (r : List Nat) (vs : List Val) (o : Nat) : ({ s with roots := r, vals := vs } : State).strongNat o = s.strongNat o := rfl
@[simp ↓] theorem weakNat_withRootsVals (s : State) (r : List Nat) (vs : List Val) (o : Nat) : ({ s with roots := r, vals := vs } : State).weakNat o = s.weakNat o := rfl
@[simp ↓] theorem implicitNat_withRootsVals (s : State) (r : List Nat) (vs : List Val) (o : Nat) : ({ s with roots := r, vals := vs } : State).implicitNat o = s.implicitNat o := rfl

/-! ### B. untouched by `withRootsRaws` -/

@[simp ↓] theorem cell_withRootsRaws (s : State) (r r' : List Nat) (o : Nat) : ({ s with roots := r, raws := r' } : State).cell o = s.cell o := rfl
@[simp ↓] theorem tableOf_withRootsRaws (s : State) (r r' : List Nat) (o : Nat) : ({ s with roots := r, raws := r' } : State).tableOf o = s.tableOf o := rfl
@[simp ↓] theorem tbl_withRootsRaws (s : State) (r r' : List Nat) (o : Nat) : ({ s with roots := r, raws := r' } : State).tbl o = s.tbl o := rfl
@[simp ↓] theorem isLive_withRootsRaws (s : State) (r r' : List Nat) (o : Nat) : ({ s with roots := r, raws := r' } : State).isLive o = s.isLive o := rfl
@[simp ↓] theorem strongOf_withRootsRaws (s : State) (r r' : List Nat) (o : Nat) : ({ s with roots := r, raws := r' } : State).strongOf o = s.strongOf o := rfl
@[simp ↓] theorem heldOf_withRootsRaws (s : State) (r r' : List Nat) (o : Nat) : ({ s with roots := r, raws := r' } : State).heldOf o = s.heldOf o := rfl
@[simp ↓] theorem weaksOf_withRootsRaws (s : State) (r r' : List Nat) (o : Nat) : ({ s with roots := r, raws := r' } : State).weaksOf o = s.weaksOf o := rfl
@[simp ↓] theorem H_withRootsRaws (s : State) (r r' : List Nat) (x y : Nat) : ({ s with roots := r, raws := r' } : State).H x y = s.H x y := rfl
@[simp ↓] theorem F_withRootsRaws (s : State) (r r' : List Nat) (x y : Nat) : ({ s with roots := r, raws := r' } : State).F x y = s.F x y := rfl
@[simp ↓] theorem B_withRootsRaws (s : State) (r r' : List Nat) (x y : Nat) : ({ s with roots := r, raws := r' } : State).B x y = s.B x y := rfl
@[simp ↓] theorem extW_withRootsRaws (s : State) (r r' : List Nat) (o : Nat) : ({ s with roots := r, raws := r' } : State).extW o = s.extW o := rfl
@[simp ↓] theorem pend_withRootsRaws (s : State) (r r' : List Nat) (o : Nat) : ({ s with roots := r, raws := r' } : State).pend o = s.pend o := rfl
@[simp ↓] theorem pendW_withRootsRaws (s : State) (r r' : List Nat) (o : Nat) : ({ s with roots := r, raws := r' } : State).pendW o = s.pendW o := rfl
@[simp ↓] theorem owed_withRootsRaws (s : State) (r r' : List Nat) (o : Nat) : ({ s with roots := r, raws := r' } : State).owed o = s.owed o := rfl
@[simp ↓] theorem inHeap_withRootsRaws (s : State) (r r' : List Nat) (o : Nat) : ({ s with roots := r, raws := r' } : State).inHeap o = s.inHeap o := rfl
@[simp ↓] theorem inHeapW_withRootsRaws (s : State) (r r' : List Nat) (o : Nat) : ({ s with roots := r, raws := r' } : State).inHeapW o = s.inHeapW o := rfl
@[simp ↓] theorem strongNat_withRootsRaws (s : State) (r r' : List Nat) (o : Nat) : ({ s with roots := r, raws := r' } : State).strongNat o = s.strongNat o := rfl
@[simp ↓] theorem weakNat_withRootsRaws (s : State) (r r' : List Nat) (o : Nat) : ({ s with roots := r, raws := r' } : State).weakNat o = s.weakNat o := rfl
@[simp ↓] theorem implicitNat_withRootsRaws (s : State) (r r' : List Nat) (o : Nat) : ({ s with roots := r, raws := r' } : State).implicitNat o = s.implicitNat o := rfl

/-! ### B. untouched by `withUnwindingStack` -/

@[simp ↓] theorem cell_withUnwindingStack (s : State) (b : Bool) (st : List Frame) (o : Nat) : ({ s with unwinding := b, stack := st } : State).cell o = s.cell o := rfl
@[simp ↓] theorem tableOf_withUnwindingStack (s : State) (b : Bool) (st : List Frame) (o : Nat) : ({ s with unwinding := b, stack := st } : State).tableOf o = s.tableOf o := rfl
@[simp ↓] theorem tbl_withUnwindingStack (s : State) (b : Bool) (st : List Frame) (o : Nat) : ({ s with unwinding := b, stack := st } : State).tbl o = s.tbl o := rfl
@[simp ↓] theorem isLive_withUnwindingStack (s : State) (b : Bool) (st : List Frame) (o : Nat) : ({ s with unwinding := b, stack := st } : State).isLive o = s.isLive o := rfl
@[simp ↓] theorem strongOf_withUnwindingStack (s : State) (b : Bool) (st : List Frame) (o : Nat) : ({ s with unwinding := b, stack := st } : State).strongOf o = s.strongOf o := rfl
@[simp ↓] theorem heldOf_withUnwindingStack (s : State) (b : Bool) (st : List Frame) (o : Nat) : ({ s with unwinding := b, stack := st } : State).heldOf o = s.heldOf o := rfl
@[simp ↓] theorem weaksOf_withUnwindingStack (s : State) (b : Bool) (st : List Frame) (o : Nat) : ({ s with unwinding := b, stack := st } : State).weaksOf o = s.weaksOf o := rfl
@[simp ↓] theorem H_withUnwindingStack (s : State) (b : Bool) (st : List Frame) (x y : Nat) : ({ s with unwinding := b, stack := st } : State).H x y = s.H x y := rfl
@[simp ↓] theorem F_withUnwindingStack (s : State) (b : Bool) (st : List Frame) (x y : Nat) : ({ s with unwinding := b, stack := st } : State).F x y = s.F x y := rfl
@[simp ↓] theorem B_withUnwindingStack (s : State) (b : Bool) (st : List Frame) (x y : Nat) : ({ s with unwinding := b, stack := st } : State).B x y = s.B x y := rfl
@[simp ↓] theorem ext_withUnwindingStack (s : State) (b : Bool) (st : List Frame) (o : Nat) : ({ s with unwinding := b, stack := st } : State).ext o = s.ext o := rfl
@[simp ↓] theorem extW_withUnwindingStack (s : State) (b : Bool) (st : List Frame) (o : Nat) : ({ s with unwinding := b, stack := st } : State).extW o = s.extW o := rfl
@[simp ↓] theorem inHeap_withUnwindingStack (s : State) (b : Bool) (st : List Frame) (o : Nat) : ({ s with unwinding := b, stack := st } : State).inHeap o = s.inHeap o := rfl
@[simp ↓] theorem inHeapW_withUnwindingStack (s : State) (b : Bool) (st : List Frame) (o : Nat) : ({ s with unwinding := b, stack := st } : State).inHeapW o = s.inHeapW o := rfl
@[simp ↓] theorem strongNat_withUnwindingStack (s : State) (b : Bool) (st : List Frame) (o : Nat) : ({ s with unwinding := b, stack := st } : State).strongNat o = s.strongNat o := rfl
@[simp ↓] theorem weakNat_withUnwindingStack (s : State) (b : Bool) (st : List Frame) (o : Nat) : ({ s with unwinding := b, stack := st } : State).weakNat o = s.weakNat o := rfl
@[simp ↓] theorem implicitNat_withUnwindingStack (s : State) (b : Bool) (st : List Frame) (o : Nat) : ({ s with unwinding := b, stack := st } : State).implicitNat o = s.implicitNat o := rfl

/-! ### B. untouched by `setObj` -/

@[simp] theorem ext_setObj (s : State) (a : Nat) (ob : Obj) (o : Nat) : (s.setObj a ob).ext o = s.ext o := rfl
@[simp] theorem extW_setObj (s : State) (a : Nat) (ob : Obj) (o : Nat) : (s.setObj a ob).extW o = s.extW o := rfl
@[simp] theorem pend_setObj (s : State) (a : Nat) (ob : Obj) (o : Nat) : (s.setObj a ob).pend o = s.pend o := rfl
@[simp] theorem pendW_setObj (s : State) (a : Nat) (ob : Obj) (o : Nat) : (s.setObj a ob).pendW o = s.pendW o := rfl
@[simp] theorem owed_setObj (s : State) (a : Nat) (ob : Obj) (o : Nat) : (s.setObj a ob).owed o = s.owed o := rfl

/-! ### B. untouched by `alloc` -/

@[simp] theorem ext_alloc (s : State) (v : Val) (o : Nat) : (s.alloc v).ext o = s.ext o := rfl
@[simp] theorem extW_alloc (s : State) (v : Val) (o : Nat) : (s.alloc v).extW o = s.extW o := rfl
@[simp] theorem pend_alloc (s : State) (v : Val) (o : Nat) : (s.alloc v).pend o = s.pend o := rfl
@[simp] theorem pendW_alloc (s : State) (v : Val) (o : Nat) : (s.alloc v).pendW o = s.pendW o := rfl
@[simp] theorem owed_alloc (s : State) (v : Val) (o : Nat) : (s.alloc v).owed o = s.owed o := rfl

end State

/-! ## C. Stack changes -/

/-! ### the three frame weights on constructors -/

@[simp] theorem Frame.strongTo_rcDrop (o : Nat) (t : Nat) : Frame.strongTo o (.rcDrop t) = if t = o then 1 else 0 := rfl
@[simp] theorem Frame.strongTo_weakDrop (o : Nat) (t : Nat) : Frame.strongTo o (.weakDrop t) = 0 := rfl
@[simp] theorem Frame.strongTo_dropVal (o : Nat) (v : Val) : Frame.strongTo o (.dropVal v) = v.held.count o := rfl
@[simp] theorem Frame.strongTo_script (o : Nat) (h w : List Nat) (as : List Act) : Frame.strongTo o (.script h w as) = 0 := rfl
@[simp] theorem Frame.strongTo_panic (o : Nat) : Frame.strongTo o .panic = 0 := rfl
@[simp] theorem Frame.strongTo_dropFields (o : Nat) (h w : List Nat) : Frame.strongTo o (.dropFields h w) = h.count o := rfl
@[simp] theorem Frame.strongTo_finishSingle (o : Nat) (t : Nat) : Frame.strongTo o (.finishSingle t) = 0 := rfl
@[simp] theorem Frame.strongTo_phase3 (o : Nat) (ks : List Nat) : Frame.strongTo o (.phase3 ks) = 0 := rfl
@[simp] theorem Frame.weakTo_rcDrop (o : Nat) (t : Nat) : Frame.weakTo o (.rcDrop t) = 0 := rfl
@[simp] theorem Frame.weakTo_weakDrop (o : Nat) (t : Nat) : Frame.weakTo o (.weakDrop t) = if t = o then 1 else 0 := rfl
@[simp] theorem Frame.weakTo_dropVal (o : Nat) (v : Val) : Frame.weakTo o (.dropVal v) = v.weaks.count o := rfl
@[simp] theorem Frame.weakTo_script (o : Nat) (h w : List Nat) (as : List Act) : Frame.weakTo o (.script h w as) = 0 := rfl
@[simp] theorem Frame.weakTo_panic (o : Nat) : Frame.weakTo o .panic = 0 := rfl
@[simp] theorem Frame.weakTo_dropFields (o : Nat) (h w : List Nat) : Frame.weakTo o (.dropFields h w) = w.count o := rfl
@[simp] theorem Frame.weakTo_finishSingle (o : Nat) (t : Nat) : Frame.weakTo o (.finishSingle t) = 0 := rfl
@[simp] theorem Frame.weakTo_phase3 (o : Nat) (ks : List Nat) : Frame.weakTo o (.phase3 ks) = 0 := rfl
@[simp] theorem Frame.owes_rcDrop (o : Nat) (t : Nat) : Frame.owes o (.rcDrop t) = 0 := rfl
@[simp] theorem Frame.owes_weakDrop (o : Nat) (t : Nat) : Frame.owes o (.weakDrop t) = 0 := rfl
@[simp] theorem Frame.owes_dropVal (o : Nat) (v : Val) : Frame.owes o (.dropVal v) = 0 := rfl
@[simp] theorem Frame.owes_script (o : Nat) (h w : List Nat) (as : List Act) : Frame.owes o (.script h w as) = 0 := rfl
@[simp] theorem Frame.owes_panic (o : Nat) : Frame.owes o .panic = 0 := rfl
@[simp] theorem Frame.owes_dropFields (o : Nat) (h w : List Nat) : Frame.owes o (.dropFields h w) = 0 := rfl
@[simp] theorem Frame.owes_finishSingle (o : Nat) (t : Nat) : Frame.owes o (.finishSingle t) = if t = o then 1 else 0 := rfl
@[simp] theorem Frame.owes_phase3 (o : Nat) (ks : List Nat) : Frame.owes o (.phase3 ks) = ks.count o := rfl

theorem Frame.strongTo_of_not_cleanup (o : Nat) (f : Frame) (h : f.isCleanup = false) :
    Frame.strongTo o f = 0 := by
  cases f <;> simp_all [Frame.isCleanup]

theorem Frame.weakTo_of_not_cleanup (o : Nat) (f : Frame) (h : f.isCleanup = false) :
    Frame.weakTo o f = 0 := by
  cases f <;> simp_all [Frame.isCleanup]

theorem Frame.owes_of_cleanup (o : Nat) (f : Frame) (h : f.isCleanup = true) :
    Frame.owes o f = 0 := by
  cases f <;> simp_all [Frame.isCleanup]

theorem Frame.owes_pos_iff (o : Nat) (f : Frame) :
    0 < Frame.owes o f ↔ f = .finishSingle o ∨ ∃ ks, f = .phase3 ks ∧ o ∈ ks := by
  cases f <;> simp [List.count_pos_iff]
  · rename_i t; by_cases h : t = o <;> simp [h]

namespace State

/-! ### list level -/

theorem sumList_strongTo_filter_cleanup (st : List Frame) (o : Nat) :
    sumList ((st.filter Frame.isCleanup).map (Frame.strongTo o)) = sumList (st.map (Frame.strongTo o)) :=
  sumList_map_filter st _ _ (fun f _ h => Frame.strongTo_of_not_cleanup o f h)

theorem sumList_weakTo_filter_cleanup (st : List Frame) (o : Nat) :
    sumList ((st.filter Frame.isCleanup).map (Frame.weakTo o)) = sumList (st.map (Frame.weakTo o)) :=
  sumList_map_filter st _ _ (fun f _ h => Frame.weakTo_of_not_cleanup o f h)

theorem sumList_owes_filter_cleanup (st : List Frame) (o : Nat) :
    sumList ((st.filter Frame.isCleanup).map (Frame.owes o)) = 0 := by
  rw [sumList_map_eq_zero_iff]
  intro f hf
  exact Frame.owes_of_cleanup o f (List.mem_filter.mp hf).2

/-! ### `push` -/

@[simp] theorem pend_push (s : State) (fs : List Frame) (o : Nat) :
    (s.push fs).pend o = sumList (fs.map (Frame.strongTo o)) + s.pend o := by
  simp [pend]
@[simp] theorem pendW_push (s : State) (fs : List Frame) (o : Nat) :
    (s.push fs).pendW o = sumList (fs.map (Frame.weakTo o)) + s.pendW o := by
  simp [pendW]
@[simp] theorem owed_push (s : State) (fs : List Frame) (o : Nat) :
    (s.push fs).owed o = sumList (fs.map (Frame.owes o)) + s.owed o := by
  simp [owed]

@[simp] theorem push_nil (s : State) : s.push [] = s := rfl
theorem push_push (s : State) (fs gs : List Frame) : (s.push fs).push gs = s.push (gs ++ fs) := by
  simp [push]

/-! ### replacing the stack -/

@[simp ↓] theorem pend_withStack (s : State) (st : List Frame) (o : Nat) :
    ({ s with stack := st } : State).pend o = sumList (st.map (Frame.strongTo o)) := rfl
@[simp ↓] theorem pendW_withStack (s : State) (st : List Frame) (o : Nat) :
    ({ s with stack := st } : State).pendW o = sumList (st.map (Frame.weakTo o)) := rfl
@[simp ↓] theorem owed_withStack (s : State) (st : List Frame) (o : Nat) :
    ({ s with stack := st } : State).owed o = sumList (st.map (Frame.owes o)) := rfl

@[simp ↓] theorem pend_withUnwindingStack (s : State) (b : Bool) (st : List Frame) (o : Nat) :
    ({ s with unwinding := b, stack := st } : State).pend o = sumList (st.map (Frame.strongTo o)) := rfl
@[simp ↓] theorem pendW_withUnwindingStack (s : State) (b : Bool) (st : List Frame) (o : Nat) :
    ({ s with unwinding := b, stack := st } : State).pendW o = sumList (st.map (Frame.weakTo o)) := rfl
@[simp ↓] theorem owed_withUnwindingStack (s : State) (b : Bool) (st : List Frame) (o : Nat) :
    ({ s with unwinding := b, stack := st } : State).owed o = sumList (st.map (Frame.owes o)) := rfl

theorem pend_withStack_cons (s : State) (f : Frame) (rest : List Frame) (o : Nat) :
    ({ s with stack := f :: rest } : State).pend o
      = Frame.strongTo o f + ({ s with stack := rest } : State).pend o := rfl
theorem pendW_withStack_cons (s : State) (f : Frame) (rest : List Frame) (o : Nat) :
    ({ s with stack := f :: rest } : State).pendW o
      = Frame.weakTo o f + ({ s with stack := rest } : State).pendW o := rfl
theorem owed_withStack_cons (s : State) (f : Frame) (rest : List Frame) (o : Nat) :
    ({ s with stack := f :: rest } : State).owed o
      = Frame.owes o f + ({ s with stack := rest } : State).owed o := rfl

theorem pend_of_stack_cons {s : State} {f : Frame} {rest : List Frame} (h : s.stack = f :: rest) (o : Nat) :
    s.pend o = Frame.strongTo o f + ({ s with stack := rest } : State).pend o := by
  simp [pend, h]
theorem pendW_of_stack_cons {s : State} {f : Frame} {rest : List Frame} (h : s.stack = f :: rest) (o : Nat) :
    s.pendW o = Frame.weakTo o f + ({ s with stack := rest } : State).pendW o := by
  simp [pendW, h]
theorem owed_of_stack_cons {s : State} {f : Frame} {rest : List Frame} (h : s.stack = f :: rest) (o : Nat) :
    s.owed o = Frame.owes o f + ({ s with stack := rest } : State).owed o := by
  simp [owed, h]

theorem pend_of_stack_nil {s : State} (h : s.stack = []) (o : Nat) : s.pend o = 0 := by simp [pend, h]
theorem pendW_of_stack_nil {s : State} (h : s.stack = []) (o : Nat) : s.pendW o = 0 := by simp [pendW, h]
theorem owed_of_stack_nil {s : State} (h : s.stack = []) (o : Nat) : s.owed o = 0 := by simp [owed, h]

theorem owes_le_owed {s : State} {f : Frame} (h : f ∈ s.stack) (o : Nat) : Frame.owes o f ≤ s.owed o :=
  le_sumList_map_of_mem _ h

theorem owed_pos_iff (s : State) (o : Nat) :
    0 < s.owed o ↔ Frame.finishSingle o ∈ s.stack ∨ ∃ ks, Frame.phase3 ks ∈ s.stack ∧ o ∈ ks := by
  unfold owed
  rw [sumList_map_pos_iff]
  constructor
  · rintro ⟨f, hf, hp⟩
    rcases (Frame.owes_pos_iff o f).mp hp with rfl | ⟨ks, rfl, hk⟩
    · exact Or.inl hf
    · exact Or.inr ⟨ks, hf, hk⟩
  · rintro (h | ⟨ks, h, hk⟩)
    · exact ⟨_, h, (Frame.owes_pos_iff o _).mpr (Or.inl rfl)⟩
    · exact ⟨_, h, (Frame.owes_pos_iff o _).mpr (Or.inr ⟨ks, rfl, hk⟩)⟩

/-! ### unwinding: `List.filter Frame.isCleanup` -/

theorem pend_filter_cleanup (s : State) (o : Nat) :
    ({ s with stack := s.stack.filter Frame.isCleanup } : State).pend o = s.pend o :=
  sumList_strongTo_filter_cleanup s.stack o
theorem pendW_filter_cleanup (s : State) (o : Nat) :
    ({ s with stack := s.stack.filter Frame.isCleanup } : State).pendW o = s.pendW o :=
  sumList_weakTo_filter_cleanup s.stack o
theorem owed_filter_cleanup (s : State) (o : Nat) :
    ({ s with stack := s.stack.filter Frame.isCleanup } : State).owed o = 0 :=
  sumList_owes_filter_cleanup s.stack o

@[simp] theorem pend_panic (s : State) (o : Nat) : s.panic.pend o = s.pend o := by
  unfold panic; split
  · simp
  · exact sumList_strongTo_filter_cleanup s.stack o
@[simp] theorem pendW_panic (s : State) (o : Nat) : s.panic.pendW o = s.pendW o := by
  unfold panic; split
  · simp
  · exact sumList_weakTo_filter_cleanup s.stack o
theorem owed_panic (s : State) (o : Nat) : s.panic.owed o = if s.unwinding then s.owed o else 0 := by
  unfold panic; split
  · simp
  · exact sumList_owes_filter_cleanup s.stack o
theorem owed_panic_le (s : State) (o : Nat) : s.panic.owed o ≤ s.owed o := by
  rw [owed_panic]; split <;> omega

/-! ### the frames pushed by `dropVal` and `dropFields` -/

theorem dropVal_eq (s : State) (v : Val) :
    s.dropVal v = (s.emit (.destroyed v.vid)).push
      ([.script v.held v.weaks v.script] ++ (if v.panics then [.panic] else []) ++ [.dropFields v.held v.weaks]) := rfl

@[simp] theorem pend_dropVal (s : State) (v : Val) (o : Nat) : (s.dropVal v).pend o = v.held.count o + s.pend o := by
  unfold dropVal; cases v.panics <;> simp
@[simp] theorem pendW_dropVal (s : State) (v : Val) (o : Nat) : (s.dropVal v).pendW o = v.weaks.count o + s.pendW o := by
  unfold dropVal; cases v.panics <;> simp
@[simp] theorem owed_dropVal (s : State) (v : Val) (o : Nat) : (s.dropVal v).owed o = s.owed o := by
  unfold dropVal; cases v.panics <;> simp

theorem dropFields_eq_push (s : State) (h w : List Nat) : ∃ fs, s.dropFields h w = s.push fs := by
  cases h with
  | cons a h => exact ⟨_, rfl⟩
  | nil =>
    cases w with
    | cons a w => exact ⟨_, rfl⟩
    | nil => exact ⟨[], rfl⟩

@[simp] theorem pend_dropFields (s : State) (h w : List Nat) (o : Nat) :
    (s.dropFields h w).pend o = h.count o + s.pend o := by
  cases h with
  | cons a h => simp [dropFields, count_cons']
  | nil => cases w <;> simp [dropFields]
@[simp] theorem pendW_dropFields (s : State) (h w : List Nat) (o : Nat) :
    (s.dropFields h w).pendW o = w.count o + s.pendW o := by
  cases h with
  | cons a h => simp [dropFields]
  | nil => cases w <;> simp [dropFields, count_cons']
@[simp] theorem owed_dropFields (s : State) (h w : List Nat) (o : Nat) :
    (s.dropFields h w).owed o = s.owed o := by
  cases h with
  | cons a h => simp [dropFields]
  | nil => cases w <;> simp [dropFields]

end State
namespace State

/-! ## D. Program handle lists (`roots`, `raws`, `wroots`, `vals`) -/

theorem sumList_map_eraseIdx {α : Type} (l : List α) (i : Nat) (a : α) (f : α → Nat) (h : l[i]? = some a) :
    sumList ((l.eraseIdx i).map f) + f a = sumList (l.map f) := by
  rw [List.eraseIdx_eq_take_drop_succ]
  conv => rhs; rw [eq_take_cons_drop h]
  rw [List.map_append, List.map_append, List.map_cons, sumList_append, sumList_append, sumList_cons,
    Nat.add_assoc, Nat.add_comm _ (f a)]

theorem sumList_map_eraseIdx_of_ge {α : Type} (l : List α) (i : Nat) (f : α → Nat) (h : l.length ≤ i) :
    sumList ((l.eraseIdx i).map f) = sumList (l.map f) := by
  rw [List.eraseIdx_of_length_le h]

/-! ### general form: replacing one list -/

theorem ext_withRoots_gen (s : State) (r : List Nat) (o : Nat) :
    ({ s with roots := r } : State).ext o + s.roots.count o = s.ext o + r.count o := by
  simp only [ext]; omega
theorem ext_withRaws_gen (s : State) (r : List Nat) (o : Nat) :
    ({ s with raws := r } : State).ext o + s.raws.count o = s.ext o + r.count o := by
  simp only [ext]; omega
theorem extW_withWroots_gen (s : State) (r : List Nat) (o : Nat) :
    ({ s with wroots := r } : State).extW o + s.wroots.count o = s.extW o + r.count o := by
  simp only [extW]; omega
theorem ext_withVals_gen (s : State) (vs : List Val) (o : Nat) :
    ({ s with vals := vs } : State).ext o + sumList (s.vals.map (fun v => v.held.count o))
      = s.ext o + sumList (vs.map (fun v => v.held.count o)) := by
  simp only [ext]; omega
theorem extW_withVals_gen (s : State) (vs : List Val) (o : Nat) :
    ({ s with vals := vs } : State).extW o + sumList (s.vals.map (fun v => v.weaks.count o))
      = s.extW o + sumList (vs.map (fun v => v.weaks.count o)) := by
  simp only [extW]; omega

/-! ### `roots` -/

@[simp ↓] theorem ext_withRoots_append (s : State) (t o : Nat) :
    ({ s with roots := s.roots ++ [t] } : State).ext o = s.ext o + (if t = o then 1 else 0) := by
  simp only [ext, count_concat]; omega

theorem ext_withRoots_eraseIdx (s : State) (i o : Nat) :
    ({ s with roots := s.roots.eraseIdx i } : State).ext o + (if s.roots[i]? = some o then 1 else 0)
      = s.ext o := by
  have := count_eraseIdx_add s.roots i o
  simp only [ext]; omega

theorem ext_withRoots_eraseIdx_of_eq (s : State) (i o : Nat) (h : s.roots[i]? = some o) :
    ({ s with roots := s.roots.eraseIdx i } : State).ext o + 1 = s.ext o := by
  have := ext_withRoots_eraseIdx s i o; rwa [if_pos h] at this

theorem ext_withRoots_eraseIdx_of_ne (s : State) (i o : Nat) (h : s.roots[i]? ≠ some o) :
    ({ s with roots := s.roots.eraseIdx i } : State).ext o = s.ext o := by
  have := ext_withRoots_eraseIdx s i o; rwa [if_neg h] at this

theorem ext_withRoots_set_of_ge (s : State) (i t o : Nat) (h : s.roots.length ≤ i) :
    ({ s with roots := s.roots.set i t } : State).ext o = s.ext o := by
  simp only [ext, count_set_of_ge _ _ _ _ h]

/-! ### `raws` -/

@[simp ↓] theorem ext_withRaws_append (s : State) (t o : Nat) :
    ({ s with raws := s.raws ++ [t] } : State).ext o = s.ext o + (if t = o then 1 else 0) := by
  simp only [ext, count_concat]; omega

theorem ext_withRaws_eraseIdx (s : State) (i o : Nat) :
    ({ s with raws := s.raws.eraseIdx i } : State).ext o + (if s.raws[i]? = some o then 1 else 0)
      = s.ext o := by
  have := count_eraseIdx_add s.raws i o
  simp only [ext]; omega

theorem ext_withRaws_eraseIdx_of_eq (s : State) (i o : Nat) (h : s.raws[i]? = some o) :
    ({ s with raws := s.raws.eraseIdx i } : State).ext o + 1 = s.ext o := by
  have := ext_withRaws_eraseIdx s i o; rwa [if_pos h] at this

theorem ext_withRaws_eraseIdx_of_ne (s : State) (i o : Nat) (h : s.raws[i]? ≠ some o) :
    ({ s with raws := s.raws.eraseIdx i } : State).ext o = s.ext o := by
  have := ext_withRaws_eraseIdx s i o; rwa [if_neg h] at this

/-- `into_raw`: a handle moves from `roots` to `raws` -/
theorem ext_intoRaw (s : State) (i t o : Nat) (h : s.roots[i]? = some t) :
    ({ s with roots := s.roots.eraseIdx i, raws := s.raws ++ [t] } : State).ext o = s.ext o := by
  have := count_eraseIdx_add s.roots i o
  simp only [ext, count_concat, h, Option.some.injEq] at *; omega

/-- `from_raw`: a handle moves from `raws` to `roots` -/
theorem ext_fromRaw (s : State) (i t o : Nat) (h : s.raws[i]? = some t) :
    ({ s with raws := s.raws.eraseIdx i, roots := s.roots ++ [t] } : State).ext o = s.ext o := by
  have := count_eraseIdx_add s.raws i o
  simp only [ext, count_concat, h, Option.some.injEq] at *; omega

theorem ext_withRootsRaws_gen (s : State) (r r' : List Nat) (o : Nat) :
    ({ s with roots := r, raws := r' } : State).ext o + s.roots.count o + s.raws.count o
      = s.ext o + r.count o + r'.count o := by
  simp only [ext]; omega

@[simp ↓] theorem ext_withRootsNextVid (s : State) (r : List Nat) (n : Nat) (o : Nat) :
    ({ s with roots := r, nextVid := n } : State).ext o = ({ s with roots := r } : State).ext o := rfl

/-! ### `wroots` -/

@[simp ↓] theorem extW_withWroots_append (s : State) (t o : Nat) :
    ({ s with wroots := s.wroots ++ [t] } : State).extW o = s.extW o + (if t = o then 1 else 0) := by
  simp only [extW, count_concat]; omega

theorem extW_withWroots_eraseIdx (s : State) (i o : Nat) :
    ({ s with wroots := s.wroots.eraseIdx i } : State).extW o + (if s.wroots[i]? = some o then 1 else 0)
      = s.extW o := by
  have := count_eraseIdx_add s.wroots i o
  simp only [extW]; omega

theorem extW_withWroots_eraseIdx_of_eq (s : State) (i o : Nat) (h : s.wroots[i]? = some o) :
    ({ s with wroots := s.wroots.eraseIdx i } : State).extW o + 1 = s.extW o := by
  have := extW_withWroots_eraseIdx s i o; rwa [if_pos h] at this

theorem extW_withWroots_eraseIdx_of_ne (s : State) (i o : Nat) (h : s.wroots[i]? ≠ some o) :
    ({ s with wroots := s.wroots.eraseIdx i } : State).extW o = s.extW o := by
  have := extW_withWroots_eraseIdx s i o; rwa [if_neg h] at this

/-! ### `vals` -/

@[simp ↓] theorem ext_withVals_append (s : State) (v : Val) (o : Nat) :
    ({ s with vals := s.vals ++ [v] } : State).ext o = s.ext o + v.held.count o := by
  simp only [ext, List.map_append, sumList_append, List.map_cons, List.map_nil, sumList_singleton]; omega

@[simp ↓] theorem extW_withVals_append (s : State) (v : Val) (o : Nat) :
    ({ s with vals := s.vals ++ [v] } : State).extW o = s.extW o + v.weaks.count o := by
  simp only [extW, List.map_append, sumList_append, List.map_cons, List.map_nil, sumList_singleton]; omega

theorem ext_withVals_eraseIdx (s : State) (i : Nat) (v : Val) (o : Nat) (h : s.vals[i]? = some v) :
    ({ s with vals := s.vals.eraseIdx i } : State).ext o + v.held.count o = s.ext o := by
  have := sumList_map_eraseIdx s.vals i v (fun v => v.held.count o) h
  simp only [ext]; omega

theorem extW_withVals_eraseIdx (s : State) (i : Nat) (v : Val) (o : Nat) (h : s.vals[i]? = some v) :
    ({ s with vals := s.vals.eraseIdx i } : State).extW o + v.weaks.count o = s.extW o := by
  have := sumList_map_eraseIdx s.vals i v (fun v => v.weaks.count o) h
  simp only [extW]; omega

theorem ext_withVals_eraseIdx_of_ge (s : State) (i o : Nat) (h : s.vals.length ≤ i) :
    ({ s with vals := s.vals.eraseIdx i } : State).ext o = s.ext o := by
  simp only [ext, List.eraseIdx_of_length_le h]

theorem extW_withVals_eraseIdx_of_ge (s : State) (i o : Nat) (h : s.vals.length ≤ i) :
    ({ s with vals := s.vals.eraseIdx i } : State).extW o = s.extW o := by
  simp only [extW, List.eraseIdx_of_length_le h]

/-- `try_unwrap`: one handle leaves `roots`, the unwrapped value joins `vals` -/
theorem ext_withRootsVals_eraseIdx_append (s : State) (i : Nat) (v : Val) (o : Nat) :
    ({ s with roots := s.roots.eraseIdx i, vals := s.vals ++ [v] } : State).ext o
        + (if s.roots[i]? = some o then 1 else 0)
      = s.ext o + v.held.count o := by
  have := count_eraseIdx_add s.roots i o
  simp only [ext, List.map_append, sumList_append, List.map_cons, List.map_nil, sumList_singleton]; omega

@[simp ↓] theorem extW_withRootsVals (s : State) (r : List Nat) (vs : List Val) (o : Nat) :
    ({ s with roots := r, vals := vs } : State).extW o = ({ s with vals := vs } : State).extW o := rfl

/-! ### membership -/

theorem ext_pos_of_mem_roots {s : State} {o : Nat} (h : o ∈ s.roots) : 0 < s.ext o := by
  have := (count_pos_iff_mem s.roots o).mpr h
  simp only [ext]; omega

theorem ext_pos_of_mem_raws {s : State} {o : Nat} (h : o ∈ s.raws) : 0 < s.ext o := by
  have := (count_pos_iff_mem s.raws o).mpr h
  simp only [ext]; omega

theorem ext_pos_of_mem_vals {s : State} {o : Nat} {v : Val} (hv : v ∈ s.vals) (h : o ∈ v.held) :
    0 < s.ext o := by
  have h1 := (count_pos_iff_mem v.held o).mpr h
  have h2 := le_sumList_map_of_mem (fun v : Val => v.held.count o) hv
  simp only [ext]; omega

theorem extW_pos_of_mem_wroots {s : State} {o : Nat} (h : o ∈ s.wroots) : 0 < s.extW o := by
  have := (count_pos_iff_mem s.wroots o).mpr h
  simp only [extW]; omega

theorem ext_pos_iff (s : State) (o : Nat) :
    0 < s.ext o ↔ o ∈ s.roots ∨ o ∈ s.raws ∨ ∃ v ∈ s.vals, o ∈ v.held := by
  have h1 := count_pos_iff_mem s.roots o
  have h2 := count_pos_iff_mem s.raws o
  have h3 := sumList_map_pos_iff s.vals (fun v => v.held.count o)
  simp only [List.count_pos_iff] at h3
  simp only [ext, ← h1, ← h2, ← h3]; omega

end State
namespace State

/-! ## E. Heap updates by `setObj`

`ext`, `extW`, `pend`, `pendW`, `owed` and all non-heap fields are untouched (section B). -/

theorem getElem?_setObj (s : State) (a i : Nat) (ob' : Obj) :
    (s.setObj a ob').heap[i]? = if a = i then (if a < s.heap.length then some ob' else none) else s.heap[i]? := by
  simp [setObj, List.getElem?_set]

theorem getElem?_setObj_same {s : State} {a : Nat} (ob' : Obj) (h : a < s.heap.length) :
    (s.setObj a ob').heap[a]? = some ob' := setObj_get_same s a ob' h

theorem getElem?_setObj_other (s : State) {a a' : Nat} (ob' : Obj) (h : a' ≠ a) :
    (s.setObj a ob').heap[a']? = s.heap[a']? := setObj_get_other s a a' ob' (Ne.symm h)

theorem setObj_of_ge {s : State} {a : Nat} (ob' : Obj) (h : s.heap.length ≤ a) : s.setObj a ob' = s := by
  simp [setObj, List.set_eq_of_length_le h]

@[simp] theorem setObj_setObj (s : State) (a : Nat) (x y : Obj) : (s.setObj a x).setObj a y = s.setObj a y := by
  simp [setObj]

theorem setObj_self {s : State} {a : Nat} {ob : Obj} (h : s.heap[a]? = some ob) : s.setObj a ob = s := by
  obtain ⟨hlt, he⟩ := List.getElem?_eq_some_iff.mp h
  subst he
  simp [setObj]

theorem setObj_comm (s : State) {a b : Nat} (x y : Obj) (h : a ≠ b) :
    (s.setObj a x).setObj b y = (s.setObj b y).setObj a x := by
  simp [setObj, List.set_comm _ _ h]

/-! ### at the updated index -/

section same
variable {s : State} {a : Nat} (ob' : Obj) (h : a < s.heap.length)
include h

theorem cell_setObj_same' : (s.setObj a ob').cell a = if ob'.freed then none else some ob' :=
  cell_of_get (getElem?_setObj_same ob' h)
theorem strongOf_setObj_same : (s.setObj a ob').strongOf a = ob'.strong :=
  strongOf_of_get (getElem?_setObj_same ob' h)
theorem isLive_setObj_same : (s.setObj a ob').isLive a = (!ob'.freed && !ob'.strong.isDead) :=
  isLive_of_get (getElem?_setObj_same ob' h)
theorem tableOf_setObj_same : (s.setObj a ob').tableOf a = if ob'.freed then none else ob'.links :=
  tableOf_of_get (getElem?_setObj_same ob' h)
theorem tbl_setObj_same : (s.setObj a ob').tbl a = if ob'.freed then [] else ob'.links.getD [] :=
  tbl_of_get (getElem?_setObj_same ob' h)
theorem heldOf_setObj_same : (s.setObj a ob').heldOf a = ob'.heldList :=
  heldOf_of_get (getElem?_setObj_same ob' h)
theorem weaksOf_setObj_same : (s.setObj a ob').weaksOf a = ob'.weakList :=
  weaksOf_of_get (getElem?_setObj_same ob' h)
theorem H_setObj_same (t : Nat) : (s.setObj a ob').H a t = ob'.heldList.count t :=
  H_of_get (getElem?_setObj_same ob' h) t
theorem strongNat_setObj_same : (s.setObj a ob').strongNat a = ob'.strong.toNat :=
  strongNat_of_get (getElem?_setObj_same ob' h)
theorem weakNat_setObj_same : (s.setObj a ob').weakNat a = ob'.weak :=
  weakNat_of_get (getElem?_setObj_same ob' h)
theorem implicitNat_setObj_same : (s.setObj a ob').implicitNat a = if ob'.implicit then 1 else 0 :=
  implicitNat_of_get (getElem?_setObj_same ob' h)
theorem F_setObj_same (b : Nat) :
    (s.setObj a ob').F a b = Table.get (if ob'.freed then [] else ob'.links.getD []) ⟨b, .fwd⟩ := by
  rw [F, tbl_setObj_same ob' h]
theorem B_setObj_same (b : Nat) :
    (s.setObj a ob').B a b = Table.get (if ob'.freed then [] else ob'.links.getD []) ⟨b, .bwd⟩ := by
  rw [B, tbl_setObj_same ob' h]

end same

/-! ### at another index -/

section other
variable (s : State) {a a' : Nat} (ob' : Obj) (h : a' ≠ a)
include h

theorem cell_setObj_other' : (s.setObj a ob').cell a' = s.cell a' :=
  cell_congr_get (getElem?_setObj_other s ob' h)
theorem strongOf_setObj_other : (s.setObj a ob').strongOf a' = s.strongOf a' :=
  strongOf_congr_get (getElem?_setObj_other s ob' h)
theorem isLive_setObj_other : (s.setObj a ob').isLive a' = s.isLive a' :=
  isLive_congr_get (getElem?_setObj_other s ob' h)
theorem tableOf_setObj_other : (s.setObj a ob').tableOf a' = s.tableOf a' :=
  tableOf_congr_get (getElem?_setObj_other s ob' h)
theorem tbl_setObj_other : (s.setObj a ob').tbl a' = s.tbl a' :=
  tbl_congr_get (getElem?_setObj_other s ob' h)
theorem heldOf_setObj_other : (s.setObj a ob').heldOf a' = s.heldOf a' :=
  heldOf_congr_get (getElem?_setObj_other s ob' h)
theorem weaksOf_setObj_other : (s.setObj a ob').weaksOf a' = s.weaksOf a' :=
  weaksOf_congr_get (getElem?_setObj_other s ob' h)
theorem H_setObj_other (t : Nat) : (s.setObj a ob').H a' t = s.H a' t :=
  H_congr_get (getElem?_setObj_other s ob' h) t
theorem F_setObj_other (b : Nat) : (s.setObj a ob').F a' b = s.F a' b :=
  F_congr_get (getElem?_setObj_other s ob' h) b
theorem B_setObj_other (b : Nat) : (s.setObj a ob').B a' b = s.B a' b :=
  B_congr_get (getElem?_setObj_other s ob' h) b
theorem strongNat_setObj_other : (s.setObj a ob').strongNat a' = s.strongNat a' :=
  strongNat_congr_get (getElem?_setObj_other s ob' h)
theorem weakNat_setObj_other : (s.setObj a ob').weakNat a' = s.weakNat a' :=
  weakNat_congr_get (getElem?_setObj_other s ob' h)
theorem implicitNat_setObj_other : (s.setObj a ob').implicitNat a' = s.implicitNat a' :=
  implicitNat_congr_get (getElem?_setObj_other s ob' h)

end other

/-! ### `inHeap`, `inHeapW` -/

section inheap
variable {s : State} {a : Nat} {ob : Obj} (ob' : Obj) (h : s.heap[a]? = some ob)
include h

theorem inHeap_setObj (t : Nat) :
    (s.setObj a ob').inHeap t + (s.heldOf a).count t = s.inHeap t + ob'.heldList.count t := by
  have hlt := get_lt h
  have := sumList_range_update s.heap.length a (fun i => (s.heldOf i).count t)
    (fun i => ((s.setObj a ob').heldOf i).count t) hlt
    (fun i _ hia => by simp only [heldOf_setObj_other s ob' hia])
  simp only [heldOf_setObj_same ob' hlt] at this
  simpa [inHeap] using this

theorem inHeapW_setObj (t : Nat) :
    (s.setObj a ob').inHeapW t + (s.weaksOf a).count t = s.inHeapW t + ob'.weakList.count t := by
  have hlt := get_lt h
  have := sumList_range_update s.heap.length a (fun i => (s.weaksOf i).count t)
    (fun i => ((s.setObj a ob').weaksOf i).count t) hlt
    (fun i _ hia => by simp only [weaksOf_setObj_other s ob' hia])
  simp only [weaksOf_setObj_same ob' hlt] at this
  simpa [inHeapW] using this

theorem inHeap_setObj' (t : Nat) :
    (s.setObj a ob').inHeap t + ob.heldList.count t = s.inHeap t + ob'.heldList.count t := by
  rw [← heldOf_of_get h]; exact inHeap_setObj ob' h t

theorem inHeapW_setObj' (t : Nat) :
    (s.setObj a ob').inHeapW t + ob.weakList.count t = s.inHeapW t + ob'.weakList.count t := by
  rw [← weaksOf_of_get h]; exact inHeapW_setObj ob' h t

theorem inHeap_setObj_of_value_eq (hv : ob'.value = ob.value) (t : Nat) :
    (s.setObj a ob').inHeap t = s.inHeap t := by
  have := inHeap_setObj' ob' h t; rw [Obj.heldList_congr hv] at this; omega

theorem inHeapW_setObj_of_value_eq (hv : ob'.value = ob.value) (t : Nat) :
    (s.setObj a ob').inHeapW t = s.inHeapW t := by
  have := inHeapW_setObj' ob' h t; rw [Obj.weakList_congr hv] at this; omega

theorem inHeap_setObj_move_out {v : Val} (hv : ob.value = some v) (hv' : ob'.value = none) (t : Nat) :
    (s.setObj a ob').inHeap t + v.held.count t = s.inHeap t := by
  have := inHeap_setObj' ob' h t
  rw [Obj.heldList_of_some hv, Obj.heldList_of_none hv'] at this; simpa using this

theorem inHeapW_setObj_move_out {v : Val} (hv : ob.value = some v) (hv' : ob'.value = none) (t : Nat) :
    (s.setObj a ob').inHeapW t + v.weaks.count t = s.inHeapW t := by
  have := inHeapW_setObj' ob' h t
  rw [Obj.weakList_of_some hv, Obj.weakList_of_none hv'] at this; simpa using this

theorem inHeap_setObj_replace {v v' : Val} (hv : ob.value = some v) (hv' : ob'.value = some v') (t : Nat) :
    (s.setObj a ob').inHeap t + v.held.count t = s.inHeap t + v'.held.count t := by
  have := inHeap_setObj' ob' h t
  rwa [Obj.heldList_of_some hv, Obj.heldList_of_some hv'] at this

theorem inHeapW_setObj_replace {v v' : Val} (hv : ob.value = some v) (hv' : ob'.value = some v') (t : Nat) :
    (s.setObj a ob').inHeapW t + v.weaks.count t = s.inHeapW t + v'.weaks.count t := by
  have := inHeapW_setObj' ob' h t
  rwa [Obj.weakList_of_some hv, Obj.weakList_of_some hv'] at this

theorem inHeap_setObj_of_none (hv : ob.value = none) (hv' : ob'.value = none) (t : Nat) :
    (s.setObj a ob').inHeap t = s.inHeap t :=
  inHeap_setObj_of_value_eq ob' h (hv'.trans hv.symm) t

theorem inHeapW_setObj_of_none (hv : ob.value = none) (hv' : ob'.value = none) (t : Nat) :
    (s.setObj a ob').inHeapW t = s.inHeapW t :=
  inHeapW_setObj_of_value_eq ob' h (hv'.trans hv.symm) t

end inheap

end State

/-- the object created by `Rc::new` -/
def Obj.fresh (v : Val) : Obj :=
  { strong := .cnt 1, weak := 1, links := some [], value := some v, freed := false }

@[simp] theorem Obj.fresh_strong (v : Val) : (Obj.fresh v).strong = .cnt 1 := rfl
@[simp] theorem Obj.fresh_weak (v : Val) : (Obj.fresh v).weak = 1 := rfl
@[simp] theorem Obj.fresh_links (v : Val) : (Obj.fresh v).links = some [] := rfl
@[simp] theorem Obj.fresh_value (v : Val) : (Obj.fresh v).value = some v := rfl
@[simp] theorem Obj.fresh_freed (v : Val) : (Obj.fresh v).freed = false := rfl
@[simp] theorem Obj.fresh_implicit (v : Val) : (Obj.fresh v).implicit = true := rfl
@[simp] theorem Obj.fresh_heldList (v : Val) : (Obj.fresh v).heldList = v.held := rfl
@[simp] theorem Obj.fresh_weakList (v : Val) : (Obj.fresh v).weakList = v.weaks := rfl

namespace State

/-! ## F. `alloc`

`ext`, `extW`, `pend`, `pendW`, `owed` and all non-heap fields are untouched (section B). -/

theorem alloc_heap (s : State) (v : Val) : (s.alloc v).heap = s.heap ++ [Obj.fresh v] := rfl

@[simp] theorem alloc_heap_length (s : State) (v : Val) : (s.alloc v).heap.length = s.heap.length + 1 := by
  simp [alloc_heap]

theorem getElem?_alloc (s : State) (v : Val) (i : Nat) :
    (s.alloc v).heap[i]? = if i = s.heap.length then some (Obj.fresh v) else s.heap[i]? := by
  rw [alloc_heap]
  by_cases h : i = s.heap.length
  · subst h; rw [if_pos rfl, List.getElem?_concat_length]
  · rw [if_neg h]
    by_cases h1 : i < s.heap.length
    · exact List.getElem?_append_left h1
    · rw [List.getElem?_eq_none (by rw [List.length_append, List.length_singleton]; omega),
        List.getElem?_eq_none (by omega)]

@[simp] theorem getElem?_alloc_new (s : State) (v : Val) : (s.alloc v).heap[s.heap.length]? = some (Obj.fresh v) := by
  rw [getElem?_alloc, if_pos rfl]

theorem getElem?_alloc_old (s : State) (v : Val) {i : Nat} (h : i ≠ s.heap.length) :
    (s.alloc v).heap[i]? = s.heap[i]? := by
  rw [getElem?_alloc, if_neg h]

theorem getElem?_alloc_of_lt (s : State) (v : Val) {i : Nat} (h : i < s.heap.length) :
    (s.alloc v).heap[i]? = s.heap[i]? := getElem?_alloc_old s v (Nat.ne_of_lt h)

theorem get_alloc_of_get {s : State} {i : Nat} {ob : Obj} (v : Val) (h : s.heap[i]? = some ob) :
    (s.alloc v).heap[i]? = some ob := by
  rw [getElem?_alloc_of_lt s v (get_lt h), h]

/-! ### at the new index -/

section new
variable (s : State) (v : Val)

@[simp] theorem cell_alloc_new : (s.alloc v).cell s.heap.length = some (Obj.fresh v) := by
  rw [cell_of_get (getElem?_alloc_new s v)]; rfl
@[simp] theorem strongOf_alloc_new : (s.alloc v).strongOf s.heap.length = .cnt 1 :=
  strongOf_of_get (getElem?_alloc_new s v)
@[simp] theorem isLive_alloc_new : (s.alloc v).isLive s.heap.length = true := by
  rw [isLive_of_get (getElem?_alloc_new s v)]; rfl
@[simp] theorem tableOf_alloc_new : (s.alloc v).tableOf s.heap.length = some [] := by
  rw [tableOf_of_get (getElem?_alloc_new s v)]; rfl
@[simp] theorem tbl_alloc_new : (s.alloc v).tbl s.heap.length = [] := by
  rw [tbl_of_get (getElem?_alloc_new s v)]; rfl
@[simp] theorem heldOf_alloc_new : (s.alloc v).heldOf s.heap.length = v.held :=
  heldOf_of_get (getElem?_alloc_new s v)
@[simp] theorem weaksOf_alloc_new : (s.alloc v).weaksOf s.heap.length = v.weaks :=
  weaksOf_of_get (getElem?_alloc_new s v)
@[simp] theorem H_alloc_new (t : Nat) : (s.alloc v).H s.heap.length t = v.held.count t :=
  H_of_get (getElem?_alloc_new s v) t
@[simp] theorem F_alloc_new (b : Nat) : (s.alloc v).F s.heap.length b = 0 := by simp [F]
@[simp] theorem B_alloc_new (b : Nat) : (s.alloc v).B s.heap.length b = 0 := by simp [B]
@[simp] theorem strongNat_alloc_new : (s.alloc v).strongNat s.heap.length = 1 :=
  strongNat_of_get (getElem?_alloc_new s v)
@[simp] theorem weakNat_alloc_new : (s.alloc v).weakNat s.heap.length = 1 :=
  weakNat_of_get (getElem?_alloc_new s v)
@[simp] theorem implicitNat_alloc_new : (s.alloc v).implicitNat s.heap.length = 1 := by
  rw [implicitNat_of_get (getElem?_alloc_new s v)]; rfl

end new

/-! ### at an old index (any index other than the new one) -/

section old
variable (s : State) (v : Val) {i : Nat} (h : i ≠ s.heap.length)
include h

theorem cell_alloc_old : (s.alloc v).cell i = s.cell i :=
  cell_congr_get (getElem?_alloc_old s v h)
theorem strongOf_alloc_old : (s.alloc v).strongOf i = s.strongOf i :=
  strongOf_congr_get (getElem?_alloc_old s v h)
theorem isLive_alloc_old : (s.alloc v).isLive i = s.isLive i :=
  isLive_congr_get (getElem?_alloc_old s v h)
theorem tableOf_alloc_old : (s.alloc v).tableOf i = s.tableOf i :=
  tableOf_congr_get (getElem?_alloc_old s v h)
theorem tbl_alloc_old : (s.alloc v).tbl i = s.tbl i :=
  tbl_congr_get (getElem?_alloc_old s v h)
theorem heldOf_alloc_old : (s.alloc v).heldOf i = s.heldOf i :=
  heldOf_congr_get (getElem?_alloc_old s v h)
theorem weaksOf_alloc_old : (s.alloc v).weaksOf i = s.weaksOf i :=
  weaksOf_congr_get (getElem?_alloc_old s v h)
theorem H_alloc_old (t : Nat) : (s.alloc v).H i t = s.H i t :=
  H_congr_get (getElem?_alloc_old s v h) t
theorem F_alloc_old (b : Nat) : (s.alloc v).F i b = s.F i b :=
  F_congr_get (getElem?_alloc_old s v h) b
theorem B_alloc_old (b : Nat) : (s.alloc v).B i b = s.B i b :=
  B_congr_get (getElem?_alloc_old s v h) b
theorem strongNat_alloc_old : (s.alloc v).strongNat i = s.strongNat i :=
  strongNat_congr_get (getElem?_alloc_old s v h)
theorem weakNat_alloc_old : (s.alloc v).weakNat i = s.weakNat i :=
  weakNat_congr_get (getElem?_alloc_old s v h)
theorem implicitNat_alloc_old : (s.alloc v).implicitNat i = s.implicitNat i :=
  implicitNat_congr_get (getElem?_alloc_old s v h)

end old

/-! ### unconditional forms -/

theorem isLive_alloc_iff (s : State) (v : Val) (i : Nat) :
    (s.alloc v).isLive i = true ↔ s.isLive i = true ∨ i = s.heap.length := by
  by_cases h : i = s.heap.length
  · subst h; simp
  · simp [isLive_alloc_old s v h, h]

theorem isLive_alloc_of_isLive {s : State} {i : Nat} (v : Val) (h : s.isLive i = true) :
    (s.alloc v).isLive i = true := (isLive_alloc_iff s v i).mpr (Or.inl h)

theorem strongNat_alloc (s : State) (v : Val) (i : Nat) :
    (s.alloc v).strongNat i = s.strongNat i + (if s.heap.length = i then 1 else 0) := by
  by_cases h : i = s.heap.length
  · subst h; simp [strongNat_of_get_none (get_none_iff.mpr (Nat.le_refl _))]
  · simp [strongNat_alloc_old s v h, Ne.symm h]

theorem weakNat_alloc (s : State) (v : Val) (i : Nat) :
    (s.alloc v).weakNat i = s.weakNat i + (if s.heap.length = i then 1 else 0) := by
  by_cases h : i = s.heap.length
  · subst h; simp [weakNat_of_get_none (get_none_iff.mpr (Nat.le_refl _))]
  · simp [weakNat_alloc_old s v h, Ne.symm h]

theorem implicitNat_alloc (s : State) (v : Val) (i : Nat) :
    (s.alloc v).implicitNat i = s.implicitNat i + (if s.heap.length = i then 1 else 0) := by
  by_cases h : i = s.heap.length
  · subst h; simp [implicitNat_of_get_none (get_none_iff.mpr (Nat.le_refl _))]
  · simp [implicitNat_alloc_old s v h, Ne.symm h]

theorem H_alloc (s : State) (v : Val) (i t : Nat) :
    (s.alloc v).H i t = s.H i t + (if s.heap.length = i then v.held.count t else 0) := by
  by_cases h : i = s.heap.length
  · subst h; simp [H_of_get_none (get_none_iff.mpr (Nat.le_refl _))]
  · simp [H_alloc_old s v h, Ne.symm h]

/-- the table of the new object is empty and the old tables are unchanged; the new index had no
readable table before -/
theorem tbl_alloc (s : State) (v : Val) (i : Nat) : (s.alloc v).tbl i = s.tbl i := by
  by_cases h : i = s.heap.length
  · subst h; simp [tbl_of_get_none (get_none_iff.mpr (Nat.le_refl _))]
  · exact tbl_alloc_old s v h

@[simp] theorem F_alloc (s : State) (v : Val) (a b : Nat) : (s.alloc v).F a b = s.F a b := by
  simp only [F, tbl_alloc]

@[simp] theorem B_alloc (s : State) (v : Val) (a b : Nat) : (s.alloc v).B a b = s.B a b := by
  simp only [B, tbl_alloc]

/-! ### `inHeap`, `inHeapW` -/

@[simp] theorem inHeap_alloc (s : State) (v : Val) (t : Nat) :
    (s.alloc v).inHeap t = s.inHeap t + v.held.count t := by
  unfold inHeap
  rw [alloc_heap_length, sumList_range_succ, heldOf_alloc_new]
  congr 1
  exact sumList_range_congr _ _ _ (fun i hi => by rw [heldOf_alloc_old s v (Nat.ne_of_lt hi)])

@[simp] theorem inHeapW_alloc (s : State) (v : Val) (t : Nat) :
    (s.alloc v).inHeapW t = s.inHeapW t + v.weaks.count t := by
  unfold inHeapW
  rw [alloc_heap_length, sumList_range_succ, weaksOf_alloc_new]
  congr 1
  exact sumList_range_congr _ _ _ (fun i hi => by rw [weaksOf_alloc_old s v (Nat.ne_of_lt hi)])

end State

/-! ## G0. Updates that rewrite heap objects in place

`setLinks`, `incStrong`, `incWeak`, `decWeakFree`, `modVal` (and what is composed of them) either fail
or overwrite one object with a variant of itself.  `HeapRel R s s'` records this once, `R` saying what
an object and its replacement have in common; each accessor then only asks `R` for the component it
reads. -/

/-- `ob'` is `ob` with the contents of its table, if it has one and is not released, replaced -/
structure Obj.SameButLinks (ob ob' : Obj) : Prop where
  strong : ob'.strong = ob.strong
  weak : ob'.weak = ob.weak
  value : ob'.value = ob.value
  freed : ob'.freed = ob.freed
  implicit : ob'.implicit = ob.implicit
  links_isSome : ob'.links.isSome = ob.links.isSome
  links_of_freed : ob.freed = true → ob'.links = ob.links

theorem Obj.SameButLinks.trans {a b c : Obj} (h : a.SameButLinks b) (h' : b.SameButLinks c) : a.SameButLinks c :=
  ⟨h'.strong.trans h.strong, h'.weak.trans h.weak, h'.value.trans h.value, h'.freed.trans h.freed,
    h'.implicit.trans h.implicit, h'.links_isSome.trans h.links_isSome,
    fun hf => (h'.links_of_freed (h.freed.trans hf)).trans (h.links_of_freed hf)⟩

structure Obj.SameButStrong (ob ob' : Obj) : Prop where
  weak : ob'.weak = ob.weak
  links : ob'.links = ob.links
  value : ob'.value = ob.value
  freed : ob'.freed = ob.freed
  implicit : ob'.implicit = ob.implicit

structure Obj.SameButWeak (ob ob' : Obj) : Prop where
  strong : ob'.strong = ob.strong
  links : ob'.links = ob.links
  value : ob'.value = ob.value
  freed : ob'.freed = ob.freed
  implicit : ob'.implicit = ob.implicit

structure Obj.SameButValue (ob ob' : Obj) : Prop where
  strong : ob'.strong = ob.strong
  weak : ob'.weak = ob.weak
  links : ob'.links = ob.links
  freed : ob'.freed = ob.freed
  implicit : ob'.implicit = ob.implicit

/-- what `decWeakFree` keeps: it writes `weak`, `freed` and the ghost bit -/
structure Obj.SameButWeakFreed (ob ob' : Obj) : Prop where
  strong : ob'.strong = ob.strong
  links : ob'.links = ob.links
  value : ob'.value = ob.value

namespace State

/-- `s'` is `s` with some heap objects overwritten, each by an `R`-variant of itself; besides the heap
only `err` and `log` may differ -/
structure HeapRel (R : Obj → Obj → Prop) (s s' : State) : Prop where
  obj : ∀ i : Nat, s'.heap[i]? = s.heap[i]? ∨ ∃ ob ob', s.heap[i]? = some ob ∧ s'.heap[i]? = some ob' ∧ R ob ob'
  heap_length : s'.heap.length = s.heap.length
  roots : s'.roots = s.roots
  wroots : s'.wroots = s.wroots
  vals : s'.vals = s.vals
  raws : s'.raws = s.raws
  stack : s'.stack = s.stack
  unwinding : s'.unwinding = s.unwinding
  hint : s'.hint = s.hint
  nextVid : s'.nextVid = s.nextVid

namespace HeapRel
variable {R : Obj → Obj → Prop} {s s' s'' : State}

theorem refl (s : State) : HeapRel R s s := ⟨fun _ => .inl rfl, rfl, rfl, rfl, rfl, rfl, rfl, rfl, rfl, rfl⟩

theorem fail (s : State) (e : Err) : HeapRel R s (s.fail e) :=
  ⟨fun i => .inl (congrArg (·[i]?) (fail_heap s e)), congrArg List.length (fail_heap s e), fail_roots s e,
    fail_wroots s e, fail_vals s e, fail_raws s e, fail_stack s e, fail_unwinding s e, fail_hint s e,
    fail_nextVid s e⟩

theorem emit (h : HeapRel R s s') (e : Ev) : HeapRel R s (s'.emit e) :=
  ⟨h.obj, h.heap_length, h.roots, h.wroots, h.vals, h.raws, h.stack, h.unwinding, h.hint, h.nextVid⟩

theorem setObj {o : Nat} {ob ob' : Obj} (h : s.heap[o]? = some ob) (r : R ob ob') :
    HeapRel R s (s.setObj o ob') := by
  refine ⟨fun i => ?_, setObj_heap_length s o ob', rfl, rfl, rfl, rfl, rfl, rfl, rfl, rfl⟩
  by_cases hi : i = o
  · subst hi; exact .inr ⟨ob, ob', h, getElem?_setObj_same ob' (get_lt h), r⟩
  · exact .inl (getElem?_setObj_other s ob' hi)

theorem trans (h : HeapRel R s s') (h' : HeapRel R s' s'') (hR : ∀ {a b c}, R a b → R b c → R a c) :
    HeapRel R s s'' := by
  refine ⟨fun i => ?_, h'.heap_length.trans h.heap_length, h'.roots.trans h.roots, h'.wroots.trans h.wroots,
    h'.vals.trans h.vals, h'.raws.trans h.raws, h'.stack.trans h.stack, h'.unwinding.trans h.unwinding,
    h'.hint.trans h.hint, h'.nextVid.trans h.nextVid⟩
  rcases h.obj i with e | ⟨a, b, ea, eb, r⟩ <;> rcases h'.obj i with e' | ⟨b', c, eb', ec, r'⟩
  · exact .inl (e'.trans e)
  · exact .inr ⟨b', c, e.symm.trans eb', ec, r'⟩
  · exact .inr ⟨a, b, ea, e'.trans eb, r⟩
  · cases eb.symm.trans eb'
    exact .inr ⟨a, c, ea, ec, hR r r'⟩

theorem mono {R' : Obj → Obj → Prop} (h : HeapRel R s s') (hR : ∀ {a b}, R a b → R' a b) : HeapRel R' s s' :=
  ⟨fun i => (h.obj i).imp id fun ⟨a, b, ea, eb, r⟩ => ⟨a, b, ea, eb, hR r⟩, h.heap_length, h.roots, h.wroots,
    h.vals, h.raws, h.stack, h.unwinding, h.hint, h.nextVid⟩

/-! what is not in the heap -/

section
variable (h : HeapRel R s s') (x : Nat)
include h
theorem ext : s'.ext x = s.ext x := ext_congr h.roots h.raws h.vals x
theorem extW : s'.extW x = s.extW x := extW_congr h.wroots h.vals x
theorem pend : s'.pend x = s.pend x := pend_congr h.stack x
theorem pendW : s'.pendW x = s.pendW x := pendW_congr h.stack x
theorem owed : s'.owed x = s.owed x := owed_congr h.stack x
end

/-! one lemma per accessor, asking `R` for the components the accessor reads -/

section
variable (h : HeapRel R s s')
include h

theorem strongOf (hs : ∀ {ob ob'}, R ob ob' → ob'.strong = ob.strong) (x : Nat) : s'.strongOf x = s.strongOf x := by
  rcases h.obj x with e | ⟨ob, ob', e, e', r⟩
  · exact strongOf_congr_get e
  · rw [strongOf_of_get e, strongOf_of_get e', hs r]

theorem strongNat (hs : ∀ {ob ob'}, R ob ob' → ob'.strong = ob.strong) (x : Nat) : s'.strongNat x = s.strongNat x := by
  rcases h.obj x with e | ⟨ob, ob', e, e', r⟩
  · exact strongNat_congr_get e
  · rw [strongNat_of_get e, strongNat_of_get e', hs r]

theorem weakNat (hw : ∀ {ob ob'}, R ob ob' → ob'.weak = ob.weak) (x : Nat) : s'.weakNat x = s.weakNat x := by
  rcases h.obj x with e | ⟨ob, ob', e, e', r⟩
  · exact weakNat_congr_get e
  · rw [weakNat_of_get e, weakNat_of_get e', hw r]

theorem implicitNat (hi : ∀ {ob ob'}, R ob ob' → ob'.implicit = ob.implicit) (x : Nat) :
    s'.implicitNat x = s.implicitNat x := by
  rcases h.obj x with e | ⟨ob, ob', e, e', r⟩
  · exact implicitNat_congr_get e
  · rw [implicitNat_of_get e, implicitNat_of_get e', hi r]

theorem isLive (hf : ∀ {ob ob'}, R ob ob' → ob'.freed = ob.freed)
    (hd : ∀ {ob ob'}, R ob ob' → ob'.strong.isDead = ob.strong.isDead) (x : Nat) : s'.isLive x = s.isLive x := by
  rcases h.obj x with e | ⟨ob, ob', e, e', r⟩
  · exact isLive_congr_get e
  · rw [isLive_of_get e, isLive_of_get e', hf r, hd r]

theorem cell_isSome (hf : ∀ {ob ob'}, R ob ob' → ob'.freed = ob.freed) (x : Nat) :
    (s'.cell x).isSome = (s.cell x).isSome := by
  rcases h.obj x with e | ⟨ob, ob', e, e', r⟩
  · rw [cell_congr_get e]
  · rw [cell_of_get e, cell_of_get e', hf r]; cases ob.freed <;> rfl

theorem tableOf_isSome (hf : ∀ {ob ob'}, R ob ob' → ob'.freed = ob.freed)
    (hl : ∀ {ob ob'}, R ob ob' → ob'.links.isSome = ob.links.isSome) (x : Nat) :
    (s'.tableOf x).isSome = (s.tableOf x).isSome := by
  rcases h.obj x with e | ⟨ob, ob', e, e', r⟩
  · rw [tableOf_congr_get e]
  · rw [tableOf_of_get e, tableOf_of_get e', hf r]
    cases ob.freed
    · exact hl r
    · rfl

theorem tableOf (hl : ∀ {ob ob'}, R ob ob' → ob'.links = ob.links) (hf : ∀ {ob ob'}, R ob ob' → ob'.freed = ob.freed)
    (x : Nat) : s'.tableOf x = s.tableOf x := by
  rcases h.obj x with e | ⟨ob, ob', e, e', r⟩
  · exact tableOf_congr_get e
  · rw [tableOf_of_get e, tableOf_of_get e', hl r, hf r]

theorem tbl (hl : ∀ {ob ob'}, R ob ob' → ob'.links = ob.links) (hf : ∀ {ob ob'}, R ob ob' → ob'.freed = ob.freed)
    (x : Nat) : s'.tbl x = s.tbl x := by
  unfold State.tbl; rw [h.tableOf hl hf x]

theorem F (hl : ∀ {ob ob'}, R ob ob' → ob'.links = ob.links) (hf : ∀ {ob ob'}, R ob ob' → ob'.freed = ob.freed)
    (x y : Nat) : s'.F x y = s.F x y := by
  unfold State.F; rw [h.tbl hl hf x]

theorem B (hl : ∀ {ob ob'}, R ob ob' → ob'.links = ob.links) (hf : ∀ {ob ob'}, R ob ob' → ob'.freed = ob.freed)
    (x y : Nat) : s'.B x y = s.B x y := by
  unfold State.B; rw [h.tbl hl hf x]

theorem heldOf (hv : ∀ {ob ob'}, R ob ob' → ob'.value = ob.value) (x : Nat) : s'.heldOf x = s.heldOf x := by
  rcases h.obj x with e | ⟨ob, ob', e, e', r⟩
  · exact heldOf_congr_get e
  · rw [heldOf_of_get e, heldOf_of_get e', Obj.heldList_congr (hv r)]

theorem weaksOf (hv : ∀ {ob ob'}, R ob ob' → ob'.value = ob.value) (x : Nat) : s'.weaksOf x = s.weaksOf x := by
  rcases h.obj x with e | ⟨ob, ob', e, e', r⟩
  · exact weaksOf_congr_get e
  · rw [weaksOf_of_get e, weaksOf_of_get e', Obj.weakList_congr (hv r)]

theorem H (hv : ∀ {ob ob'}, R ob ob' → ob'.value = ob.value) (x y : Nat) : s'.H x y = s.H x y := by
  unfold State.H; rw [h.heldOf hv x]

theorem inHeap (hv : ∀ {ob ob'}, R ob ob' → ob'.value = ob.value) (x : Nat) : s'.inHeap x = s.inHeap x :=
  inHeap_congr_of h.heap_length (h.heldOf hv) x

theorem inHeapW (hv : ∀ {ob ob'}, R ob ob' → ob'.value = ob.value) (x : Nat) : s'.inHeapW x = s.inHeapW x :=
  inHeapW_congr_of h.heap_length (h.weaksOf hv) x

end

end HeapRel

/-! ### `setObj` with an object that keeps a component of the old one: the functions reading only that
component are unchanged *everywhere* -/

section keep
variable {s : State} {a : Nat} {ob ob' : Obj} (h : s.heap[a]? = some ob)
include h

theorem heldOf_setObj_of_value_eq (hv : ob'.value = ob.value) (x : Nat) :
    (s.setObj a ob').heldOf x = s.heldOf x :=
  (HeapRel.setObj (R := fun ob ob' => ob'.value = ob.value) h hv).heldOf id x
theorem H_setObj_of_value_eq (hv : ob'.value = ob.value) (x t : Nat) :
    (s.setObj a ob').H x t = s.H x t :=
  (HeapRel.setObj (R := fun ob ob' => ob'.value = ob.value) h hv).H id x t
theorem strongNat_setObj_of_strong_eq (hs : ob'.strong = ob.strong) (x : Nat) :
    (s.setObj a ob').strongNat x = s.strongNat x :=
  (HeapRel.setObj (R := fun ob ob' => ob'.strong = ob.strong) h hs).strongNat id x
theorem weakNat_setObj_of_weak_eq (hw : ob'.weak = ob.weak) (x : Nat) :
    (s.setObj a ob').weakNat x = s.weakNat x :=
  (HeapRel.setObj (R := fun ob ob' => ob'.weak = ob.weak) h hw).weakNat id x
theorem implicitNat_setObj_of_implicit_eq (hi : ob'.implicit = ob.implicit) (x : Nat) :
    (s.setObj a ob').implicitNat x = s.implicitNat x :=
  (HeapRel.setObj (R := fun ob ob' => ob'.implicit = ob.implicit) h hi).implicitNat id x
theorem isLive_setObj_of_eq (hf : ob'.freed = ob.freed) (hs : ob'.strong.isDead = ob.strong.isDead) (x : Nat) :
    (s.setObj a ob').isLive x = s.isLive x :=
  (HeapRel.setObj (R := fun ob ob' => ob'.freed = ob.freed ∧ ob'.strong.isDead = ob.strong.isDead) h ⟨hf, hs⟩).isLive
    (·.1) (·.2) x
theorem tableOf_setObj_of_links_eq (hl : ob'.links = ob.links) (hf : ob'.freed = ob.freed) (x : Nat) :
    (s.setObj a ob').tableOf x = s.tableOf x :=
  (HeapRel.setObj (R := fun ob ob' => ob'.links = ob.links ∧ ob'.freed = ob.freed) h ⟨hl, hf⟩).tableOf (·.1) (·.2) x
theorem tbl_setObj_of_links_eq (hl : ob'.links = ob.links) (hf : ob'.freed = ob.freed) (x : Nat) :
    (s.setObj a ob').tbl x = s.tbl x :=
  (HeapRel.setObj (R := fun ob ob' => ob'.links = ob.links ∧ ob'.freed = ob.freed) h ⟨hl, hf⟩).tbl (·.1) (·.2) x
theorem F_setObj_of_links_eq (hl : ob'.links = ob.links) (hf : ob'.freed = ob.freed) (x y : Nat) :
    (s.setObj a ob').F x y = s.F x y :=
  (HeapRel.setObj (R := fun ob ob' => ob'.links = ob.links ∧ ob'.freed = ob.freed) h ⟨hl, hf⟩).F (·.1) (·.2) x y
theorem B_setObj_of_links_eq (hl : ob'.links = ob.links) (hf : ob'.freed = ob.freed) (x y : Nat) :
    (s.setObj a ob').B x y = s.B x y :=
  (HeapRel.setObj (R := fun ob ob' => ob'.links = ob.links ∧ ob'.freed = ob.freed) h ⟨hl, hf⟩).B (·.1) (·.2) x y

end keep

end State
namespace State

/-! ## G. `setLinks`, `adopt`, `unadopt` -/

/-! ### `setLinks`: explicit descriptions -/

theorem setLinks_eq {s : State} {o : Nat} {ob : Obj} {t : Table} (f : Table → Table)
    (hc : s.cell o = some ob) (hl : ob.links = some t) :
    s.setLinks o f = s.setObj o { ob with links := some (f t) } := by
  simp [setLinks, hc, hl]

theorem setLinks_of_tableOf {s : State} {o : Nat} {t : Table} (f : Table → Table) (h : s.tableOf o = some t) :
    ∃ ob, s.cell o = some ob ∧ ob.links = some t ∧ s.setLinks o f = s.setObj o { ob with links := some (f t) } := by
  obtain ⟨ob, hc, hl⟩ := tableOf_eq_some s o t h
  exact ⟨ob, hc, hl, setLinks_eq f hc hl⟩

theorem setLinks_of_cell_none {s : State} {o : Nat} (f : Table → Table) (hc : s.cell o = none) :
    s.setLinks o f = s.fail (.uaf o) := by
  simp [setLinks, hc]

theorem setLinks_of_links_none {s : State} {o : Nat} {ob : Obj} (f : Table → Table)
    (hc : s.cell o = some ob) (hl : ob.links = none) : s.setLinks o f = s.fail (.movedLinks o) := by
  simp [setLinks, hc, hl]

theorem setLinks_of_tableOf_none {s : State} {o : Nat} (f : Table → Table) (h : s.tableOf o = none) :
    s.setLinks o f = s.fail (s.linksErr o) := by
  unfold tableOf at h
  cases hc : s.cell o with
  | none => simp [setLinks, linksErr, hc]
  | some ob => rw [hc] at h; simp [setLinks, linksErr, hc, show ob.links = none from h]

theorem setLinks_cases (s : State) (o : Nat) (f : Table → Table) :
    (∃ e, s.setLinks o f = s.fail e) ∨
    (∃ ob t, s.cell o = some ob ∧ ob.links = some t ∧ s.setLinks o f = s.setObj o { ob with links := some (f t) }) := by
  cases h : s.tableOf o with
  | none => exact Or.inl ⟨_, setLinks_of_tableOf_none f h⟩
  | some t =>
    obtain ⟨ob, hc, hl, he⟩ := setLinks_of_tableOf f h
    exact Or.inr ⟨ob, t, hc, hl, he⟩

theorem HeapRel.setLinks (s : State) (o : Nat) (f : Table → Table) : HeapRel Obj.SameButLinks s (s.setLinks o f) := by
  rcases setLinks_cases s o f with ⟨e, h⟩ | ⟨ob, t, hc, hl, h⟩ <;> rw [h]
  · exact .fail s e
  · exact .setObj (get_of_cell hc) ⟨rfl, rfl, rfl, rfl, rfl, by rw [hl]; rfl,
      fun hf => Bool.noConfusion ((freed_of_cell hc).symm.trans hf)⟩

/-! #### `setLinks`: untouched, unconditionally -/

@[simp] theorem setLinks_heap_length (s : State) (o : Nat) (f : Table → Table) : (s.setLinks o f).heap.length = s.heap.length :=
  (HeapRel.setLinks s o f).heap_length
@[simp] theorem setLinks_roots (s : State) (o : Nat) (f : Table → Table) : (s.setLinks o f).roots = s.roots :=
  (HeapRel.setLinks s o f).roots
@[simp] theorem setLinks_wroots (s : State) (o : Nat) (f : Table → Table) : (s.setLinks o f).wroots = s.wroots :=
  (HeapRel.setLinks s o f).wroots
@[simp] theorem setLinks_vals (s : State) (o : Nat) (f : Table → Table) : (s.setLinks o f).vals = s.vals :=
  (HeapRel.setLinks s o f).vals
@[simp] theorem setLinks_raws (s : State) (o : Nat) (f : Table → Table) : (s.setLinks o f).raws = s.raws :=
  (HeapRel.setLinks s o f).raws
@[simp] theorem setLinks_stack (s : State) (o : Nat) (f : Table → Table) : (s.setLinks o f).stack = s.stack :=
  (HeapRel.setLinks s o f).stack
@[simp] theorem setLinks_unwinding (s : State) (o : Nat) (f : Table → Table) : (s.setLinks o f).unwinding = s.unwinding :=
  (HeapRel.setLinks s o f).unwinding
@[simp] theorem setLinks_hint (s : State) (o : Nat) (f : Table → Table) : (s.setLinks o f).hint = s.hint :=
  (HeapRel.setLinks s o f).hint
@[simp] theorem setLinks_nextVid (s : State) (o : Nat) (f : Table → Table) : (s.setLinks o f).nextVid = s.nextVid :=
  (HeapRel.setLinks s o f).nextVid
@[simp] theorem ext_setLinks (s : State) (o : Nat) (f : Table → Table) (x : Nat) : (s.setLinks o f).ext x = s.ext x :=
  (HeapRel.setLinks s o f).ext x
@[simp] theorem extW_setLinks (s : State) (o : Nat) (f : Table → Table) (x : Nat) : (s.setLinks o f).extW x = s.extW x :=
  (HeapRel.setLinks s o f).extW x
@[simp] theorem pend_setLinks (s : State) (o : Nat) (f : Table → Table) (x : Nat) : (s.setLinks o f).pend x = s.pend x :=
  (HeapRel.setLinks s o f).pend x
@[simp] theorem pendW_setLinks (s : State) (o : Nat) (f : Table → Table) (x : Nat) : (s.setLinks o f).pendW x = s.pendW x :=
  (HeapRel.setLinks s o f).pendW x
@[simp] theorem owed_setLinks (s : State) (o : Nat) (f : Table → Table) (x : Nat) : (s.setLinks o f).owed x = s.owed x :=
  (HeapRel.setLinks s o f).owed x
@[simp] theorem heldOf_setLinks (s : State) (o : Nat) (f : Table → Table) (x : Nat) : (s.setLinks o f).heldOf x = s.heldOf x :=
  (HeapRel.setLinks s o f).heldOf (·.value) x
@[simp] theorem weaksOf_setLinks (s : State) (o : Nat) (f : Table → Table) (x : Nat) : (s.setLinks o f).weaksOf x = s.weaksOf x :=
  (HeapRel.setLinks s o f).weaksOf (·.value) x
@[simp] theorem H_setLinks (s : State) (o : Nat) (f : Table → Table) (x y : Nat) : (s.setLinks o f).H x y = s.H x y :=
  (HeapRel.setLinks s o f).H (·.value) x y
@[simp] theorem inHeap_setLinks (s : State) (o : Nat) (f : Table → Table) (x : Nat) : (s.setLinks o f).inHeap x = s.inHeap x :=
  (HeapRel.setLinks s o f).inHeap (·.value) x
@[simp] theorem inHeapW_setLinks (s : State) (o : Nat) (f : Table → Table) (x : Nat) : (s.setLinks o f).inHeapW x = s.inHeapW x :=
  (HeapRel.setLinks s o f).inHeapW (·.value) x
@[simp] theorem strongNat_setLinks (s : State) (o : Nat) (f : Table → Table) (x : Nat) : (s.setLinks o f).strongNat x = s.strongNat x :=
  (HeapRel.setLinks s o f).strongNat (·.strong) x
@[simp] theorem strongOf_setLinks (s : State) (o : Nat) (f : Table → Table) (x : Nat) : (s.setLinks o f).strongOf x = s.strongOf x :=
  (HeapRel.setLinks s o f).strongOf (·.strong) x
@[simp] theorem weakNat_setLinks (s : State) (o : Nat) (f : Table → Table) (x : Nat) : (s.setLinks o f).weakNat x = s.weakNat x :=
  (HeapRel.setLinks s o f).weakNat (·.weak) x
@[simp] theorem implicitNat_setLinks (s : State) (o : Nat) (f : Table → Table) (x : Nat) : (s.setLinks o f).implicitNat x = s.implicitNat x :=
  (HeapRel.setLinks s o f).implicitNat (·.implicit) x
@[simp] theorem isLive_setLinks (s : State) (o : Nat) (f : Table → Table) (x : Nat) : (s.setLinks o f).isLive x = s.isLive x :=
  (HeapRel.setLinks s o f).isLive (·.freed) (fun r => congrArg Strong.isDead r.strong) x

/-! ### `setLinks`: what changes -/

@[simp] theorem setLinks_log (s : State) (o : Nat) (f : Table → Table) : (s.setLinks o f).log = s.log := by
  rcases setLinks_cases s o f with ⟨e, h⟩ | ⟨ob, t, hc, hl, h⟩ <;> rw [h]
  · exact fail_log s e
  · rfl

theorem tableOf_setLinks (s : State) (o : Nat) (f : Table → Table) (x : Nat) :
    (s.setLinks o f).tableOf x = if x = o then (s.tableOf o).map f else s.tableOf x := by
  by_cases hx : x = o
  · subst hx
    cases h : s.tableOf x with
    | none => rw [setLinks_of_tableOf_none f h]; simp [h]
    | some t => simp [tableOf_setLinks_same s x f t h]
  · simp [hx, tableOf_setLinks_other s o x f (Ne.symm hx)]

theorem tbl_setLinks_same {s : State} {o : Nat} {t : Table} (f : Table → Table) (h : s.tableOf o = some t) :
    (s.setLinks o f).tbl o = f t := by
  simp [tbl, tableOf_setLinks, h]

theorem tbl_setLinks_other (s : State) {o x : Nat} (f : Table → Table) (h : x ≠ o) :
    (s.setLinks o f).tbl x = s.tbl x := by
  simp [tbl, tableOf_setLinks, h]

theorem tbl_setLinks_of_none {s : State} {o : Nat} (f : Table → Table) (h : s.tableOf o = none) (x : Nat) :
    (s.setLinks o f).tbl x = s.tbl x := by
  rw [setLinks_of_tableOf_none f h]; simp

theorem F_setLinks_same {s : State} {o : Nat} {t : Table} (f : Table → Table) (h : s.tableOf o = some t) (b : Nat) :
    (s.setLinks o f).F o b = (f t).get ⟨b, .fwd⟩ := by
  rw [F, tbl_setLinks_same f h]

theorem B_setLinks_same {s : State} {o : Nat} {t : Table} (f : Table → Table) (h : s.tableOf o = some t) (b : Nat) :
    (s.setLinks o f).B o b = (f t).get ⟨b, .bwd⟩ := by
  rw [B, tbl_setLinks_same f h]

theorem F_setLinks_other (s : State) {o x : Nat} (f : Table → Table) (h : x ≠ o) (b : Nat) :
    (s.setLinks o f).F x b = s.F x b := by
  rw [F, tbl_setLinks_other s f h]; rfl

theorem B_setLinks_other (s : State) {o x : Nat} (f : Table → Table) (h : x ≠ o) (b : Nat) :
    (s.setLinks o f).B x b = s.B x b := by
  rw [B, tbl_setLinks_other s f h]; rfl

theorem getElem?_setLinks_other (s : State) {o x : Nat} (f : Table → Table) (h : x ≠ o) :
    (s.setLinks o f).heap[x]? = s.heap[x]? := by
  rcases setLinks_cases s o f with ⟨e, he⟩ | ⟨ob, t, hc, hl, he⟩ <;> rw [he]
  · rw [fail_heap]
  · exact getElem?_setObj_other s _ h

theorem cell_setLinks_other (s : State) {o x : Nat} (f : Table → Table) (h : x ≠ o) :
    (s.setLinks o f).cell x = s.cell x :=
  cell_congr_get (getElem?_setLinks_other s f h)

theorem cell_setLinks_same {s : State} {o : Nat} {ob : Obj} {t : Table} (f : Table → Table)
    (hc : s.cell o = some ob) (hl : ob.links = some t) :
    (s.setLinks o f).cell o = some { ob with links := some (f t) } := by
  rw [setLinks_eq f hc hl, cell_setObj_same' _ (cell_some_lt s o ob hc)]
  simp [freed_of_cell hc]

@[simp] theorem tableOf_setLinks_isSome (s : State) (o : Nat) (f : Table → Table) (x : Nat) :
    ((s.setLinks o f).tableOf x).isSome = (s.tableOf x).isSome := by
  rw [tableOf_setLinks]; split
  · subst_vars; simp
  · rfl

@[simp] theorem cell_setLinks_isSome (s : State) (o : Nat) (f : Table → Table) (x : Nat) :
    ((s.setLinks o f).cell x).isSome = (s.cell x).isSome := by
  rcases setLinks_cases s o f with ⟨e, he⟩ | ⟨ob, t, hc, hl, he⟩ <;> rw [he]
  · simp
  · by_cases hx : x = o
    · subst hx
      rw [cell_setObj_same' _ (cell_some_lt s x ob hc), hc]
      simp [freed_of_cell hc]
    · rw [cell_setObj_other' s _ hx]

/-! ### `setLinks`: the error field -/

theorem setLinks_err_of_tableOf {s : State} {o : Nat} {t : Table} (f : Table → Table) (h : s.tableOf o = some t) :
    (s.setLinks o f).err = s.err := setLinks_err_of_some s o f t h

theorem setLinks_err_of_tableOf_none {s : State} {o : Nat} (f : Table → Table) (h : s.tableOf o = none)
    (he : s.err = none) : (s.setLinks o f).err = some (s.linksErr o) := by
  rw [setLinks_of_tableOf_none f h, fail_err_of_none s _ he]

theorem setLinks_err_eq_none_iff (s : State) (o : Nat) (f : Table → Table) :
    (s.setLinks o f).err = none ↔ s.err = none ∧ (s.tableOf o).isSome = true := by
  cases h : s.tableOf o with
  | some t => simp [setLinks_err_of_tableOf f h]
  | none =>
    rw [setLinks_of_tableOf_none f h]
    have := fail_err_isSome s (s.linksErr o)
    constructor
    · intro h'; simp [h'] at this
    · simp

theorem setLinks_err_of_some' {s : State} {e : Err} (o : Nat) (f : Table → Table) (h : s.err = some e) :
    (s.setLinks o f).err = some e := by
  rcases setLinks_cases s o f with ⟨e', he⟩ | ⟨ob, t, hc, hl, he⟩ <;> rw [he]
  · exact fail_err_of_some s e' e h
  · simpa using h

/-! ### `adopt`, `unadopt`: all counting functions are untouched -/

theorem HeapRel.adopt (s : State) (a b : Nat) (same : Bool) : HeapRel Obj.SameButLinks s (s.adopt a b same) :=
  adopt_rel (fun h h' => h.trans h' Obj.SameButLinks.trans) HeapRel.setLinks s a b same

theorem HeapRel.unadopt (s : State) (a b : Nat) (same : Bool) : HeapRel Obj.SameButLinks s (s.unadopt a b same) :=
  unadopt_rel (fun h h' => h.trans h' Obj.SameButLinks.trans) (fun s o f _ => HeapRel.setLinks s o f) s a b same

@[simp] theorem adopt_heap_length (s : State) (a b : Nat) (same : Bool) : (s.adopt a b same).heap.length = s.heap.length :=
  (HeapRel.adopt s a b same).heap_length
@[simp] theorem adopt_roots (s : State) (a b : Nat) (same : Bool) : (s.adopt a b same).roots = s.roots :=
  (HeapRel.adopt s a b same).roots
@[simp] theorem adopt_wroots (s : State) (a b : Nat) (same : Bool) : (s.adopt a b same).wroots = s.wroots :=
  (HeapRel.adopt s a b same).wroots
@[simp] theorem adopt_vals (s : State) (a b : Nat) (same : Bool) : (s.adopt a b same).vals = s.vals :=
  (HeapRel.adopt s a b same).vals
@[simp] theorem adopt_raws (s : State) (a b : Nat) (same : Bool) : (s.adopt a b same).raws = s.raws :=
  (HeapRel.adopt s a b same).raws
@[simp] theorem adopt_stack (s : State) (a b : Nat) (same : Bool) : (s.adopt a b same).stack = s.stack :=
  (HeapRel.adopt s a b same).stack
@[simp] theorem adopt_unwinding (s : State) (a b : Nat) (same : Bool) : (s.adopt a b same).unwinding = s.unwinding :=
  (HeapRel.adopt s a b same).unwinding
@[simp] theorem adopt_hint (s : State) (a b : Nat) (same : Bool) : (s.adopt a b same).hint = s.hint :=
  (HeapRel.adopt s a b same).hint
@[simp] theorem adopt_nextVid (s : State) (a b : Nat) (same : Bool) : (s.adopt a b same).nextVid = s.nextVid :=
  (HeapRel.adopt s a b same).nextVid
@[simp] theorem adopt_log (s : State) (a b : Nat) (same : Bool) : (s.adopt a b same).log = s.log := by
  cases same
  · exact (setLinks_log _ _ _).trans (setLinks_log _ _ _)
  · exact setLinks_log _ _ _
@[simp] theorem ext_adopt (s : State) (a b : Nat) (same : Bool) (x : Nat) : (s.adopt a b same).ext x = s.ext x :=
  (HeapRel.adopt s a b same).ext x
@[simp] theorem extW_adopt (s : State) (a b : Nat) (same : Bool) (x : Nat) : (s.adopt a b same).extW x = s.extW x :=
  (HeapRel.adopt s a b same).extW x
@[simp] theorem pend_adopt (s : State) (a b : Nat) (same : Bool) (x : Nat) : (s.adopt a b same).pend x = s.pend x :=
  (HeapRel.adopt s a b same).pend x
@[simp] theorem pendW_adopt (s : State) (a b : Nat) (same : Bool) (x : Nat) : (s.adopt a b same).pendW x = s.pendW x :=
  (HeapRel.adopt s a b same).pendW x
@[simp] theorem owed_adopt (s : State) (a b : Nat) (same : Bool) (x : Nat) : (s.adopt a b same).owed x = s.owed x :=
  (HeapRel.adopt s a b same).owed x
@[simp] theorem inHeap_adopt (s : State) (a b : Nat) (same : Bool) (x : Nat) : (s.adopt a b same).inHeap x = s.inHeap x :=
  (HeapRel.adopt s a b same).inHeap (·.value) x
@[simp] theorem inHeapW_adopt (s : State) (a b : Nat) (same : Bool) (x : Nat) : (s.adopt a b same).inHeapW x = s.inHeapW x :=
  (HeapRel.adopt s a b same).inHeapW (·.value) x
@[simp] theorem strongNat_adopt (s : State) (a b : Nat) (same : Bool) (x : Nat) : (s.adopt a b same).strongNat x = s.strongNat x :=
  (HeapRel.adopt s a b same).strongNat (·.strong) x
@[simp] theorem strongOf_adopt (s : State) (a b : Nat) (same : Bool) (x : Nat) : (s.adopt a b same).strongOf x = s.strongOf x :=
  (HeapRel.adopt s a b same).strongOf (·.strong) x
@[simp] theorem weakNat_adopt (s : State) (a b : Nat) (same : Bool) (x : Nat) : (s.adopt a b same).weakNat x = s.weakNat x :=
  (HeapRel.adopt s a b same).weakNat (·.weak) x
@[simp] theorem implicitNat_adopt (s : State) (a b : Nat) (same : Bool) (x : Nat) : (s.adopt a b same).implicitNat x = s.implicitNat x :=
  (HeapRel.adopt s a b same).implicitNat (·.implicit) x
@[simp] theorem isLive_adopt (s : State) (a b : Nat) (same : Bool) (x : Nat) : (s.adopt a b same).isLive x = s.isLive x :=
  (HeapRel.adopt s a b same).isLive (·.freed) (fun r => congrArg Strong.isDead r.strong) x
@[simp] theorem heldOf_adopt (s : State) (a b : Nat) (same : Bool) (x : Nat) : (s.adopt a b same).heldOf x = s.heldOf x :=
  (HeapRel.adopt s a b same).heldOf (·.value) x
@[simp] theorem weaksOf_adopt (s : State) (a b : Nat) (same : Bool) (x : Nat) : (s.adopt a b same).weaksOf x = s.weaksOf x :=
  (HeapRel.adopt s a b same).weaksOf (·.value) x
@[simp] theorem H_adopt (s : State) (a b : Nat) (same : Bool) (x y : Nat) : (s.adopt a b same).H x y = s.H x y :=
  (HeapRel.adopt s a b same).H (·.value) x y
@[simp] theorem tableOf_adopt_isSome (s : State) (a b : Nat) (same : Bool) (x : Nat) : ((s.adopt a b same).tableOf x).isSome = (s.tableOf x).isSome :=
  (HeapRel.adopt s a b same).tableOf_isSome (·.freed) (·.links_isSome) x
@[simp] theorem cell_adopt_isSome (s : State) (a b : Nat) (same : Bool) (x : Nat) : ((s.adopt a b same).cell x).isSome = (s.cell x).isSome :=
  (HeapRel.adopt s a b same).cell_isSome (·.freed) x

@[simp] theorem unadopt_heap_length (s : State) (a b : Nat) (same : Bool) : (s.unadopt a b same).heap.length = s.heap.length :=
  (HeapRel.unadopt s a b same).heap_length
@[simp] theorem unadopt_roots (s : State) (a b : Nat) (same : Bool) : (s.unadopt a b same).roots = s.roots :=
  (HeapRel.unadopt s a b same).roots
@[simp] theorem unadopt_wroots (s : State) (a b : Nat) (same : Bool) : (s.unadopt a b same).wroots = s.wroots :=
  (HeapRel.unadopt s a b same).wroots
@[simp] theorem unadopt_vals (s : State) (a b : Nat) (same : Bool) : (s.unadopt a b same).vals = s.vals :=
  (HeapRel.unadopt s a b same).vals
@[simp] theorem unadopt_raws (s : State) (a b : Nat) (same : Bool) : (s.unadopt a b same).raws = s.raws :=
  (HeapRel.unadopt s a b same).raws
@[simp] theorem unadopt_stack (s : State) (a b : Nat) (same : Bool) : (s.unadopt a b same).stack = s.stack :=
  (HeapRel.unadopt s a b same).stack
@[simp] theorem unadopt_unwinding (s : State) (a b : Nat) (same : Bool) : (s.unadopt a b same).unwinding = s.unwinding :=
  (HeapRel.unadopt s a b same).unwinding
@[simp] theorem unadopt_hint (s : State) (a b : Nat) (same : Bool) : (s.unadopt a b same).hint = s.hint :=
  (HeapRel.unadopt s a b same).hint
@[simp] theorem unadopt_nextVid (s : State) (a b : Nat) (same : Bool) : (s.unadopt a b same).nextVid = s.nextVid :=
  (HeapRel.unadopt s a b same).nextVid
@[simp] theorem unadopt_log (s : State) (a b : Nat) (same : Bool) : (s.unadopt a b same).log = s.log := by
  cases same
  · exact (setLinks_log _ _ _).trans (setLinks_log _ _ _)
  · exact setLinks_log _ _ _
@[simp] theorem ext_unadopt (s : State) (a b : Nat) (same : Bool) (x : Nat) : (s.unadopt a b same).ext x = s.ext x :=
  (HeapRel.unadopt s a b same).ext x
@[simp] theorem extW_unadopt (s : State) (a b : Nat) (same : Bool) (x : Nat) : (s.unadopt a b same).extW x = s.extW x :=
  (HeapRel.unadopt s a b same).extW x
@[simp] theorem pend_unadopt (s : State) (a b : Nat) (same : Bool) (x : Nat) : (s.unadopt a b same).pend x = s.pend x :=
  (HeapRel.unadopt s a b same).pend x
@[simp] theorem pendW_unadopt (s : State) (a b : Nat) (same : Bool) (x : Nat) : (s.unadopt a b same).pendW x = s.pendW x :=
  (HeapRel.unadopt s a b same).pendW x
@[simp] theorem owed_unadopt (s : State) (a b : Nat) (same : Bool) (x : Nat) : (s.unadopt a b same).owed x = s.owed x :=
  (HeapRel.unadopt s a b same).owed x
@[simp] theorem inHeap_unadopt (s : State) (a b : Nat) (same : Bool) (x : Nat) : (s.unadopt a b same).inHeap x = s.inHeap x :=
  (HeapRel.unadopt s a b same).inHeap (·.value) x
@[simp] theorem inHeapW_unadopt (s : State) (a b : Nat) (same : Bool) (x : Nat) : (s.unadopt a b same).inHeapW x = s.inHeapW x :=
  (HeapRel.unadopt s a b same).inHeapW (·.value) x
@[simp] theorem strongNat_unadopt (s : State) (a b : Nat) (same : Bool) (x : Nat) : (s.unadopt a b same).strongNat x = s.strongNat x :=
  (HeapRel.unadopt s a b same).strongNat (·.strong) x
@[simp] theorem strongOf_unadopt (s : State) (a b : Nat) (same : Bool) (x : Nat) : (s.unadopt a b same).strongOf x = s.strongOf x :=
  (HeapRel.unadopt s a b same).strongOf (·.strong) x
@[simp] theorem weakNat_unadopt (s : State) (a b : Nat) (same : Bool) (x : Nat) : (s.unadopt a b same).weakNat x = s.weakNat x :=
  (HeapRel.unadopt s a b same).weakNat (·.weak) x
@[simp] theorem implicitNat_unadopt (s : State) (a b : Nat) (same : Bool) (x : Nat) : (s.unadopt a b same).implicitNat x = s.implicitNat x :=
  (HeapRel.unadopt s a b same).implicitNat (·.implicit) x
@[simp] theorem isLive_unadopt (s : State) (a b : Nat) (same : Bool) (x : Nat) : (s.unadopt a b same).isLive x = s.isLive x :=
  (HeapRel.unadopt s a b same).isLive (·.freed) (fun r => congrArg Strong.isDead r.strong) x
@[simp] theorem heldOf_unadopt (s : State) (a b : Nat) (same : Bool) (x : Nat) : (s.unadopt a b same).heldOf x = s.heldOf x :=
  (HeapRel.unadopt s a b same).heldOf (·.value) x
@[simp] theorem weaksOf_unadopt (s : State) (a b : Nat) (same : Bool) (x : Nat) : (s.unadopt a b same).weaksOf x = s.weaksOf x :=
  (HeapRel.unadopt s a b same).weaksOf (·.value) x
@[simp] theorem H_unadopt (s : State) (a b : Nat) (same : Bool) (x y : Nat) : (s.unadopt a b same).H x y = s.H x y :=
  (HeapRel.unadopt s a b same).H (·.value) x y
@[simp] theorem tableOf_unadopt_isSome (s : State) (a b : Nat) (same : Bool) (x : Nat) : ((s.unadopt a b same).tableOf x).isSome = (s.tableOf x).isSome :=
  (HeapRel.unadopt s a b same).tableOf_isSome (·.freed) (·.links_isSome) x
@[simp] theorem cell_unadopt_isSome (s : State) (a b : Nat) (same : Bool) (x : Nat) : ((s.unadopt a b same).cell x).isSome = (s.cell x).isSome :=
  (HeapRel.unadopt s a b same).cell_isSome (·.freed) x

theorem adopt_same (s : State) (a b : Nat) : s.adopt a b true = s.setLinks a (·.insert ⟨a, .loop⟩) := rfl
theorem adopt_diff (s : State) (a b : Nat) :
    s.adopt a b false = (s.setLinks a (·.insert ⟨b, .fwd⟩)).setLinks b (·.insert ⟨a, .bwd⟩) := rfl
theorem unadopt_same (s : State) (a b : Nat) : s.unadopt a b true = s.setLinks a (·.remove ⟨a, .loop⟩ 1) := rfl
theorem unadopt_diff (s : State) (a b : Nat) :
    s.unadopt a b false = (s.setLinks a (·.remove ⟨b, .fwd⟩ 1)).setLinks b (·.remove ⟨a, .bwd⟩ 1) := rfl

theorem tableOf_adopt_other (s : State) {a b x : Nat} (same : Bool) (ha : x ≠ a) (hb : x ≠ b) :
    (s.adopt a b same).tableOf x = s.tableOf x := by
  unfold adopt; split <;> simp [tableOf_setLinks, ha, hb]

theorem tableOf_unadopt_other (s : State) {a b x : Nat} (same : Bool) (ha : x ≠ a) (hb : x ≠ b) :
    (s.unadopt a b same).tableOf x = s.tableOf x := by
  unfold unadopt; split <;> simp [tableOf_setLinks, ha, hb]

theorem tbl_adopt_other (s : State) {a b x : Nat} (same : Bool) (ha : x ≠ a) (hb : x ≠ b) :
    (s.adopt a b same).tbl x = s.tbl x := by simp [tbl, tableOf_adopt_other s same ha hb]

theorem tbl_unadopt_other (s : State) {a b x : Nat} (same : Bool) (ha : x ≠ a) (hb : x ≠ b) :
    (s.unadopt a b same).tbl x = s.tbl x := by simp [tbl, tableOf_unadopt_other s same ha hb]

theorem adopt_err_eq_none_iff (s : State) (a b : Nat) (same : Bool) :
    (s.adopt a b same).err = none ↔
      s.err = none ∧ (s.tableOf a).isSome = true ∧ (same = true ∨ (s.tableOf b).isSome = true) := by
  cases same <;> simp [adopt, setLinks_err_eq_none_iff, and_assoc]

theorem unadopt_err_eq_none_iff (s : State) (a b : Nat) (same : Bool) :
    (s.unadopt a b same).err = none ↔
      s.err = none ∧ (s.tableOf a).isSome = true ∧ (same = true ∨ (s.tableOf b).isSome = true) := by
  cases same <;> simp [unadopt, setLinks_err_eq_none_iff, and_assoc]

/-! ### `adopt` / `unadopt`: effect on the recorded counts -/

theorem tbl_get_setLinks (s : State) (o : Nat) (f : Table → Table) (x : Nat) (l : Link) :
    ((s.setLinks o f).tbl x).get l
      = if x = o then (((s.tableOf o).map f).getD []).get l else (s.tbl x).get l := by
  unfold tbl; rw [tableOf_setLinks]; split <;> rfl

theorem tbl_get_setLinks_of_eq (s : State) (o : Nat) {f : Table → Table} {l : Link}
    (hf : ∀ t, (f t).get l = t.get l) (x : Nat) : ((s.setLinks o f).tbl x).get l = (s.tbl x).get l := by
  rw [tbl_get_setLinks]; split
  · next h =>
    subst h; unfold tbl
    cases s.tableOf x with
    | none => rfl
    | some t => exact hf t
  · rfl

theorem tbl_get_insert (s : State) (o : Nat) (k : Link) (h : (s.tableOf o).isSome = true) (x : Nat) (l : Link) :
    ((s.setLinks o (·.insert k)).tbl x).get l = (s.tbl x).get l + (if x = o ∧ l = k then 1 else 0) := by
  obtain ⟨t, ht⟩ := Option.isSome_iff_exists.mp h
  rw [tbl_get_setLinks]
  by_cases hx : x = o
  · subst hx; rw [if_pos rfl, ht, tbl_eq_of_tableOf ht]; simp only [Option.map_some, Option.getD_some, true_and]
    exact Table.get_insert t k l
  · rw [if_neg hx, if_neg (fun h => hx h.1)]; rfl

/-- no readable table at `o`: `setLinks` fails, and `[]` reads `0 - n = 0` -/
theorem tbl_get_remove (s : State) (o : Nat) (k : Link) (n : Nat) (hw : ∀ t, s.tableOf o = some t → t.WF)
    (x : Nat) (l : Link) :
    ((s.setLinks o (·.remove k n)).tbl x).get l
      = if x = o ∧ l = k then (s.tbl o).get k - n else (s.tbl x).get l := by
  rw [tbl_get_setLinks]
  by_cases hx : x = o
  · subst hx; rw [if_pos rfl]; unfold tbl
    cases ht : s.tableOf x with
    | none => simp only [Option.map_none, Option.getD_none, Table.get_nil, Nat.zero_sub, ite_self]
    | some t => simp only [Option.map_some, Option.getD_some, true_and]; exact Table.get_remove t (hw t ht) k l n
  · rw [if_neg hx, if_neg (fun h => hx h.1)]

@[simp] theorem F_adopt_same (s : State) (a b x y : Nat) : (s.adopt a b true).F x y = s.F x y :=
  tbl_get_setLinks_of_eq s a (fun t => by rw [Table.get_insert, if_neg (by simp)]; rfl) x

@[simp] theorem B_adopt_same (s : State) (a b x y : Nat) : (s.adopt a b true).B x y = s.B x y :=
  tbl_get_setLinks_of_eq s a (fun t => by rw [Table.get_insert, if_neg (by simp)]; rfl) x

theorem F_adopt_diff {s : State} {a b : Nat} (ha : (s.tableOf a).isSome = true) (hb : (s.tableOf b).isSome = true)
    (x y : Nat) : (s.adopt a b false).F x y = s.F x y + (if x = a ∧ y = b then 1 else 0) := by
  unfold F
  rw [adopt_diff, tbl_get_setLinks_of_eq _ _ (fun t => by rw [Table.get_insert, if_neg (by simp)]; rfl),
    tbl_get_insert s a _ ha]
  simp only [Link.mk.injEq, and_true]

theorem B_adopt_diff {s : State} {a b : Nat} (ha : (s.tableOf a).isSome = true) (hb : (s.tableOf b).isSome = true)
    (x y : Nat) : (s.adopt a b false).B x y = s.B x y + (if x = b ∧ y = a then 1 else 0) := by
  unfold B
  rw [adopt_diff, tbl_get_insert _ b _ (by rw [tableOf_setLinks_isSome]; exact hb),
    tbl_get_setLinks_of_eq _ _ (fun t => by rw [Table.get_insert, if_neg (by simp)]; rfl)]
  simp only [Link.mk.injEq, and_true]

theorem F_unadopt_same {s : State} {a : Nat} {ta : Table} (hta : s.tableOf a = some ta) (hwa : ta.WF)
    (b x y : Nat) : (s.unadopt a b true).F x y = s.F x y :=
  tbl_get_setLinks_of_eq s a (fun t => Table.get_remove_of_ne t 1 (by simp)) x

theorem B_unadopt_same {s : State} {a : Nat} {ta : Table} (hta : s.tableOf a = some ta) (hwa : ta.WF)
    (b x y : Nat) : (s.unadopt a b true).B x y = s.B x y :=
  tbl_get_setLinks_of_eq s a (fun t => Table.get_remove_of_ne t 1 (by simp)) x

theorem F_unadopt_diff {s : State} {a b : Nat} {ta tb : Table} (hta : s.tableOf a = some ta)
    (htb : s.tableOf b = some tb) (hwa : ta.WF) (hwb : tb.WF) (x y : Nat) :
    (s.unadopt a b false).F x y = if x = a ∧ y = b then s.F a b - 1 else s.F x y := by
  unfold F
  rw [unadopt_diff, tbl_get_setLinks_of_eq _ _ (fun t => Table.get_remove_of_ne t 1 (by simp)),
    tbl_get_remove s a _ 1 (fun t ht => by rw [hta] at ht; cases ht; exact hwa)]
  simp only [Link.mk.injEq, and_true]

theorem B_unadopt_diff {s : State} {a b : Nat} {ta tb : Table} (hta : s.tableOf a = some ta)
    (htb : s.tableOf b = some tb) (hwa : ta.WF) (hwb : tb.WF) (x y : Nat) :
    (s.unadopt a b false).B x y = if x = b ∧ y = a then s.B b a - 1 else s.B x y := by
  unfold B
  rw [unadopt_diff, tbl_get_remove _ b _ 1,
    tbl_get_setLinks_of_eq _ _ (fun t => Table.get_remove_of_ne t 1 (by simp)),
    tbl_get_setLinks_of_eq _ _ (fun t => Table.get_remove_of_ne t 1 (by simp))]
  · simp only [Link.mk.injEq, and_true]
  · intro t ht
    rw [tableOf_setLinks] at ht
    split at ht
    · next h => subst h; rw [hta] at ht; cases ht; exact Table.WF_remove ta hwa _ _
    · rw [htb] at ht; cases ht; exact hwb

end State
namespace State

/-! ## H. `setStrong`, `incStrong`, `incWeak`, `decWeakFree`, `modVal` -/

theorem fail_err_ne_none (s : State) (e : Err) : (s.fail e).err ≠ none := by
  have := fail_err_isSome s e
  intro h; simp [h] at this

/-! ### `setStrong` -/

theorem setStrong_eq {s : State} {o : Nat} {ob : Obj} (st : Strong) (hc : s.cell o = some ob) :
    s.setStrong o st = s.setObj o { ob with strong := st } := by
  simp [setStrong, hc]

theorem setStrong_of_cell_none {s : State} {o : Nat} (st : Strong) (hc : s.cell o = none) :
    s.setStrong o st = s.fail (.uaf o) := by
  simp [setStrong, hc]

theorem setStrong_cases (s : State) (o : Nat) (st : Strong) :
    (∃ e, s.setStrong o st = s.fail e) ∨
    (∃ ob, s.cell o = some ob ∧ s.setStrong o st = s.setObj o { ob with strong := st }) := by
  cases hc : s.cell o with
  | none => exact Or.inl ⟨_, setStrong_of_cell_none st hc⟩
  | some ob => exact Or.inr ⟨ob, rfl, setStrong_eq st hc⟩

theorem HeapRel.setStrong (s : State) (o : Nat) (st : Strong) : HeapRel Obj.SameButStrong s (s.setStrong o st) := by
  rcases setStrong_cases s o st with ⟨e, h⟩ | ⟨ob, hc, h⟩ <;> rw [h]
  · exact .fail s e
  · exact .setObj (get_of_cell hc) ⟨rfl, rfl, rfl, rfl, rfl⟩

theorem setStrong_err {s : State} {o : Nat} {ob : Obj} (st : Strong) (hc : s.cell o = some ob) :
    (s.setStrong o st).err = s.err := by rw [setStrong_eq st hc]; rfl

theorem setStrong_err_eq_none_iff (s : State) (o : Nat) (st : Strong) :
    (s.setStrong o st).err = none ↔ s.err = none ∧ (s.cell o).isSome = true := by
  cases hc : s.cell o with
  | none => simp [setStrong_of_cell_none st hc, fail_err_ne_none]
  | some ob => simp [setStrong_err st hc]

theorem strongNat_setStrong_same {s : State} {o : Nat} {ob : Obj} (st : Strong) (hc : s.cell o = some ob) :
    (s.setStrong o st).strongNat o = st.toNat := by
  rw [setStrong_eq st hc, strongNat_setObj_same _ (cell_some_lt s o ob hc)]

theorem getElem?_setStrong_other (s : State) {o x : Nat} (st : Strong) (h : x ≠ o) :
    (s.setStrong o st).heap[x]? = s.heap[x]? := by
  rcases setStrong_cases s o st with ⟨e, he⟩ | ⟨ob, hc, he⟩ <;> rw [he]
  · rw [fail_heap]
  · exact getElem?_setObj_other s _ h

theorem strongNat_setStrong_other (s : State) {o x : Nat} (st : Strong) (h : x ≠ o) :
    (s.setStrong o st).strongNat x = s.strongNat x :=
  strongNat_congr_get (getElem?_setStrong_other s st h)

theorem isLive_setStrong_other (s : State) {o x : Nat} (st : Strong) (h : x ≠ o) :
    (s.setStrong o st).isLive x = s.isLive x :=
  isLive_congr_get (getElem?_setStrong_other s st h)

theorem isLive_setStrong_same {s : State} {o : Nat} {ob : Obj} (st : Strong) (hc : s.cell o = some ob) :
    (s.setStrong o st).isLive o = !st.isDead := by
  rw [setStrong_eq st hc, isLive_setObj_same _ (cell_some_lt s o ob hc)]
  simp [freed_of_cell hc]

/-! #### `setStrong`: untouched, unconditionally -/

@[simp] theorem setStrong_heap_length (s : State) (o : Nat) (st : Strong) : (s.setStrong o st).heap.length = s.heap.length :=
  (HeapRel.setStrong s o st).heap_length
@[simp] theorem setStrong_roots (s : State) (o : Nat) (st : Strong) : (s.setStrong o st).roots = s.roots :=
  (HeapRel.setStrong s o st).roots
@[simp] theorem setStrong_wroots (s : State) (o : Nat) (st : Strong) : (s.setStrong o st).wroots = s.wroots :=
  (HeapRel.setStrong s o st).wroots
@[simp] theorem setStrong_vals (s : State) (o : Nat) (st : Strong) : (s.setStrong o st).vals = s.vals :=
  (HeapRel.setStrong s o st).vals
@[simp] theorem setStrong_raws (s : State) (o : Nat) (st : Strong) : (s.setStrong o st).raws = s.raws :=
  (HeapRel.setStrong s o st).raws
@[simp] theorem setStrong_stack (s : State) (o : Nat) (st : Strong) : (s.setStrong o st).stack = s.stack :=
  (HeapRel.setStrong s o st).stack
@[simp] theorem setStrong_unwinding (s : State) (o : Nat) (st : Strong) : (s.setStrong o st).unwinding = s.unwinding :=
  (HeapRel.setStrong s o st).unwinding
@[simp] theorem setStrong_hint (s : State) (o : Nat) (st : Strong) : (s.setStrong o st).hint = s.hint :=
  (HeapRel.setStrong s o st).hint
@[simp] theorem setStrong_nextVid (s : State) (o : Nat) (st : Strong) : (s.setStrong o st).nextVid = s.nextVid :=
  (HeapRel.setStrong s o st).nextVid
@[simp] theorem ext_setStrong (s : State) (o : Nat) (st : Strong) (x : Nat) : (s.setStrong o st).ext x = s.ext x :=
  (HeapRel.setStrong s o st).ext x
@[simp] theorem extW_setStrong (s : State) (o : Nat) (st : Strong) (x : Nat) : (s.setStrong o st).extW x = s.extW x :=
  (HeapRel.setStrong s o st).extW x
@[simp] theorem pend_setStrong (s : State) (o : Nat) (st : Strong) (x : Nat) : (s.setStrong o st).pend x = s.pend x :=
  (HeapRel.setStrong s o st).pend x
@[simp] theorem pendW_setStrong (s : State) (o : Nat) (st : Strong) (x : Nat) : (s.setStrong o st).pendW x = s.pendW x :=
  (HeapRel.setStrong s o st).pendW x
@[simp] theorem owed_setStrong (s : State) (o : Nat) (st : Strong) (x : Nat) : (s.setStrong o st).owed x = s.owed x :=
  (HeapRel.setStrong s o st).owed x
@[simp] theorem heldOf_setStrong (s : State) (o : Nat) (st : Strong) (x : Nat) : (s.setStrong o st).heldOf x = s.heldOf x :=
  (HeapRel.setStrong s o st).heldOf (·.value) x
@[simp] theorem weaksOf_setStrong (s : State) (o : Nat) (st : Strong) (x : Nat) : (s.setStrong o st).weaksOf x = s.weaksOf x :=
  (HeapRel.setStrong s o st).weaksOf (·.value) x
@[simp] theorem H_setStrong (s : State) (o : Nat) (st : Strong) (x y : Nat) : (s.setStrong o st).H x y = s.H x y :=
  (HeapRel.setStrong s o st).H (·.value) x y
@[simp] theorem inHeap_setStrong (s : State) (o : Nat) (st : Strong) (x : Nat) : (s.setStrong o st).inHeap x = s.inHeap x :=
  (HeapRel.setStrong s o st).inHeap (·.value) x
@[simp] theorem inHeapW_setStrong (s : State) (o : Nat) (st : Strong) (x : Nat) : (s.setStrong o st).inHeapW x = s.inHeapW x :=
  (HeapRel.setStrong s o st).inHeapW (·.value) x
@[simp] theorem weakNat_setStrong (s : State) (o : Nat) (st : Strong) (x : Nat) : (s.setStrong o st).weakNat x = s.weakNat x :=
  (HeapRel.setStrong s o st).weakNat (·.weak) x
@[simp] theorem implicitNat_setStrong (s : State) (o : Nat) (st : Strong) (x : Nat) : (s.setStrong o st).implicitNat x = s.implicitNat x :=
  (HeapRel.setStrong s o st).implicitNat (·.implicit) x
@[simp] theorem tableOf_setStrong (s : State) (o : Nat) (st : Strong) (x : Nat) : (s.setStrong o st).tableOf x = s.tableOf x :=
  (HeapRel.setStrong s o st).tableOf (·.links) (·.freed) x
@[simp] theorem tbl_setStrong (s : State) (o : Nat) (st : Strong) (x : Nat) : (s.setStrong o st).tbl x = s.tbl x :=
  (HeapRel.setStrong s o st).tbl (·.links) (·.freed) x
@[simp] theorem F_setStrong (s : State) (o : Nat) (st : Strong) (x y : Nat) : (s.setStrong o st).F x y = s.F x y :=
  (HeapRel.setStrong s o st).F (·.links) (·.freed) x y
@[simp] theorem B_setStrong (s : State) (o : Nat) (st : Strong) (x y : Nat) : (s.setStrong o st).B x y = s.B x y :=
  (HeapRel.setStrong s o st).B (·.links) (·.freed) x y

/-! ### `incStrong` -/

theorem incStrong_eq {s : State} {o n : Nat} {ob : Obj} (hc : s.cell o = some ob) (hs : ob.strong = .cnt (n + 1)) :
    s.incStrong o = s.setObj o { ob with strong := .cnt (n + 2) } := by
  simp [incStrong, hc, hs]

theorem incStrong_of_cell_none {s : State} {o : Nat} (hc : s.cell o = none) :
    s.incStrong o = s.fail (.uaf o) := by
  simp [incStrong, hc]

theorem incStrong_of_dead {s : State} {o : Nat} {ob : Obj} (hc : s.cell o = some ob)
    (hd : ob.strong.isDead = true) : s.incStrong o = s.fail .abort := by
  rcases (Strong.isDead_eq_true_iff _).mp hd with h | h <;> simp [incStrong, hc, h]

theorem incStrong_of_isLive {s : State} {o : Nat} (h : s.isLive o = true) :
    ∃ ob n, s.cell o = some ob ∧ ob.strong = .cnt (n + 1)
      ∧ s.incStrong o = s.setObj o { ob with strong := .cnt (n + 2) } := by
  obtain ⟨ob, n, hc, hs⟩ := (isLive_iff_cell s o).mp h
  exact ⟨ob, n, hc, hs, incStrong_eq hc hs⟩

theorem incStrong_of_not_isLive {s : State} {o : Nat} (h : s.isLive o = false) :
    ∃ e, s.incStrong o = s.fail e := by
  cases hc : s.cell o with
  | none => exact ⟨_, incStrong_of_cell_none hc⟩
  | some ob =>
    refine ⟨_, incStrong_of_dead hc ?_⟩
    rw [isLive_of_cell hc] at h; simpa using h

theorem incStrong_cases (s : State) (o : Nat) :
    (∃ e, s.incStrong o = s.fail e) ∨
    (∃ ob n, s.cell o = some ob ∧ ob.strong = .cnt (n + 1)
      ∧ s.incStrong o = s.setObj o { ob with strong := .cnt (n + 2) }) := by
  cases h : s.isLive o with
  | false => exact Or.inl (incStrong_of_not_isLive h)
  | true => exact Or.inr (incStrong_of_isLive h)

/-- `incStrong` moves a positive count to a positive count: liveness is not affected -/
theorem HeapRel.incStrong (s : State) (o : Nat) :
    HeapRel (fun ob ob' => ob.SameButStrong ob' ∧ ob'.strong.isDead = ob.strong.isDead) s (s.incStrong o) := by
  rcases incStrong_cases s o with ⟨e, h⟩ | ⟨ob, n, hc, hs, h⟩ <;> rw [h]
  · exact .fail s e
  · exact .setObj (get_of_cell hc) ⟨⟨rfl, rfl, rfl, rfl, rfl⟩, by rw [hs]; rfl⟩

theorem incStrong_err {s : State} {o n : Nat} {ob : Obj} (hc : s.cell o = some ob) (hs : ob.strong = .cnt (n + 1)) :
    (s.incStrong o).err = s.err := by rw [incStrong_eq hc hs]; rfl

theorem incStrong_err_of_isLive {s : State} {o : Nat} (h : s.isLive o = true) : (s.incStrong o).err = s.err := by
  obtain ⟨ob, n, _, _, he⟩ := incStrong_of_isLive h
  rw [he]; rfl

theorem incStrong_err_eq_none_iff (s : State) (o : Nat) :
    (s.incStrong o).err = none ↔ s.err = none ∧ s.isLive o = true := by
  cases h : s.isLive o with
  | false =>
    obtain ⟨e, he⟩ := incStrong_of_not_isLive h
    simp [he, fail_err_ne_none]
  | true => simp [incStrong_err_of_isLive h]

theorem getElem?_incStrong_other (s : State) {o x : Nat} (h : x ≠ o) : (s.incStrong o).heap[x]? = s.heap[x]? := by
  rcases incStrong_cases s o with ⟨e, he⟩ | ⟨ob, n, hc, hs, he⟩ <;> rw [he]
  · rw [fail_heap]
  · exact getElem?_setObj_other s _ h

theorem strongNat_incStrong_other (s : State) {o x : Nat} (h : x ≠ o) :
    (s.incStrong o).strongNat x = s.strongNat x :=
  strongNat_congr_get (getElem?_incStrong_other s h)

theorem strongNat_incStrong {s : State} {o : Nat} (h : s.isLive o = true) (x : Nat) :
    (s.incStrong o).strongNat x = s.strongNat x + (if o = x then 1 else 0) := by
  by_cases hx : x = o
  · subst hx
    obtain ⟨ob, n, hc, hs, he⟩ := incStrong_of_isLive h
    rw [he, strongNat_setObj_same _ (cell_some_lt s x ob hc), strongNat_of_get (get_of_cell hc), hs]
    simp
  · simp [strongNat_incStrong_other s hx, Ne.symm hx]

theorem cell_incStrong_other (s : State) {o x : Nat} (h : x ≠ o) : (s.incStrong o).cell x = s.cell x :=
  cell_congr_get (getElem?_incStrong_other s h)

/-! #### `incStrong`: untouched, unconditionally -/

@[simp] theorem incStrong_heap_length (s : State) (o : Nat) : (s.incStrong o).heap.length = s.heap.length :=
  (HeapRel.incStrong s o).heap_length
@[simp] theorem incStrong_roots (s : State) (o : Nat) : (s.incStrong o).roots = s.roots := (HeapRel.incStrong s o).roots
@[simp] theorem incStrong_wroots (s : State) (o : Nat) : (s.incStrong o).wroots = s.wroots := (HeapRel.incStrong s o).wroots
@[simp] theorem incStrong_vals (s : State) (o : Nat) : (s.incStrong o).vals = s.vals := (HeapRel.incStrong s o).vals
@[simp] theorem incStrong_raws (s : State) (o : Nat) : (s.incStrong o).raws = s.raws := (HeapRel.incStrong s o).raws
@[simp] theorem incStrong_stack (s : State) (o : Nat) : (s.incStrong o).stack = s.stack := (HeapRel.incStrong s o).stack
@[simp] theorem incStrong_unwinding (s : State) (o : Nat) : (s.incStrong o).unwinding = s.unwinding :=
  (HeapRel.incStrong s o).unwinding
@[simp] theorem incStrong_hint (s : State) (o : Nat) : (s.incStrong o).hint = s.hint := (HeapRel.incStrong s o).hint
@[simp] theorem incStrong_nextVid (s : State) (o : Nat) : (s.incStrong o).nextVid = s.nextVid :=
  (HeapRel.incStrong s o).nextVid
@[simp] theorem ext_incStrong (s : State) (o : Nat) (x : Nat) : (s.incStrong o).ext x = s.ext x :=
  (HeapRel.incStrong s o).ext x
@[simp] theorem extW_incStrong (s : State) (o : Nat) (x : Nat) : (s.incStrong o).extW x = s.extW x :=
  (HeapRel.incStrong s o).extW x
@[simp] theorem pend_incStrong (s : State) (o : Nat) (x : Nat) : (s.incStrong o).pend x = s.pend x :=
  (HeapRel.incStrong s o).pend x
@[simp] theorem pendW_incStrong (s : State) (o : Nat) (x : Nat) : (s.incStrong o).pendW x = s.pendW x :=
  (HeapRel.incStrong s o).pendW x
@[simp] theorem owed_incStrong (s : State) (o : Nat) (x : Nat) : (s.incStrong o).owed x = s.owed x :=
  (HeapRel.incStrong s o).owed x
@[simp] theorem heldOf_incStrong (s : State) (o : Nat) (x : Nat) : (s.incStrong o).heldOf x = s.heldOf x :=
  (HeapRel.incStrong s o).heldOf (·.1.value) x
@[simp] theorem weaksOf_incStrong (s : State) (o : Nat) (x : Nat) : (s.incStrong o).weaksOf x = s.weaksOf x :=
  (HeapRel.incStrong s o).weaksOf (·.1.value) x
@[simp] theorem H_incStrong (s : State) (o : Nat) (x y : Nat) : (s.incStrong o).H x y = s.H x y :=
  (HeapRel.incStrong s o).H (·.1.value) x y
@[simp] theorem inHeap_incStrong (s : State) (o : Nat) (x : Nat) : (s.incStrong o).inHeap x = s.inHeap x :=
  (HeapRel.incStrong s o).inHeap (·.1.value) x
@[simp] theorem inHeapW_incStrong (s : State) (o : Nat) (x : Nat) : (s.incStrong o).inHeapW x = s.inHeapW x :=
  (HeapRel.incStrong s o).inHeapW (·.1.value) x
@[simp] theorem weakNat_incStrong (s : State) (o : Nat) (x : Nat) : (s.incStrong o).weakNat x = s.weakNat x :=
  (HeapRel.incStrong s o).weakNat (·.1.weak) x
@[simp] theorem implicitNat_incStrong (s : State) (o : Nat) (x : Nat) : (s.incStrong o).implicitNat x = s.implicitNat x :=
  (HeapRel.incStrong s o).implicitNat (·.1.implicit) x
@[simp] theorem tableOf_incStrong (s : State) (o : Nat) (x : Nat) : (s.incStrong o).tableOf x = s.tableOf x :=
  (HeapRel.incStrong s o).tableOf (·.1.links) (·.1.freed) x
@[simp] theorem tbl_incStrong (s : State) (o : Nat) (x : Nat) : (s.incStrong o).tbl x = s.tbl x :=
  (HeapRel.incStrong s o).tbl (·.1.links) (·.1.freed) x
@[simp] theorem F_incStrong (s : State) (o : Nat) (x y : Nat) : (s.incStrong o).F x y = s.F x y :=
  (HeapRel.incStrong s o).F (·.1.links) (·.1.freed) x y
@[simp] theorem B_incStrong (s : State) (o : Nat) (x y : Nat) : (s.incStrong o).B x y = s.B x y :=
  (HeapRel.incStrong s o).B (·.1.links) (·.1.freed) x y
@[simp] theorem isLive_incStrong (s : State) (o : Nat) (x : Nat) : (s.incStrong o).isLive x = s.isLive x :=
  (HeapRel.incStrong s o).isLive (·.1.freed) (·.2) x

/-! ### `incWeak` -/

theorem incWeak_eq {s : State} {o : Nat} {ob : Obj} (hc : s.cell o = some ob) (hw : ob.weak ≠ 0) :
    s.incWeak o = s.setObj o { ob with weak := ob.weak + 1 } := by
  simp [incWeak, hc, hw]

theorem incWeak_of_cell_none {s : State} {o : Nat} (hc : s.cell o = none) :
    s.incWeak o = s.fail (.uaf o) := by
  simp [incWeak, hc]

theorem incWeak_of_weak_zero {s : State} {o : Nat} {ob : Obj} (hc : s.cell o = some ob) (hw : ob.weak = 0) :
    s.incWeak o = s.fail .abort := by
  simp [incWeak, hc, hw]

theorem incWeak_cases (s : State) (o : Nat) :
    (∃ e, s.incWeak o = s.fail e) ∨
    (∃ ob, s.cell o = some ob ∧ ob.weak ≠ 0 ∧ s.incWeak o = s.setObj o { ob with weak := ob.weak + 1 }) := by
  cases hc : s.cell o with
  | none => exact Or.inl ⟨_, incWeak_of_cell_none hc⟩
  | some ob =>
    by_cases hw : ob.weak = 0
    · exact Or.inl ⟨_, incWeak_of_weak_zero hc hw⟩
    · exact Or.inr ⟨ob, rfl, hw, incWeak_eq hc hw⟩

theorem HeapRel.incWeak (s : State) (o : Nat) : HeapRel Obj.SameButWeak s (s.incWeak o) := by
  rcases incWeak_cases s o with ⟨e, h⟩ | ⟨ob, hc, hw, h⟩ <;> rw [h]
  · exact .fail s e
  · exact .setObj (get_of_cell hc) ⟨rfl, rfl, rfl, rfl, rfl⟩

theorem incWeak_err {s : State} {o : Nat} {ob : Obj} (hc : s.cell o = some ob) (hw : ob.weak ≠ 0) :
    (s.incWeak o).err = s.err := by rw [incWeak_eq hc hw]; rfl

theorem incWeak_err_eq_none_iff (s : State) (o : Nat) :
    (s.incWeak o).err = none ↔ s.err = none ∧ ∃ ob, s.cell o = some ob ∧ ob.weak ≠ 0 := by
  cases hc : s.cell o with
  | none => simp [incWeak_of_cell_none hc, fail_err_ne_none]
  | some ob =>
    by_cases hw : ob.weak = 0
    · simp [incWeak_of_weak_zero hc hw, fail_err_ne_none, hw]
    · simp [incWeak_err hc hw, hw]

theorem getElem?_incWeak_other (s : State) {o x : Nat} (h : x ≠ o) : (s.incWeak o).heap[x]? = s.heap[x]? := by
  rcases incWeak_cases s o with ⟨e, he⟩ | ⟨ob, hc, hw, he⟩ <;> rw [he]
  · rw [fail_heap]
  · exact getElem?_setObj_other s _ h

theorem weakNat_incWeak_other (s : State) {o x : Nat} (h : x ≠ o) :
    (s.incWeak o).weakNat x = s.weakNat x :=
  weakNat_congr_get (getElem?_incWeak_other s h)

theorem weakNat_incWeak {s : State} {o : Nat} {ob : Obj} (hc : s.cell o = some ob) (hw : ob.weak ≠ 0) (x : Nat) :
    (s.incWeak o).weakNat x = s.weakNat x + (if o = x then 1 else 0) := by
  by_cases hx : x = o
  · subst hx
    rw [incWeak_eq hc hw, weakNat_setObj_same _ (cell_some_lt s x ob hc), weakNat_of_get (get_of_cell hc)]
    simp
  · simp [weakNat_incWeak_other s hx, Ne.symm hx]

theorem cell_incWeak_other (s : State) {o x : Nat} (h : x ≠ o) : (s.incWeak o).cell x = s.cell x :=
  cell_congr_get (getElem?_incWeak_other s h)

/-! #### `incWeak`: untouched, unconditionally -/

@[simp] theorem incWeak_heap_length (s : State) (o : Nat) : (s.incWeak o).heap.length = s.heap.length :=
  (HeapRel.incWeak s o).heap_length
@[simp] theorem incWeak_roots (s : State) (o : Nat) : (s.incWeak o).roots = s.roots := (HeapRel.incWeak s o).roots
@[simp] theorem incWeak_wroots (s : State) (o : Nat) : (s.incWeak o).wroots = s.wroots := (HeapRel.incWeak s o).wroots
@[simp] theorem incWeak_vals (s : State) (o : Nat) : (s.incWeak o).vals = s.vals := (HeapRel.incWeak s o).vals
@[simp] theorem incWeak_raws (s : State) (o : Nat) : (s.incWeak o).raws = s.raws := (HeapRel.incWeak s o).raws
@[simp] theorem incWeak_stack (s : State) (o : Nat) : (s.incWeak o).stack = s.stack := (HeapRel.incWeak s o).stack
@[simp] theorem incWeak_unwinding (s : State) (o : Nat) : (s.incWeak o).unwinding = s.unwinding :=
  (HeapRel.incWeak s o).unwinding
@[simp] theorem incWeak_hint (s : State) (o : Nat) : (s.incWeak o).hint = s.hint := (HeapRel.incWeak s o).hint
@[simp] theorem incWeak_nextVid (s : State) (o : Nat) : (s.incWeak o).nextVid = s.nextVid := (HeapRel.incWeak s o).nextVid
@[simp] theorem ext_incWeak (s : State) (o : Nat) (x : Nat) : (s.incWeak o).ext x = s.ext x := (HeapRel.incWeak s o).ext x
@[simp] theorem extW_incWeak (s : State) (o : Nat) (x : Nat) : (s.incWeak o).extW x = s.extW x := (HeapRel.incWeak s o).extW x
@[simp] theorem pend_incWeak (s : State) (o : Nat) (x : Nat) : (s.incWeak o).pend x = s.pend x := (HeapRel.incWeak s o).pend x
@[simp] theorem pendW_incWeak (s : State) (o : Nat) (x : Nat) : (s.incWeak o).pendW x = s.pendW x :=
  (HeapRel.incWeak s o).pendW x
@[simp] theorem owed_incWeak (s : State) (o : Nat) (x : Nat) : (s.incWeak o).owed x = s.owed x := (HeapRel.incWeak s o).owed x
@[simp] theorem heldOf_incWeak (s : State) (o : Nat) (x : Nat) : (s.incWeak o).heldOf x = s.heldOf x :=
  (HeapRel.incWeak s o).heldOf (·.value) x
@[simp] theorem weaksOf_incWeak (s : State) (o : Nat) (x : Nat) : (s.incWeak o).weaksOf x = s.weaksOf x :=
  (HeapRel.incWeak s o).weaksOf (·.value) x
@[simp] theorem H_incWeak (s : State) (o : Nat) (x y : Nat) : (s.incWeak o).H x y = s.H x y :=
  (HeapRel.incWeak s o).H (·.value) x y
@[simp] theorem inHeap_incWeak (s : State) (o : Nat) (x : Nat) : (s.incWeak o).inHeap x = s.inHeap x :=
  (HeapRel.incWeak s o).inHeap (·.value) x
@[simp] theorem inHeapW_incWeak (s : State) (o : Nat) (x : Nat) : (s.incWeak o).inHeapW x = s.inHeapW x :=
  (HeapRel.incWeak s o).inHeapW (·.value) x
@[simp] theorem strongNat_incWeak (s : State) (o : Nat) (x : Nat) : (s.incWeak o).strongNat x = s.strongNat x :=
  (HeapRel.incWeak s o).strongNat (·.strong) x
@[simp] theorem strongOf_incWeak (s : State) (o : Nat) (x : Nat) : (s.incWeak o).strongOf x = s.strongOf x :=
  (HeapRel.incWeak s o).strongOf (·.strong) x
@[simp] theorem implicitNat_incWeak (s : State) (o : Nat) (x : Nat) : (s.incWeak o).implicitNat x = s.implicitNat x :=
  (HeapRel.incWeak s o).implicitNat (·.implicit) x
@[simp] theorem tableOf_incWeak (s : State) (o : Nat) (x : Nat) : (s.incWeak o).tableOf x = s.tableOf x :=
  (HeapRel.incWeak s o).tableOf (·.links) (·.freed) x
@[simp] theorem tbl_incWeak (s : State) (o : Nat) (x : Nat) : (s.incWeak o).tbl x = s.tbl x :=
  (HeapRel.incWeak s o).tbl (·.links) (·.freed) x
@[simp] theorem F_incWeak (s : State) (o : Nat) (x y : Nat) : (s.incWeak o).F x y = s.F x y :=
  (HeapRel.incWeak s o).F (·.links) (·.freed) x y
@[simp] theorem B_incWeak (s : State) (o : Nat) (x y : Nat) : (s.incWeak o).B x y = s.B x y :=
  (HeapRel.incWeak s o).B (·.links) (·.freed) x y
@[simp] theorem isLive_incWeak (s : State) (o : Nat) (x : Nat) : (s.incWeak o).isLive x = s.isLive x :=
  (HeapRel.incWeak s o).isLive (·.freed) (fun r => congrArg Strong.isDead r.strong) x

/-! ### `decWeakFree` -/

theorem decWeakFree_eq_free {s : State} {o : Nat} {ob : Obj} (imp : Bool) (hc : s.cell o = some ob)
    (hw : ob.weak = 1) :
    s.decWeakFree o imp
      = (s.setObj o { ob with weak := 0, freed := true, implicit := ob.implicit && !imp }).emit (.freed o) := by
  simp [decWeakFree, hc, hw]

theorem decWeakFree_eq_dec {s : State} {o w : Nat} {ob : Obj} (imp : Bool) (hc : s.cell o = some ob)
    (hw : ob.weak = w + 2) :
    s.decWeakFree o imp = s.setObj o { ob with weak := w + 1, implicit := ob.implicit && !imp } := by
  simp [decWeakFree, hc, hw]

theorem decWeakFree_of_cell_none {s : State} {o : Nat} (imp : Bool) (hc : s.cell o = none) :
    s.decWeakFree o imp = s.fail (.uaf o) := by
  simp [decWeakFree, hc]

theorem decWeakFree_of_weak_zero {s : State} {o : Nat} {ob : Obj} (imp : Bool) (hc : s.cell o = some ob)
    (hw : ob.weak = 0) : s.decWeakFree o imp = s.fail (.underflow o) := by
  simp [decWeakFree, hc, hw]

theorem decWeakFree_cases (s : State) (o : Nat) (imp : Bool) :
    (∃ e, s.decWeakFree o imp = s.fail e) ∨
    (∃ ob, s.cell o = some ob ∧ ob.weak = 1 ∧ s.decWeakFree o imp
        = (s.setObj o { ob with weak := 0, freed := true, implicit := ob.implicit && !imp }).emit (.freed o)) ∨
    (∃ ob w, s.cell o = some ob ∧ ob.weak = w + 2 ∧ s.decWeakFree o imp
        = s.setObj o { ob with weak := w + 1, implicit := ob.implicit && !imp }) := by
  cases hc : s.cell o with
  | none => exact Or.inl ⟨_, decWeakFree_of_cell_none imp hc⟩
  | some ob =>
    match hw : ob.weak with
    | 0 => exact Or.inl ⟨_, decWeakFree_of_weak_zero imp hc hw⟩
    | 1 => exact Or.inr (Or.inl ⟨ob, rfl, hw, decWeakFree_eq_free imp hc hw⟩)
    | w + 2 => exact Or.inr (Or.inr ⟨ob, w, rfl, hw, decWeakFree_eq_dec imp hc hw⟩)

/-- `Clone for Node` changes counters only -/
theorem HeapRel.cloneHandles (s : State) (v : Val) :
    HeapRel (fun ob ob' => ob'.value = ob.value) s (s.cloneHandles v) :=
  cloneHandles_rel (R := HeapRel _) HeapRel.refl (fun h h' => h.trans h' fun r r' => r'.trans r)
    (fun s o => (HeapRel.incStrong s o).mono (·.1.value)) (fun s o => (HeapRel.incWeak s o).mono (·.value)) s v

theorem HeapRel.decWeakFree (s : State) (o : Nat) (imp : Bool) : HeapRel Obj.SameButWeakFreed s (s.decWeakFree o imp) := by
  rcases decWeakFree_cases s o imp with ⟨e, h⟩ | ⟨ob, hc, hw, h⟩ | ⟨ob, w, hc, hw, h⟩ <;> rw [h]
  · exact .fail s e
  · exact (HeapRel.setObj (get_of_cell hc) ⟨rfl, rfl, rfl⟩).emit _
  · exact .setObj (get_of_cell hc) ⟨rfl, rfl, rfl⟩

theorem decWeakFree_err {s : State} {o : Nat} {ob : Obj} (imp : Bool) (hc : s.cell o = some ob) (hw : ob.weak ≠ 0) :
    (s.decWeakFree o imp).err = s.err := by
  match hw' : ob.weak with
  | 0 => exact absurd hw' hw
  | 1 => rw [decWeakFree_eq_free imp hc hw']; rfl
  | w + 2 => rw [decWeakFree_eq_dec imp hc hw']; rfl

theorem decWeakFree_err_eq_none_iff (s : State) (o : Nat) (imp : Bool) :
    (s.decWeakFree o imp).err = none ↔ s.err = none ∧ ∃ ob, s.cell o = some ob ∧ ob.weak ≠ 0 := by
  cases hc : s.cell o with
  | none => simp [decWeakFree_of_cell_none imp hc, fail_err_ne_none]
  | some ob =>
    by_cases hw : ob.weak = 0
    · simp [decWeakFree_of_weak_zero imp hc hw, fail_err_ne_none, hw]
    · simp [decWeakFree_err imp hc hw, hw]

theorem getElem?_decWeakFree_same {s : State} {o : Nat} {ob : Obj} (imp : Bool) (hc : s.cell o = some ob)
    (hw : ob.weak ≠ 0) :
    (s.decWeakFree o imp).heap[o]?
      = some { ob with weak := ob.weak - 1, freed := decide (ob.weak = 1), implicit := ob.implicit && !imp } := by
  have hlt := cell_some_lt s o ob hc
  match hw' : ob.weak with
  | 0 => exact absurd hw' hw
  | 1 => rw [decWeakFree_eq_free imp hc hw', emit_heap, getElem?_setObj_same _ hlt]; rfl
  | w + 2 =>
    rw [decWeakFree_eq_dec imp hc hw', getElem?_setObj_same _ hlt]
    simp [freed_of_cell hc]

theorem getElem?_decWeakFree_other (s : State) {o x : Nat} (imp : Bool) (h : x ≠ o) :
    (s.decWeakFree o imp).heap[x]? = s.heap[x]? := by
  rcases decWeakFree_cases s o imp with ⟨e, he⟩ | ⟨ob, hc, hw, he⟩ | ⟨ob, w, hc, hw, he⟩ <;> rw [he]
  · rw [fail_heap]
  · exact getElem?_setObj_other s _ h
  · exact getElem?_setObj_other s _ h

theorem weakNat_decWeakFree_other (s : State) {o x : Nat} (imp : Bool) (h : x ≠ o) :
    (s.decWeakFree o imp).weakNat x = s.weakNat x :=
  weakNat_congr_get (getElem?_decWeakFree_other s imp h)

theorem weakNat_decWeakFree {s : State} {o : Nat} {ob : Obj} (imp : Bool) (hc : s.cell o = some ob)
    (hw : ob.weak ≠ 0) (x : Nat) :
    (s.decWeakFree o imp).weakNat x + (if o = x then 1 else 0) = s.weakNat x := by
  by_cases hx : x = o
  · subst hx
    rw [weakNat_of_get (getElem?_decWeakFree_same imp hc hw), weakNat_of_get (get_of_cell hc)]
    simp; omega
  · simp [weakNat_decWeakFree_other s imp hx, Ne.symm hx]

theorem implicitNat_decWeakFree_other (s : State) {o x : Nat} (imp : Bool) (h : x ≠ o) :
    (s.decWeakFree o imp).implicitNat x = s.implicitNat x :=
  implicitNat_congr_get (getElem?_decWeakFree_other s imp h)

theorem implicitNat_decWeakFree_same {s : State} {o : Nat} {ob : Obj} (imp : Bool) (hc : s.cell o = some ob)
    (hw : ob.weak ≠ 0) :
    (s.decWeakFree o imp).implicitNat o = if imp then 0 else s.implicitNat o := by
  rw [implicitNat_of_get (getElem?_decWeakFree_same imp hc hw), implicitNat_of_get (get_of_cell hc)]
  cases imp <;> simp

@[simp] theorem implicitNat_decWeakFree_false (s : State) (o x : Nat) :
    (s.decWeakFree o false).implicitNat x = s.implicitNat x := by
  rcases decWeakFree_cases s o false with ⟨e, he⟩ | ⟨ob, hc, hw, he⟩ | ⟨ob, w, hc, hw, he⟩ <;> rw [he]
  · simp
  · rw [implicitNat_emit]; exact implicitNat_setObj_of_implicit_eq (get_of_cell hc) (by simp) x
  · exact implicitNat_setObj_of_implicit_eq (get_of_cell hc) (by simp) x

theorem cell_decWeakFree_other (s : State) {o x : Nat} (imp : Bool) (h : x ≠ o) :
    (s.decWeakFree o imp).cell x = s.cell x :=
  cell_congr_get (getElem?_decWeakFree_other s imp h)

theorem isLive_decWeakFree_other (s : State) {o x : Nat} (imp : Bool) (h : x ≠ o) :
    (s.decWeakFree o imp).isLive x = s.isLive x :=
  isLive_congr_get (getElem?_decWeakFree_other s imp h)

theorem tableOf_decWeakFree_other (s : State) {o x : Nat} (imp : Bool) (h : x ≠ o) :
    (s.decWeakFree o imp).tableOf x = s.tableOf x :=
  tableOf_congr_get (getElem?_decWeakFree_other s imp h)

theorem tbl_decWeakFree_other (s : State) {o x : Nat} (imp : Bool) (h : x ≠ o) :
    (s.decWeakFree o imp).tbl x = s.tbl x :=
  tbl_congr_get (getElem?_decWeakFree_other s imp h)

theorem cell_decWeakFree_same {s : State} {o : Nat} {ob : Obj} (imp : Bool) (hc : s.cell o = some ob)
    (hw : ob.weak ≠ 0) :
    (s.decWeakFree o imp).cell o
      = if ob.weak = 1 then none
        else some { ob with weak := ob.weak - 1, freed := false, implicit := ob.implicit && !imp } := by
  rw [cell_of_get (getElem?_decWeakFree_same imp hc hw)]
  by_cases h1 : ob.weak = 1 <;> simp [h1]

theorem isLive_decWeakFree_same {s : State} {o : Nat} {ob : Obj} (imp : Bool) (hc : s.cell o = some ob)
    (hw : ob.weak ≠ 0) :
    (s.decWeakFree o imp).isLive o = (decide (ob.weak ≠ 1) && s.isLive o) := by
  rw [isLive_of_get (getElem?_decWeakFree_same imp hc hw), isLive_of_cell hc]
  by_cases h1 : ob.weak = 1 <;> simp [h1]

theorem isLive_decWeakFree_le (s : State) (o : Nat) (imp : Bool) (x : Nat)
    (h : (s.decWeakFree o imp).isLive x = true) : s.isLive x = true := by
  by_cases hx : x = o
  · subst hx
    cases hc : s.cell x with
    | none => rw [decWeakFree_of_cell_none imp hc] at h; simpa using h
    | some ob =>
      by_cases hw : ob.weak = 0
      · rw [decWeakFree_of_weak_zero imp hc hw] at h; simpa using h
      · rw [isLive_decWeakFree_same imp hc hw] at h; simp at h; exact h.2
  · rwa [isLive_decWeakFree_other s imp hx] at h

/-! #### `decWeakFree`: untouched, unconditionally -/

@[simp] theorem decWeakFree_heap_length (s : State) (o : Nat) (imp : Bool) : (s.decWeakFree o imp).heap.length = s.heap.length :=
  (HeapRel.decWeakFree s o imp).heap_length
@[simp] theorem decWeakFree_roots (s : State) (o : Nat) (imp : Bool) : (s.decWeakFree o imp).roots = s.roots :=
  (HeapRel.decWeakFree s o imp).roots
@[simp] theorem decWeakFree_wroots (s : State) (o : Nat) (imp : Bool) : (s.decWeakFree o imp).wroots = s.wroots :=
  (HeapRel.decWeakFree s o imp).wroots
@[simp] theorem decWeakFree_vals (s : State) (o : Nat) (imp : Bool) : (s.decWeakFree o imp).vals = s.vals :=
  (HeapRel.decWeakFree s o imp).vals
@[simp] theorem decWeakFree_raws (s : State) (o : Nat) (imp : Bool) : (s.decWeakFree o imp).raws = s.raws :=
  (HeapRel.decWeakFree s o imp).raws
@[simp] theorem decWeakFree_stack_imp (s : State) (o : Nat) (imp : Bool) : (s.decWeakFree o imp).stack = s.stack :=
  (HeapRel.decWeakFree s o imp).stack
@[simp] theorem decWeakFree_unwinding (s : State) (o : Nat) (imp : Bool) : (s.decWeakFree o imp).unwinding = s.unwinding :=
  (HeapRel.decWeakFree s o imp).unwinding
@[simp] theorem decWeakFree_hint (s : State) (o : Nat) (imp : Bool) : (s.decWeakFree o imp).hint = s.hint :=
  (HeapRel.decWeakFree s o imp).hint
@[simp] theorem decWeakFree_nextVid (s : State) (o : Nat) (imp : Bool) : (s.decWeakFree o imp).nextVid = s.nextVid :=
  (HeapRel.decWeakFree s o imp).nextVid
@[simp] theorem ext_decWeakFree (s : State) (o : Nat) (imp : Bool) (x : Nat) : (s.decWeakFree o imp).ext x = s.ext x :=
  (HeapRel.decWeakFree s o imp).ext x
@[simp] theorem extW_decWeakFree (s : State) (o : Nat) (imp : Bool) (x : Nat) : (s.decWeakFree o imp).extW x = s.extW x :=
  (HeapRel.decWeakFree s o imp).extW x
@[simp] theorem pend_decWeakFree (s : State) (o : Nat) (imp : Bool) (x : Nat) : (s.decWeakFree o imp).pend x = s.pend x :=
  (HeapRel.decWeakFree s o imp).pend x
@[simp] theorem pendW_decWeakFree (s : State) (o : Nat) (imp : Bool) (x : Nat) : (s.decWeakFree o imp).pendW x = s.pendW x :=
  (HeapRel.decWeakFree s o imp).pendW x
@[simp] theorem owed_decWeakFree (s : State) (o : Nat) (imp : Bool) (x : Nat) : (s.decWeakFree o imp).owed x = s.owed x :=
  (HeapRel.decWeakFree s o imp).owed x
@[simp] theorem heldOf_decWeakFree (s : State) (o : Nat) (imp : Bool) (x : Nat) : (s.decWeakFree o imp).heldOf x = s.heldOf x :=
  (HeapRel.decWeakFree s o imp).heldOf (·.value) x
@[simp] theorem weaksOf_decWeakFree (s : State) (o : Nat) (imp : Bool) (x : Nat) : (s.decWeakFree o imp).weaksOf x = s.weaksOf x :=
  (HeapRel.decWeakFree s o imp).weaksOf (·.value) x
@[simp] theorem H_decWeakFree (s : State) (o : Nat) (imp : Bool) (x y : Nat) : (s.decWeakFree o imp).H x y = s.H x y :=
  (HeapRel.decWeakFree s o imp).H (·.value) x y
@[simp] theorem inHeap_decWeakFree (s : State) (o : Nat) (imp : Bool) (x : Nat) : (s.decWeakFree o imp).inHeap x = s.inHeap x :=
  (HeapRel.decWeakFree s o imp).inHeap (·.value) x
@[simp] theorem inHeapW_decWeakFree (s : State) (o : Nat) (imp : Bool) (x : Nat) : (s.decWeakFree o imp).inHeapW x = s.inHeapW x :=
  (HeapRel.decWeakFree s o imp).inHeapW (·.value) x
@[simp] theorem strongNat_decWeakFree (s : State) (o : Nat) (imp : Bool) (x : Nat) : (s.decWeakFree o imp).strongNat x = s.strongNat x :=
  (HeapRel.decWeakFree s o imp).strongNat (·.strong) x
@[simp] theorem strongOf_decWeakFree (s : State) (o : Nat) (imp : Bool) (x : Nat) : (s.decWeakFree o imp).strongOf x = s.strongOf x :=
  (HeapRel.decWeakFree s o imp).strongOf (·.strong) x

/-! ### `modVal`, `valOf` -/

theorem valOf_of_cell {s : State} {o : Nat} {ob : Obj} (hc : s.cell o = some ob) : s.valOf o = ob.value := by
  simp [valOf, hc]

theorem valOf_of_cell_none {s : State} {o : Nat} (hc : s.cell o = none) : s.valOf o = none := by
  simp [valOf, hc]

theorem valOf_eq_some_iff (s : State) (o : Nat) (v : Val) :
    s.valOf o = some v ↔ ∃ ob, s.cell o = some ob ∧ ob.value = some v := by
  cases hc : s.cell o with
  | none => simp [valOf_of_cell_none hc]
  | some ob => simp [valOf_of_cell hc]

theorem heldOf_of_valOf {s : State} {o : Nat} {v : Val} (h : s.valOf o = some v) : s.heldOf o = v.held := by
  obtain ⟨ob, hc, hv⟩ := (valOf_eq_some_iff s o v).mp h
  rw [heldOf_of_get (get_of_cell hc), Obj.heldList_of_some hv]

theorem weaksOf_of_valOf {s : State} {o : Nat} {v : Val} (h : s.valOf o = some v) : s.weaksOf o = v.weaks := by
  obtain ⟨ob, hc, hv⟩ := (valOf_eq_some_iff s o v).mp h
  rw [weaksOf_of_get (get_of_cell hc), Obj.weakList_of_some hv]

theorem modVal_eq {s : State} {o : Nat} {ob : Obj} {v : Val} (f : Val → Val) (hc : s.cell o = some ob)
    (hv : ob.value = some v) : s.modVal o f = s.setObj o { ob with value := some (f v) } := by
  simp [modVal, hc, hv]

theorem modVal_of_cell_none {s : State} {o : Nat} (f : Val → Val) (hc : s.cell o = none) :
    s.modVal o f = s.fail (.uaf o) := by
  simp [modVal, hc]

theorem modVal_of_value_none {s : State} {o : Nat} {ob : Obj} (f : Val → Val) (hc : s.cell o = some ob)
    (hv : ob.value = none) : s.modVal o f = s.fail (.movedValue o) := by
  simp [modVal, hc, hv]

theorem modVal_of_valOf {s : State} {o : Nat} {v : Val} (f : Val → Val) (h : s.valOf o = some v) :
    ∃ ob, s.cell o = some ob ∧ ob.value = some v ∧ s.modVal o f = s.setObj o { ob with value := some (f v) } := by
  obtain ⟨ob, hc, hv⟩ := (valOf_eq_some_iff s o v).mp h
  exact ⟨ob, hc, hv, modVal_eq f hc hv⟩

theorem modVal_cases (s : State) (o : Nat) (f : Val → Val) :
    (∃ e, s.modVal o f = s.fail e) ∨
    (∃ ob v, s.cell o = some ob ∧ ob.value = some v ∧ s.modVal o f = s.setObj o { ob with value := some (f v) }) := by
  cases hc : s.cell o with
  | none => exact Or.inl ⟨_, modVal_of_cell_none f hc⟩
  | some ob =>
    cases hv : ob.value with
    | none => exact Or.inl ⟨_, modVal_of_value_none f hc hv⟩
    | some v => exact Or.inr ⟨ob, v, rfl, hv, modVal_eq f hc hv⟩

theorem HeapRel.modVal (s : State) (o : Nat) (f : Val → Val) : HeapRel Obj.SameButValue s (s.modVal o f) := by
  rcases modVal_cases s o f with ⟨e, h⟩ | ⟨ob, v, hc, hv, h⟩ <;> rw [h]
  · exact .fail s e
  · exact .setObj (get_of_cell hc) ⟨rfl, rfl, rfl, rfl, rfl⟩

theorem modVal_err {s : State} {o : Nat} {v : Val} (f : Val → Val) (h : s.valOf o = some v) :
    (s.modVal o f).err = s.err := by
  obtain ⟨ob, _, _, he⟩ := modVal_of_valOf f h
  rw [he]; rfl

theorem modVal_err_eq_none_iff (s : State) (o : Nat) (f : Val → Val) :
    (s.modVal o f).err = none ↔ s.err = none ∧ (s.valOf o).isSome = true := by
  cases hv : s.valOf o with
  | some v => simp [modVal_err f hv]
  | none =>
    have : ∃ e, s.modVal o f = s.fail e := by
      rcases modVal_cases s o f with h | ⟨ob, v, hc, hv', _⟩
      · exact h
      · rw [valOf_of_cell hc, hv'] at hv; cases hv
    obtain ⟨e, he⟩ := this
    simp [he, fail_err_ne_none]

theorem valOf_modVal_same {s : State} {o : Nat} {v : Val} (f : Val → Val) (h : s.valOf o = some v) :
    (s.modVal o f).valOf o = some (f v) := by
  obtain ⟨ob, hc, hv, he⟩ := modVal_of_valOf f h
  rw [he, valOf, cell_setObj_same' _ (cell_some_lt s o ob hc)]
  simp [freed_of_cell hc]

theorem heldOf_modVal_same {s : State} {o : Nat} {v : Val} (f : Val → Val) (h : s.valOf o = some v) :
    (s.modVal o f).heldOf o = (f v).held := heldOf_of_valOf (valOf_modVal_same f h)

theorem weaksOf_modVal_same {s : State} {o : Nat} {v : Val} (f : Val → Val) (h : s.valOf o = some v) :
    (s.modVal o f).weaksOf o = (f v).weaks := weaksOf_of_valOf (valOf_modVal_same f h)

theorem getElem?_modVal_other (s : State) {o x : Nat} (f : Val → Val) (h : x ≠ o) :
    (s.modVal o f).heap[x]? = s.heap[x]? := by
  rcases modVal_cases s o f with ⟨e, he⟩ | ⟨ob, v, hc, hv, he⟩ <;> rw [he]
  · rw [fail_heap]
  · exact getElem?_setObj_other s _ h

theorem cell_modVal_other (s : State) {o x : Nat} (f : Val → Val) (h : x ≠ o) :
    (s.modVal o f).cell x = s.cell x :=
  cell_congr_get (getElem?_modVal_other s f h)

theorem heldOf_modVal_other (s : State) {o x : Nat} (f : Val → Val) (h : x ≠ o) :
    (s.modVal o f).heldOf x = s.heldOf x :=
  heldOf_congr_get (getElem?_modVal_other s f h)

theorem weaksOf_modVal_other (s : State) {o x : Nat} (f : Val → Val) (h : x ≠ o) :
    (s.modVal o f).weaksOf x = s.weaksOf x :=
  weaksOf_congr_get (getElem?_modVal_other s f h)

theorem valOf_modVal_other (s : State) {o x : Nat} (f : Val → Val) (h : x ≠ o) :
    (s.modVal o f).valOf x = s.valOf x := by
  unfold valOf; rw [cell_modVal_other s f h]

theorem H_modVal_other (s : State) {o x : Nat} (f : Val → Val) (h : x ≠ o) (t : Nat) :
    (s.modVal o f).H x t = s.H x t :=
  H_congr_get (getElem?_modVal_other s f h) t

theorem inHeap_modVal {s : State} {o : Nat} {v : Val} (f : Val → Val) (h : s.valOf o = some v) (t : Nat) :
    (s.modVal o f).inHeap t + v.held.count t = s.inHeap t + (f v).held.count t := by
  obtain ⟨ob, hc, hv, he⟩ := modVal_of_valOf f h
  rw [he]; exact inHeap_setObj_replace _ (get_of_cell hc) hv rfl t

theorem inHeapW_modVal {s : State} {o : Nat} {v : Val} (f : Val → Val) (h : s.valOf o = some v) (t : Nat) :
    (s.modVal o f).inHeapW t + v.weaks.count t = s.inHeapW t + (f v).weaks.count t := by
  obtain ⟨ob, hc, hv, he⟩ := modVal_of_valOf f h
  rw [he]; exact inHeapW_setObj_replace _ (get_of_cell hc) hv rfl t

/-- updates that keep the handle lists (`setScript`, `setPanic`) -/
theorem inHeap_modVal_of_held_eq (s : State) (o : Nat) (f : Val → Val) (hf : ∀ v, (f v).held = v.held) (t : Nat) :
    (s.modVal o f).inHeap t = s.inHeap t := by
  cases hv : s.valOf o with
  | some v => have := inHeap_modVal f hv t; rw [hf v] at this; omega
  | none =>
    rcases modVal_cases s o f with ⟨e, he⟩ | ⟨ob, v, hc, hv', _⟩
    · rw [he]; simp
    · rw [valOf_of_cell hc, hv'] at hv; cases hv

theorem inHeapW_modVal_of_weaks_eq (s : State) (o : Nat) (f : Val → Val) (hf : ∀ v, (f v).weaks = v.weaks) (t : Nat) :
    (s.modVal o f).inHeapW t = s.inHeapW t := by
  cases hv : s.valOf o with
  | some v => have := inHeapW_modVal f hv t; rw [hf v] at this; omega
  | none =>
    rcases modVal_cases s o f with ⟨e, he⟩ | ⟨ob, v, hc, hv', _⟩
    · rw [he]; simp
    · rw [valOf_of_cell hc, hv'] at hv; cases hv

/-! #### `modVal`: untouched, unconditionally -/

@[simp] theorem modVal_heap_length (s : State) (o : Nat) (f : Val → Val) : (s.modVal o f).heap.length = s.heap.length :=
  (HeapRel.modVal s o f).heap_length
@[simp] theorem modVal_roots (s : State) (o : Nat) (f : Val → Val) : (s.modVal o f).roots = s.roots :=
  (HeapRel.modVal s o f).roots
@[simp] theorem modVal_wroots (s : State) (o : Nat) (f : Val → Val) : (s.modVal o f).wroots = s.wroots :=
  (HeapRel.modVal s o f).wroots
@[simp] theorem modVal_vals (s : State) (o : Nat) (f : Val → Val) : (s.modVal o f).vals = s.vals :=
  (HeapRel.modVal s o f).vals
@[simp] theorem modVal_raws (s : State) (o : Nat) (f : Val → Val) : (s.modVal o f).raws = s.raws :=
  (HeapRel.modVal s o f).raws
@[simp] theorem modVal_stack (s : State) (o : Nat) (f : Val → Val) : (s.modVal o f).stack = s.stack :=
  (HeapRel.modVal s o f).stack
@[simp] theorem modVal_unwinding (s : State) (o : Nat) (f : Val → Val) : (s.modVal o f).unwinding = s.unwinding :=
  (HeapRel.modVal s o f).unwinding
@[simp] theorem modVal_hint (s : State) (o : Nat) (f : Val → Val) : (s.modVal o f).hint = s.hint :=
  (HeapRel.modVal s o f).hint
@[simp] theorem modVal_nextVid (s : State) (o : Nat) (f : Val → Val) : (s.modVal o f).nextVid = s.nextVid :=
  (HeapRel.modVal s o f).nextVid
@[simp] theorem ext_modVal (s : State) (o : Nat) (f : Val → Val) (x : Nat) : (s.modVal o f).ext x = s.ext x :=
  (HeapRel.modVal s o f).ext x
@[simp] theorem extW_modVal (s : State) (o : Nat) (f : Val → Val) (x : Nat) : (s.modVal o f).extW x = s.extW x :=
  (HeapRel.modVal s o f).extW x
@[simp] theorem pend_modVal (s : State) (o : Nat) (f : Val → Val) (x : Nat) : (s.modVal o f).pend x = s.pend x :=
  (HeapRel.modVal s o f).pend x
@[simp] theorem pendW_modVal (s : State) (o : Nat) (f : Val → Val) (x : Nat) : (s.modVal o f).pendW x = s.pendW x :=
  (HeapRel.modVal s o f).pendW x
@[simp] theorem owed_modVal (s : State) (o : Nat) (f : Val → Val) (x : Nat) : (s.modVal o f).owed x = s.owed x :=
  (HeapRel.modVal s o f).owed x
@[simp] theorem strongNat_modVal (s : State) (o : Nat) (f : Val → Val) (x : Nat) : (s.modVal o f).strongNat x = s.strongNat x :=
  (HeapRel.modVal s o f).strongNat (·.strong) x
@[simp] theorem strongOf_modVal (s : State) (o : Nat) (f : Val → Val) (x : Nat) : (s.modVal o f).strongOf x = s.strongOf x :=
  (HeapRel.modVal s o f).strongOf (·.strong) x
@[simp] theorem weakNat_modVal (s : State) (o : Nat) (f : Val → Val) (x : Nat) : (s.modVal o f).weakNat x = s.weakNat x :=
  (HeapRel.modVal s o f).weakNat (·.weak) x
@[simp] theorem implicitNat_modVal (s : State) (o : Nat) (f : Val → Val) (x : Nat) : (s.modVal o f).implicitNat x = s.implicitNat x :=
  (HeapRel.modVal s o f).implicitNat (·.implicit) x
@[simp] theorem isLive_modVal (s : State) (o : Nat) (f : Val → Val) (x : Nat) : (s.modVal o f).isLive x = s.isLive x :=
  (HeapRel.modVal s o f).isLive (·.freed) (fun r => congrArg Strong.isDead r.strong) x
@[simp] theorem tableOf_modVal (s : State) (o : Nat) (f : Val → Val) (x : Nat) : (s.modVal o f).tableOf x = s.tableOf x :=
  (HeapRel.modVal s o f).tableOf (·.links) (·.freed) x
@[simp] theorem tbl_modVal (s : State) (o : Nat) (f : Val → Val) (x : Nat) : (s.modVal o f).tbl x = s.tbl x :=
  (HeapRel.modVal s o f).tbl (·.links) (·.freed) x
@[simp] theorem F_modVal (s : State) (o : Nat) (f : Val → Val) (x y : Nat) : (s.modVal o f).F x y = s.F x y :=
  (HeapRel.modVal s o f).F (·.links) (·.freed) x y
@[simp] theorem B_modVal (s : State) (o : Nat) (f : Val → Val) (x y : Nat) : (s.modVal o f).B x y = s.B x y :=
  (HeapRel.modVal s o f).B (·.links) (·.freed) x y

/-! ### `log` is untouched by the operations that do not emit -/

@[simp] theorem setStrong_log (s : State) (o : Nat) (st : Strong) : (s.setStrong o st).log = s.log := by
  rcases setStrong_cases s o st with ⟨e, h⟩ | ⟨ob, hc, h⟩ <;> rw [h]
  · exact fail_log s e
  · rfl
@[simp] theorem incStrong_log (s : State) (o : Nat) : (s.incStrong o).log = s.log := by
  rcases incStrong_cases s o with ⟨e, h⟩ | ⟨ob, n, hc, hs, h⟩ <;> rw [h]
  · exact fail_log s e
  · rfl
@[simp] theorem incWeak_log (s : State) (o : Nat) : (s.incWeak o).log = s.log := by
  rcases incWeak_cases s o with ⟨e, h⟩ | ⟨ob, hc, hw, h⟩ <;> rw [h]
  · exact fail_log s e
  · rfl
@[simp] theorem modVal_log (s : State) (o : Nat) (f : Val → Val) : (s.modVal o f).log = s.log := by
  rcases modVal_cases s o f with ⟨e, h⟩ | ⟨ob, v, hc, hv, h⟩ <;> rw [h]
  · exact fail_log s e
  · rfl

end State

/-! ## J. Selectors (`nthMod`, `idxMod`, `useRoot`, `badRoot`): bridge to sections D and B -/

theorem getElem?_idxMod_of_nthMod {α : Type} {l : List α} {i : Nat} {a : α} (h : nthMod l i = some a) :
    l[idxMod l i]? = some a := by
  cases l with
  | nil => cases h
  | cons b l => exact h

theorem nthMod_eq_getElem?_idxMod {α : Type} (l : List α) (i : Nat) (h : l ≠ []) :
    nthMod l i = l[idxMod l i]? := by
  cases l with
  | nil => exact absurd rfl h
  | cons b l => rfl

theorem mem_of_nthMod {α : Type} {l : List α} {i : Nat} {a : α} (h : nthMod l i = some a) : a ∈ l :=
  List.mem_of_getElem? (getElem?_idxMod_of_nthMod h)

@[simp] theorem nthMod_nil {α : Type} (i : Nat) : nthMod ([] : List α) i = none := rfl

namespace State

theorem useRoot_eq_some_iff (s : State) (r o : Nat) :
    s.useRoot r = some o ↔ nthMod s.roots r = some o ∧ s.isLive o = true := by
  unfold useRoot
  cases h : nthMod s.roots r with
  | none => simp
  | some o' =>
    by_cases hl : s.isLive o' = true
    · simp only [hl, if_true, Option.some.injEq]
      constructor
      · rintro rfl; exact ⟨rfl, hl⟩
      · rintro ⟨rfl, _⟩; rfl
    · simp only [hl, Option.some.injEq]
      constructor
      · intro h'; cases h'
      · rintro ⟨rfl, h'⟩; exact absurd h' hl

theorem useRoot_some {s : State} {r o : Nat} (h : s.useRoot r = some o) :
    s.roots[idxMod s.roots r]? = some o ∧ s.isLive o = true :=
  ⟨getElem?_idxMod_of_nthMod ((useRoot_eq_some_iff s r o).mp h).1, ((useRoot_eq_some_iff s r o).mp h).2⟩

theorem ext_pos_of_useRoot {s : State} {r o : Nat} (h : s.useRoot r = some o) : 0 < s.ext o :=
  ext_pos_of_mem_roots (mem_of_nthMod ((useRoot_eq_some_iff s r o).mp h).1)

theorem badRoot_cases (s : State) (r : Nat) : s.badRoot r = s ∨ ∃ e, s.badRoot r = s.fail e := by
  unfold badRoot
  split
  · split
    · exact Or.inl rfl
    · exact Or.inr ⟨_, rfl⟩
  · exact Or.inl rfl

theorem badRoot_of_useRoot_none {s : State} {r : Nat} (h : s.useRoot r = none) :
    s.badRoot r = s ∨ ∃ o, s.badRoot r = s.fail (.dangling o) := by
  unfold useRoot at h
  unfold badRoot
  cases hn : nthMod s.roots r with
  | none => exact Or.inl rfl
  | some o =>
    rw [hn] at h
    by_cases hl : s.isLive o = true
    · simp [hl] at h
    · simp only [hl]; exact Or.inr ⟨o, rfl⟩

/-! ### `badRoot` touches nothing but `err` -/

theorem HeapRel.badRoot {R : Obj → Obj → Prop} (s : State) (r : Nat) : HeapRel R s (s.badRoot r) := by
  rcases badRoot_cases s r with h | ⟨e, h⟩ <;> rw [h]
  · exact .refl s
  · exact .fail s e

@[simp] theorem badRoot_heap (s : State) (r : Nat) : (s.badRoot r).heap = s.heap := by
  rcases badRoot_cases s r with h | ⟨e, h⟩ <;> rw [h]
  exact fail_heap s e
@[simp] theorem badRoot_roots (s : State) (r : Nat) : (s.badRoot r).roots = s.roots := (HeapRel.badRoot (R := Eq) s r).roots
@[simp] theorem badRoot_wroots (s : State) (r : Nat) : (s.badRoot r).wroots = s.wroots := (HeapRel.badRoot (R := Eq) s r).wroots
@[simp] theorem badRoot_vals (s : State) (r : Nat) : (s.badRoot r).vals = s.vals := (HeapRel.badRoot (R := Eq) s r).vals
@[simp] theorem badRoot_raws (s : State) (r : Nat) : (s.badRoot r).raws = s.raws := (HeapRel.badRoot (R := Eq) s r).raws
@[simp] theorem badRoot_stack (s : State) (r : Nat) : (s.badRoot r).stack = s.stack := (HeapRel.badRoot (R := Eq) s r).stack
@[simp] theorem badRoot_unwinding (s : State) (r : Nat) : (s.badRoot r).unwinding = s.unwinding := (HeapRel.badRoot (R := Eq) s r).unwinding
@[simp] theorem badRoot_hint (s : State) (r : Nat) : (s.badRoot r).hint = s.hint := (HeapRel.badRoot (R := Eq) s r).hint
@[simp] theorem badRoot_nextVid (s : State) (r : Nat) : (s.badRoot r).nextVid = s.nextVid := (HeapRel.badRoot (R := Eq) s r).nextVid
@[simp] theorem badRoot_log (s : State) (r : Nat) : (s.badRoot r).log = s.log := by
  rcases badRoot_cases s r with h | ⟨e, h⟩ <;> rw [h]
  exact fail_log s e
@[simp] theorem cell_badRoot (s : State) (r : Nat) (x : Nat) : (s.badRoot r).cell x = s.cell x := cell_congr (badRoot_heap s r) x
@[simp] theorem tableOf_badRoot (s : State) (r : Nat) (x : Nat) : (s.badRoot r).tableOf x = s.tableOf x := tableOf_congr (badRoot_heap s r) x
@[simp] theorem tbl_badRoot (s : State) (r : Nat) (x : Nat) : (s.badRoot r).tbl x = s.tbl x := tbl_congr (badRoot_heap s r) x
@[simp] theorem isLive_badRoot (s : State) (r : Nat) (x : Nat) : (s.badRoot r).isLive x = s.isLive x := isLive_congr (badRoot_heap s r) x
@[simp] theorem strongOf_badRoot (s : State) (r : Nat) (x : Nat) : (s.badRoot r).strongOf x = s.strongOf x := strongOf_congr (badRoot_heap s r) x
@[simp] theorem heldOf_badRoot (s : State) (r : Nat) (x : Nat) : (s.badRoot r).heldOf x = s.heldOf x := heldOf_congr (badRoot_heap s r) x
@[simp] theorem weaksOf_badRoot (s : State) (r : Nat) (x : Nat) : (s.badRoot r).weaksOf x = s.weaksOf x := weaksOf_congr (badRoot_heap s r) x
@[simp] theorem ext_badRoot (s : State) (r : Nat) (x : Nat) : (s.badRoot r).ext x = s.ext x := (HeapRel.badRoot (R := Eq) s r).ext x
@[simp] theorem extW_badRoot (s : State) (r : Nat) (x : Nat) : (s.badRoot r).extW x = s.extW x := (HeapRel.badRoot (R := Eq) s r).extW x
@[simp] theorem pend_badRoot (s : State) (r : Nat) (x : Nat) : (s.badRoot r).pend x = s.pend x := (HeapRel.badRoot (R := Eq) s r).pend x
@[simp] theorem pendW_badRoot (s : State) (r : Nat) (x : Nat) : (s.badRoot r).pendW x = s.pendW x := (HeapRel.badRoot (R := Eq) s r).pendW x
@[simp] theorem owed_badRoot (s : State) (r : Nat) (x : Nat) : (s.badRoot r).owed x = s.owed x := (HeapRel.badRoot (R := Eq) s r).owed x
@[simp] theorem inHeap_badRoot (s : State) (r : Nat) (x : Nat) : (s.badRoot r).inHeap x = s.inHeap x := inHeap_congr (badRoot_heap s r) x
@[simp] theorem inHeapW_badRoot (s : State) (r : Nat) (x : Nat) : (s.badRoot r).inHeapW x = s.inHeapW x := inHeapW_congr (badRoot_heap s r) x
@[simp] theorem strongNat_badRoot (s : State) (r : Nat) (x : Nat) : (s.badRoot r).strongNat x = s.strongNat x := strongNat_congr (badRoot_heap s r) x
@[simp] theorem weakNat_badRoot (s : State) (r : Nat) (x : Nat) : (s.badRoot r).weakNat x = s.weakNat x := weakNat_congr (badRoot_heap s r) x
@[simp] theorem implicitNat_badRoot (s : State) (r : Nat) (x : Nat) : (s.badRoot r).implicitNat x = s.implicitNat x := implicitNat_congr (badRoot_heap s r) x
@[simp] theorem H_badRoot (s : State) (r : Nat) (x y : Nat) : (s.badRoot r).H x y = s.H x y := H_congr (badRoot_heap s r) x y
@[simp] theorem F_badRoot (s : State) (r : Nat) (x y : Nat) : (s.badRoot r).F x y = s.F x y := F_congr (badRoot_heap s r) x y
@[simp] theorem B_badRoot (s : State) (r : Nat) (x y : Nat) : (s.badRoot r).B x y = s.B x y := B_congr (badRoot_heap s r) x y

end State
end Cactus
