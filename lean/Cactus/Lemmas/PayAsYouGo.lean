import Cactus.Lemmas.PayAsYouGo.Calm
import Cactus.Lemmas.PayAsYouGo.Scripts
import Cactus.Lemmas.PayAsYouGo.Touched
import Cactus.Lemmas.PayAsYouGo.NoAdopt
import Cactus.Lemmas.PayAsYouGo.Example
/-!
# C14 — pay-as-you-go for whole histories

The adoption machinery costs nothing where it is not used.  A `traced` event is appended by
`Rc::drop` only, and only when the link table of the dropped object is non-empty; a table becomes
non-empty only through a recorded adoption (`adopt`, `link`), at top level or in a destructor script
(`PayAsYouGo/Calm.lean`).  Hence, along every history, an object never designated by a recorded
adoption keeps an empty table and never roots a trace (`PayAsYouGo/Touched.lean`), and a program that
never adopts has no non-empty table and no trace at all (`PayAsYouGo/NoAdopt.lean`).
-/
