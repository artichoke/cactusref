import Cactus.Model.Step
/-!
# From the transitions to histories

A property of states kept by the four transitions of the driver — a top-level operation applied to
a quiescent state, `step`, `endOp`, running out of fuel — holds after `drain` and `execOp`, hence
(`Closed.run` in `Cactus.Lemmas.Final`) after every history.  The reachability predicates are
closed by construction, each constructor being one of the transitions.
-/
namespace Cactus

/-- `I` is kept by the transitions, for top-level operations satisfying `ok` -/
structure Closed (ok : Op → Prop) (I : State → Prop) : Prop where
  op : ∀ {s : State} (o : Op) (hint : List Nat), I s → s.stack = [] → ok o →
    I (applyOp { s with hint := hint } o)
  step : ∀ {s : State}, I s → I (step s)
  endOp : ∀ {s : State}, I s → I (endOp s)
  outOfFuel : ∀ {s : State}, I s → I (s.fail .fuel)

namespace Closed
variable {ok : Op → Prop} {I : State → Prop} (hI : Closed ok I)
include hI

theorem drain (f : Nat) {s : State} (h : I s) : I (Cactus.drain f s) := by
  induction f generalizing s with
  | zero =>
    unfold Cactus.drain
    split
    · exact h
    · exact hI.outOfFuel h
  | succ f ih =>
    unfold Cactus.drain
    split
    · exact ih (hI.step h)
    · exact h

theorem execOp (fuel : Nat) {s : State} (o : Op) (hint : List Nat) (h : I s)
    (hq : s.err = none → s.stack = []) (ho : ok o) : I (Cactus.execOp fuel s o hint) := by
  unfold Cactus.execOp
  split
  · exact h
  · next he => exact hI.endOp (hI.drain fuel (hI.op o hint h (hq he) ho))

end Closed

end Cactus
