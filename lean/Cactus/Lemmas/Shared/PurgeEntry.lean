import Cactus.Lemmas.Table
/-!
# What one purge step does to the peer's table

Used by `Props/C12.lean` and `Props/C13.lean`.
-/
namespace Cactus

/-- removing `n` Forward and `n` Backward records of `x` lowers exactly those two counts, saturating
at zero, and leaves every other count as it is -/
theorem Table.get_remove_fwd_bwd (t : Table) (hw : t.WF) (x n : Nat) (l : Link) :
    ((t.remove ⟨x, .fwd⟩ n).remove ⟨x, .bwd⟩ n).get l
      = if l = ⟨x, .fwd⟩ ∨ l = ⟨x, .bwd⟩ then t.get l - n else t.get l := by
  rw [Table.get_remove _ (Table.WF_remove t hw ⟨x, .fwd⟩ n)]
  simp only [Table.get_remove _ hw]
  by_cases h2 : l = ⟨x, .bwd⟩
  · simp [h2]
  · by_cases h1 : l = ⟨x, .fwd⟩ <;> simp [h1, h2]

end Cactus
