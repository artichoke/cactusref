import Cactus.Lemmas.Final
/-!
# Evaluating a concrete history once

The non-vacuity sections of the property files instantiate theorems at the end state of a concrete
history.  With decidable equality on `State` such a file states that end state as one equation,
`run h = { heap := …, roots := …, … }`, checked by one kernel evaluation; every further fact about
the state is then read off the literal (`rw [run_h]`), and a continuation `run (h ++ ops)` is
evaluated from the literal (`run_append`) instead of running `h` again.
-/
namespace Cactus

deriving instance DecidableEq for State

/-- a value without destructor script: its identifier and the strong handles it holds -/
def Val.plain (vid : Nat) (held : List Nat) : Val :=
  { vid, held, weaks := [], script := [], panics := false }

/-- an object in its normal state: positive count, table and value in place, implicit weak
reference owned -/
def Obj.live (strong weak : Nat) (links : Table) (v : Val) : Obj :=
  { strong := .cnt strong, weak, links := some links, value := some v, freed := false }

/-- an object whose teardown has begun: sentinel count, value and table gone.  While the teardown
runs the implicit weak reference is still owned (`implicit := true`); once it has been given back
the allocation is kept by `w` Weak handles and released when there is none -/
def Obj.husk (w : Nat) (implicit : Bool := false) : Obj :=
  { strong := .uninit, weak := w, links := none, value := none, freed := w == 0, implicit }

end Cactus
