import Cactus.Lemmas.Basic
/-!
# One-step lemmas used by more than one property file

Each lemma here is about a single call of a model function in an arbitrary state (no invariant, no
reachability hypothesis).  The property file of the check it belongs to states it under its
`C<nn>_…` name:

| lemma                          | stated as                      | also used by |
|--------------------------------|--------------------------------|--------------|
| `Shared.rcDrop_dead_noop`      | `C16_drop_dead_noop`           | C02, C15     |
| `Shared.decWeakFree_released`  | `C04_no_double_release`        | C02          |
| `Shared.rcDrop_last_handle`    | `C03_last_handle`              | C07          |
| `Shared.rcDrop_emptyTable_log` | `C14_drop_no_trace`            | C07          |
| `Shared.upgradeField_dead_none`| `C05_upgradeField_dead_none`   | C10          |
| `Shared.purgeOne_skips_self`   | `C12_purge_skips_self`         | C10          |
-/
namespace Cactus.Shared
open State

/-- dropping a handle to a dead object returns before touching anything (drop.rs:121-123) -/
theorem rcDrop_dead_noop (s : State) (o : Nat) (ob : Obj)
    (hc : s.cell o = some ob) (hd : ob.strong.isDead = true) : s.rcDrop o = s := by
  unfold State.rcDrop
  simp only [hc]
  cases hs : ob.strong with
  | uninit => rfl
  | cnt n =>
    cases n with
    | zero => rfl
    | succ n => simp [hs, Strong.isDead] at hd

/-- an allocation is never released twice: releasing a released allocation is reported as an
error, never silently performed -/
theorem decWeakFree_released (s : State) (o : Nat) (imp : Bool) (h : s.cell o = none) (he : s.err = none) :
    (s.decWeakFree o imp).err = some (.uaf o) ∧ (s.decWeakFree o imp).heap = s.heap := by
  unfold State.decWeakFree
  simp [h, fail_err_of_none _ _ he]

/-- the last-handle rule: dropping the last strong handle of an object without adoptions moves its
value out and schedules its destructor in that very step (synchronously, never deferred) -/
theorem rcDrop_last_handle (s : State) (o : Nat) (ob : Obj) (v : Val)
    (hc : s.cell o = some ob) (hs : ob.strong = .cnt 1) (hl : ob.links = some []) (hv : ob.value = some v) :
    (s.rcDrop o).stack = .dropVal v :: .finishSingle o :: s.stack
    ∧ ((s.rcDrop o).heap[o]?).map (·.strong) = some .uninit := by
  have hf := (cell_some_get s o ob hc).2
  have hlt := cell_some_lt s o ob hc
  unfold State.rcDrop
  simp only [hc, hs, hl, List.isEmpty_nil, if_true]
  unfold State.beginSingle
  rw [cell_setObj_same s o ob _ hc]
  simp [hf, hv, State.setObj, State.push, hlt]

/-- `Rc::drop` on an object whose link table is empty appends nothing to the event log in the
same step: in particular no trace is started (drop.rs:134-146). -/
theorem rcDrop_emptyTable_log (s : State) (o : Nat) (ob : Obj)
    (hc : s.cell o = some ob) (hl : ob.links = some []) :
    (s.rcDrop o).log = s.log := by
  unfold State.rcDrop
  simp only [hc, hl]
  cases hs : ob.strong with
  | uninit => simp
  | cnt n =>
    cases n with
    | zero => simp
    | succ n =>
      simp only [List.isEmpty_nil, if_true]
      have hf := (cell_some_get s o ob hc).2
      split
      · unfold State.beginSingle
        rw [cell_setObj_same s o ob _ hc]
        simp only [hf]
        split
        · rename_i heq
          cases heq
          simp only []
          split <;> simp
        · simp
      · rfl

/-- `Weak::upgrade` of a Weak field on a destroyed object, called from a destructor, returns
`None`: no handle is created, no counter changes -/
theorem upgradeField_dead_none (s : State) (fh fw : List Nat) (k o : Nat) (ob : Obj)
    (hw : nthMod fw k = some o) (hc : s.cell o = some ob) (hd : ob.strong.isDead = true) :
    applyAct s fh fw (.upgradeField k) = s.emit (retBool false) := by
  simp [applyAct, hw, hc, hd]

/-- the purge loop never touches the object's own table while iterating over it (the `ptr::eq`
self-skip, drop.rs:379): no nested borrow of the same `RefCell` -/
theorem purgeOne_skips_self (x : Nat) (s : State) (e : Link × Nat) (h : e.1.ptr = x) : purgeOne x s e = s := by
  simp [State.purgeOne, h]

end Cactus.Shared
