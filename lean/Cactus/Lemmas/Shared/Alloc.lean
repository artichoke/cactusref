import Cactus.Lemmas.Main
/-!
# A counted weak reference keeps the allocation

Used by `Props/C02.lean`, `Props/C05.lean` and `Props/C10.lean`.
-/
namespace Cactus
open State

/-- while the weak cell counts a reference — a Weak handle held anywhere, or the implicit one the
strong side still owns — the allocation has not been released: `InvW` makes the cell positive and
`InvO` releases only at zero -/
theorem State.cell_isSome_of_weak_ref {s : State} (hO : s.InvO) (hW : s.InvW) {o : Nat}
    (hlt : o < s.heap.length)
    (h : 0 < s.extW o + s.inHeapW o + s.pendW o + s.implicitNat o) : (s.cell o).isSome = true := by
  obtain ⟨ob, hg⟩ : ∃ ob, s.heap[o]? = some ob := ⟨s.heap[o], List.getElem?_eq_getElem hlt⟩
  have hw := hW o hlt
  rw [weakNat_of_get hg] at hw
  have hf : ob.freed = false := by
    cases hf : ob.freed with
    | false => rfl
    | true => have := ((hO o ob hg).2.2.2).mp hf; omega
  rw [cell_of_not_freed hg hf]; rfl

/-- a strong handle owned by a pending teardown frame designates an allocation that has not been
released: its target is live, or a member of the group being torn down, whose implicit weak
reference is still owned -/
theorem pending_handle_cell_isSome {s : State} (h : ReachableP s) (he : s.err = none) {o : Nat}
    (hp : 0 < s.pend o) : (s.cell o).isSome = true := by
  cases hl : s.isLive o with
  | true => exact isLive_cell_isSome hl
  | false =>
    obtain ⟨ob, hg, _, _, himp⟩ := (reachableP_invS h he).2.1 o hp hl
    have hc := (reachable_core h.reachable he).1
    exact cell_isSome_of_weak_ref hc.1 hc.2.2.2.1 (get_lt hg)
      (by rw [implicitNat_of_get hg, himp]; exact Nat.succ_pos _)

end Cactus
