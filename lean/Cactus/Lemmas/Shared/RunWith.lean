import Cactus.Model.Step
/-!
# `runWith` — `run` with an explicit step budget

Shared by the evaluation examples / counterexamples of `Props/C01.lean`, `Props/C03.lean` and
`Props/C13.lean` (a small budget lets `decide` evaluate a history in the elaborator).
-/
namespace Cactus

/-- `run` with an explicit step budget per operation instead of `defaultFuel` -/
def runWith (fuel : Nat) (ops : List (Op × List Nat)) : State :=
  ops.foldl (fun s oh => execOp fuel s oh.1 oh.2) {}

/-- `run` is `runWith` at the default budget -/
theorem runWith_defaultFuel (ops : List (Op × List Nat)) : runWith defaultFuel ops = run ops := rfl

theorem runWith_nil (fuel : Nat) : runWith fuel [] = {} := rfl

/-- a history is executed operation by operation, left to right -/
theorem runWith_append (fuel : Nat) (ops1 ops2 : List (Op × List Nat)) :
    runWith fuel (ops1 ++ ops2)
      = ops2.foldl (fun s oh => execOp fuel s oh.1 oh.2) (runWith fuel ops1) := by
  unfold runWith
  rw [List.foldl_append]

theorem runWith_snoc (fuel : Nat) (ops : List (Op × List Nat)) (op : Op) (hint : List Nat) :
    runWith fuel (ops ++ [(op, hint)]) = execOp fuel (runWith fuel ops) op hint := by
  rw [runWith_append]; rfl

end Cactus
