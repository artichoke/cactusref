import Cactus.Lemmas.Inv.ActsLinks
/-!
# The safety invariant `InvSCore`: what it reads, and how it is carried from one state to the next

`InvSCore` speaks of an object `o` only through `isLive o`, the numbers `ext o + inHeap o` and
`pend o`, the witness `Wit o` when `o` is not live, and `belowPhase3 o` of the stack.
Its three clauses: a handle of the program or of a stored value targets a live object; a handle of
a pending frame targets a live object or a witness (`Wit`); below a `phase3 ks` frame no frame owns a
handle to a member of `ks` (`belowPhase3 = 0`).  `InvSCore.general` says which changes of these it
survives; the preservation proofs of `Safety/Acts.lean` and `Safety/Drop.lean` go through it or one of
its special cases, except the group teardown (`Teardown.invSCore`), which argues on the three clauses.
-/
namespace Cactus

/-! ## `belowPhase3` -/

namespace State

@[simp] theorem belowPhase3_nil (o : Nat) : belowPhase3 o [] = 0 := rfl
@[simp] theorem belowPhase3_rcDrop (o t : Nat) (st : List Frame) :
    belowPhase3 o (.rcDrop t :: st) = belowPhase3 o st := rfl
@[simp] theorem belowPhase3_weakDrop (o t : Nat) (st : List Frame) :
    belowPhase3 o (.weakDrop t :: st) = belowPhase3 o st := rfl
@[simp] theorem belowPhase3_dropVal (o : Nat) (v : Val) (st : List Frame) :
    belowPhase3 o (.dropVal v :: st) = belowPhase3 o st := rfl
@[simp] theorem belowPhase3_script (o : Nat) (h w : List Nat) (as : List Act) (st : List Frame) :
    belowPhase3 o (.script h w as :: st) = belowPhase3 o st := rfl
@[simp] theorem belowPhase3_panic (o : Nat) (st : List Frame) :
    belowPhase3 o (.panic :: st) = belowPhase3 o st := rfl
@[simp] theorem belowPhase3_dropFields (o : Nat) (h w : List Nat) (st : List Frame) :
    belowPhase3 o (.dropFields h w :: st) = belowPhase3 o st := rfl
@[simp] theorem belowPhase3_finishSingle (o t : Nat) (st : List Frame) :
    belowPhase3 o (.finishSingle t :: st) = belowPhase3 o st := rfl
theorem belowPhase3_phase3 (o : Nat) (ks : List Nat) (st : List Frame) :
    belowPhase3 o (.phase3 ks :: st)
      = if o ∈ ks then sumList (st.map (Frame.strongTo o)) else belowPhase3 o st := rfl

end State

def Frame.isPhase3 : Frame → Bool
  | .phase3 _ => true
  | _ => false

namespace State

theorem belowPhase3_cons_of_not_phase3 (o : Nat) {f : Frame} (st : List Frame)
    (h : f.isPhase3 = false) : belowPhase3 o (f :: st) = belowPhase3 o st := by
  cases f <;> first | rfl | cases h

theorem belowPhase3_append (o : Nat) (fs st : List Frame) (h : fs.any Frame.isPhase3 = false) :
    belowPhase3 o (fs ++ st) = belowPhase3 o st := by
  induction fs with
  | nil => rfl
  | cons f fs ih =>
    rw [List.any_cons, Bool.or_eq_false_iff] at h
    rw [List.cons_append, belowPhase3_cons_of_not_phase3 o _ h.1]
    exact ih h.2

theorem belowPhase3_le (o : Nat) (st : List Frame) :
    belowPhase3 o st ≤ sumList (st.map (Frame.strongTo o)) := by
  induction st with
  | nil => exact Nat.le_refl _
  | cons f st ih =>
    have hst : belowPhase3 o st ≤ sumList ((f :: st).map (Frame.strongTo o)) :=
      Nat.le_trans ih (Nat.le_add_left _ _)
    cases f with
    | phase3 ks =>
      rw [belowPhase3_phase3]
      split
      · exact Nat.le_add_left _ _
      · exact hst
    | _ => exact hst

theorem belowPhase3_filter_cleanup (o : Nat) (st : List Frame) :
    belowPhase3 o (st.filter Frame.isCleanup) = 0 := by
  induction st with
  | nil => rfl
  | cons f st ih =>
    rw [List.filter_cons]
    split
    · next hc =>
      rw [belowPhase3_cons_of_not_phase3 o _ (by cases f <;> first | rfl | cases hc)]
      exact ih
    · exact ih

theorem belowPhase3_tail {f : Frame} {rest : List Frame} (h : ∀ o, belowPhase3 o (f :: rest) = 0)
    (o : Nat) : belowPhase3 o rest = 0 := by
  cases f with
  | phase3 ks =>
    have h1 := h o
    rw [belowPhase3_phase3] at h1
    split at h1
    · exact Nat.eq_zero_of_le_zero (h1 ▸ belowPhase3_le o rest)
    · exact h1
  | _ => exact h o

/-! ## the witness of the second clause -/

/-- a member of a group under teardown whose allocation is still owned by that teardown -/
def Wit (s : State) (o : Nat) : Prop :=
  ∃ ob, s.heap[o]? = some ob ∧ ob.strong = .uninit ∧ ob.links = none ∧ ob.implicit = true

theorem Wit_congr {s s' : State} (hh : s'.heap = s.heap) (o : Nat) : s'.Wit o ↔ s.Wit o := by
  unfold Wit; rw [hh]

theorem Wit.not_live {s : State} {o : Nat} (h : s.Wit o) : s.isLive o = false := by
  obtain ⟨ob, hg, hs, -, -⟩ := h
  rw [isLive_of_get hg, hs]; simp

theorem Wit_of_get_eq {s s' : State} {o : Nat} (h : s'.heap[o]? = s.heap[o]?) (hw : s.Wit o) :
    s'.Wit o := by
  unfold Wit; rw [h]; exact hw

theorem Wit_setObj {s : State} {a : Nat} {ob ob' : Obj} (hg : s.heap[a]? = some ob)
    (h : ob.strong = .uninit → ob.links = none → ob.implicit = true →
      ob'.strong = .uninit ∧ ob'.links = none ∧ ob'.implicit = true)
    {o : Nat} (hw : s.Wit o) : (s.setObj a ob').Wit o := by
  by_cases hao : o = a
  · subst hao
    obtain ⟨obx, hx, h1, h2, h3⟩ := hw
    rw [hg] at hx; cases hx
    exact ⟨ob', getElem?_setObj_same _ (get_lt hg), h h1 h2 h3⟩
  · exact Wit_of_get_eq (getElem?_setObj_other s _ hao) hw

theorem Wit_fail {s : State} (e : Err) {o : Nat} (hw : s.Wit o) : (s.fail e).Wit o :=
  (Wit_congr (fail_heap s e) o).mpr hw

theorem Wit_alloc {s : State} (v : Val) {o : Nat} (hw : s.Wit o) : (s.alloc v).Wit o := by
  obtain ⟨obx, hx, r⟩ := hw
  exact ⟨obx, get_alloc_of_get v hx, r⟩

theorem Wit_modVal {s : State} (a : Nat) (f : Val → Val) {o : Nat} (hw : s.Wit o) :
    (s.modVal a f).Wit o := by
  rcases modVal_cases s a f with ⟨e, he⟩ | ⟨ob, v, hc, hv, he⟩ <;> rw [he]
  · exact Wit_fail e hw
  · refine Wit_setObj (get_of_cell hc) ?_ hw
    exact fun h1 h2 h3 => ⟨h1, h2, h3⟩

theorem Wit_decWeakFree_false {s : State} (a : Nat) {o : Nat} (hw : s.Wit o) :
    (s.decWeakFree a false).Wit o := by
  rcases decWeakFree_cases s a false with ⟨e, he⟩ | ⟨ob, hc, hw1, he⟩ | ⟨ob, w, hc, hw2, he⟩ <;> rw [he]
  · exact Wit_fail e hw
  · refine (Wit_congr (emit_heap _ _) o).mpr (Wit_setObj (get_of_cell hc) ?_ hw)
    exact fun h1 h2 h3 => ⟨h1, h2, by rw [h3]; rfl⟩
  · refine Wit_setObj (get_of_cell hc) ?_ hw
    exact fun h1 h2 h3 => ⟨h1, h2, by rw [h3]; rfl⟩

theorem Wit_of_skel {s s' : State} (hsk : Skel s s') {o : Nat} (hw : s.Wit o) : s'.Wit o := by
  obtain ⟨ob, hg, h1, h2, h3⟩ := hw
  obtain ⟨ob', hg', a1, -, -, a4, -, -, a7⟩ := hsk.2.2 o ob hg
  exact ⟨ob', hg', by rw [a1, h1], by rw [a7 (by rw [h1]; rfl), h2], by rw [a4, h3]⟩

/-! ## carrying `InvSCore` from `s` to `s'` -/

theorem InvSCore.s1 {s : State} (h : s.InvSCore) {o : Nat} (hl : s.isLive o = false) :
    s.ext o + s.inHeap o = 0 := by
  apply Nat.eq_zero_of_not_pos
  intro hp
  rw [h.1 o hp] at hl; cases hl

/-- objects that stop being live have no handle left; objects that are not live gain no handle;
witnesses survive; the third clause holds for the new stack -/
theorem InvSCore.general {s s' : State} (h : s.InvSCore)
    (hL : ∀ o, s.isLive o = true → s'.isLive o = false →
      s'.ext o + s'.inHeap o = 0 ∧ s'.pend o = 0)
    (h1 : ∀ o, s'.isLive o = false → s.isLive o = false → s.ext o + s.inHeap o = 0 →
      s'.ext o + s'.inHeap o = 0)
    (h2 : ∀ o, s'.isLive o = false → s.isLive o = false → s.ext o + s.inHeap o = 0 →
      s'.pend o ≤ s.pend o)
    (hU : ∀ o, s'.isLive o = false → 0 < s'.pend o → s.Wit o → s'.Wit o)
    (h3 : ∀ o, belowPhase3 o s'.stack = 0) : s'.InvSCore := by
  refine ⟨?_, ?_, h3⟩
  · intro o hp
    cases hl' : s'.isLive o with
    | true => rfl
    | false =>
      cases hl : s.isLive o with
      | true => exact absurd ((hL o hl hl').1 ▸ hp) (Nat.lt_irrefl 0)
      | false => exact absurd (h1 o hl' hl (h.s1 hl) ▸ hp) (Nat.lt_irrefl 0)
  · intro o hp hl'
    cases hl : s.isLive o with
    | true => exact absurd ((hL o hl hl').2 ▸ hp) (Nat.lt_irrefl 0)
    | false =>
      exact hU o hl' hp (h.2.1 o (Nat.lt_of_lt_of_le hp (h2 o hl' hl (h.s1 hl))) hl)

theorem InvSCore.of_live_eq {s s' : State} (h : s.InvSCore)
    (hL : ∀ o, s'.isLive o = s.isLive o)
    (h1 : ∀ o, s.isLive o = false → s.ext o + s.inHeap o = 0 → s'.ext o + s'.inHeap o = 0)
    (h2 : ∀ o, s.isLive o = false → s.ext o + s.inHeap o = 0 → s'.pend o ≤ s.pend o)
    (hU : ∀ o, s.Wit o → s'.Wit o)
    (h3 : ∀ o, belowPhase3 o s'.stack = 0) : s'.InvSCore := by
  refine h.general ?_ (fun o _ hl => h1 o hl) (fun o _ hl => h2 o hl) (fun o _ _ => hU o) h3
  intro o hl hl'
  rw [hL, hl] at hl'; cases hl'

theorem InvSCore.of_eq {s s' : State} (h : s.InvSCore) (hL : ∀ o, s'.isLive o = s.isLive o)
    (he : ∀ o, s'.ext o = s.ext o) (hi : ∀ o, s'.inHeap o = s.inHeap o) (hs : s'.stack = s.stack)
    (hU : ∀ o, s.Wit o → s'.Wit o) : s'.InvSCore := by
  refine h.of_live_eq hL ?_ ?_ hU ?_
  · intro o _ h0; rw [he, hi]; exact h0
  · intro o _ _; rw [pend_congr hs]; exact Nat.le_refl _
  · intro o; rw [hs]; exact h.2.2 o

theorem InvSCore.of_heap_eq {s s' : State} (h : s.InvSCore) (hh : s'.heap = s.heap)
    (hs : s'.stack = s.stack) (he : ∀ o, s.isLive o = false → s'.ext o ≤ s.ext o + s.inHeap o) :
    s'.InvSCore := by
  refine h.of_live_eq (isLive_congr hh) ?_ ?_ (fun o => (Wit_congr hh o).mpr) ?_
  · intro o hl h0
    have hle := he o hl
    rw [h0] at hle
    rw [inHeap_congr hh, (Nat.add_eq_zero_iff.mp h0).2, Nat.eq_zero_of_le_zero hle]
  · intro o _ _; rw [pend_congr hs]; exact Nat.le_refl _
  · intro o; rw [hs]; exact h.2.2 o

theorem InvSCore_congr {s s' : State} (h : s.InvSCore) (hh : s'.heap = s.heap)
    (hs : s'.stack = s.stack) (he : ∀ o, s'.ext o = s.ext o) : s'.InvSCore :=
  h.of_heap_eq hh hs (fun o _ => by rw [he]; exact Nat.le_add_right _ _)

theorem InvSCore.transfer {s s' : State} (h : s.InvSCore) (hsk : Skel s s')
    (hC : ∀ x, s'.ext x + s'.inHeap x = s.ext x + s.inHeap x) : s'.InvSCore := by
  refine h.of_live_eq hsk.isLive ?_ ?_ (fun o => Wit_of_skel hsk) ?_
  · intro o _ h0; rw [hC]; exact h0
  · intro o _ _; rw [pend_congr hsk.1]; exact Nat.le_refl _
  · intro o; rw [hsk.1]; exact h.2.2 o

/-- the top frame `f` is replaced by frames `fs`, none a `phase3` continuation, that own no more
handles than `f` did; heap and program handles are as before -/
theorem InvSCore.restack {s s' : State} {f : Frame} {fs rest : List Frame} (h : s.InvSCore)
    (hst : s.stack = f :: rest) (hh : s'.heap = s.heap) (he : ∀ o, s'.ext o = s.ext o)
    (hst' : s'.stack = fs ++ rest) (hfs : fs.any Frame.isPhase3 = false)
    (hp : ∀ o, s'.pend o ≤ s.pend o) : s'.InvSCore := by
  refine h.of_live_eq (isLive_congr hh) ?_ (fun o _ _ => hp o) (fun o => (Wit_congr hh o).mpr) ?_
  · intro o _ h0; rw [he, inHeap_congr hh]; exact h0
  · intro o
    rw [hst', belowPhase3_append o _ _ hfs]
    exact belowPhase3_tail (f := f) (by rw [← hst]; exact h.2.2) o

/-! ## `InvS` across the steps that fail, report or do nothing -/

theorem InvS_fail (s : State) (e : Err) : (s.fail e).InvS :=
  fun h => absurd h (fail_err_ne_none s e)

theorem InvS.badRoot {s : State} (h : s.InvS) (r : Nat) : (s.badRoot r).InvS := by
  rcases badRoot_cases s r with e | ⟨e, he⟩
  · rw [e]; exact h
  · rw [he]; exact InvS_fail s e

theorem InvS.emit {s : State} (h : s.InvS) (e : Ev) : (s.emit e).InvS :=
  fun herr => InvSCore_congr (h herr) rfl rfl (fun _ => rfl)

end State

open State

theorem pop_InvSCore {s : State} {f : Frame} {rest : List Frame} (hst : s.stack = f :: rest)
    (h : s.InvSCore) : ({ s with stack := rest } : State).InvSCore :=
  h.restack (fs := []) hst rfl (fun _ => rfl) rfl rfl
    (fun o => by rw [pend_of_stack_cons hst o]; exact Nat.le_add_left _ _)

end Cactus
