import Cactus.Lemmas.Safety.Core
import Cactus.Lemmas.Inv.Assemble
/-!
# Preservation of the safety invariant `InvS` by the user-level actions and by every frame step
other than `rcDrop`

No action creates a handle to an object that is not live: a new handle is a copy of a handle to a
live object (`InvS_incStrong_gen`), is moved between the program, stored values and frames
(`InvSCore.transfer`, `InvSCore_push_move`), or designates a fresh allocation (`InvSCore.alloc`).
The one way an object stops being live here is `giveUp`, and then no handle to it is left
(`InvSCore.giveUp`).
-/
namespace Cactus
namespace State

/-! ## updates that change nothing `InvS` reads: counters and link tables -/

/-- `s'` differs from `s` only in counters, link tables and `err` -/
structure Quiet (s s' : State) : Prop where
  roots : s'.roots = s.roots
  raws : s'.raws = s.raws
  vals : s'.vals = s.vals
  stack : s'.stack = s.stack
  len : s'.heap.length = s.heap.length
  isLive : ∀ x, s'.isLive x = s.isLive x
  heldOf : ∀ x, s'.heldOf x = s.heldOf x
  wit : ∀ x, s.Wit x → s'.Wit x
  err : s'.err = none → s.err = none

namespace Quiet

theorem refl (s : State) : Quiet s s :=
  ⟨rfl, rfl, rfl, rfl, rfl, fun _ => rfl, fun _ => rfl, fun _ h => h, fun h => h⟩

theorem trans {s s' s'' : State} (h1 : Quiet s s') (h2 : Quiet s' s'') : Quiet s s'' :=
  ⟨h2.roots.trans h1.roots, h2.raws.trans h1.raws, h2.vals.trans h1.vals, h2.stack.trans h1.stack,
    h2.len.trans h1.len, fun x => (h2.isLive x).trans (h1.isLive x),
    fun x => (h2.heldOf x).trans (h1.heldOf x), fun x h => h2.wit x (h1.wit x h),
    fun h => h1.err (h2.err h)⟩

theorem fail (s : State) (e : Err) : Quiet s (s.fail e) :=
  ⟨by simp, by simp, by simp, by simp, by simp, fun _ => by simp, fun _ => by simp,
    fun _ h => Wit_fail e h, fun h => absurd h (fail_err_ne_none s e)⟩

theorem setObj {s : State} {o : Nat} {ob ob' : Obj} (hg : s.heap[o]? = some ob)
    (hf : ob'.freed = ob.freed) (hd : ob'.strong.isDead = ob.strong.isDead)
    (hv : ob'.value = ob.value)
    (hw : ob.strong = .uninit → ob.links = none → ob.implicit = true →
      ob'.strong = .uninit ∧ ob'.links = none ∧ ob'.implicit = true) : Quiet s (s.setObj o ob') :=
  ⟨rfl, rfl, rfl, rfl, setObj_heap_length s o ob', isLive_setObj_of_eq hg hf hd,
    heldOf_setObj_of_value_eq hg hv, fun _ h => Wit_setObj hg hw h, id⟩

theorem setLinks (s : State) (o : Nat) (f : Table → Table) : Quiet s (s.setLinks o f) := by
  rcases setLinks_cases s o f with ⟨e, he⟩ | ⟨ob, t, hc, hl, he⟩ <;> rw [he]
  · exact fail s e
  · exact setObj (get_of_cell hc) rfl rfl rfl (fun _ h2 _ => by rw [hl] at h2; cases h2)

theorem incStrong (s : State) (o : Nat) : Quiet s (s.incStrong o) := by
  rcases incStrong_cases s o with ⟨e, he⟩ | ⟨ob, n, hc, hs, he⟩ <;> rw [he]
  · exact fail s e
  · exact setObj (get_of_cell hc) rfl (by rw [hs]; rfl) rfl (fun h1 _ _ => by rw [hs] at h1; cases h1)

theorem incWeak (s : State) (o : Nat) : Quiet s (s.incWeak o) := by
  rcases incWeak_cases s o with ⟨e, he⟩ | ⟨ob, hc, hw0, he⟩ <;> rw [he]
  · exact fail s e
  · refine setObj (get_of_cell hc) rfl rfl rfl ?_
    exact fun h1 h2 h3 => ⟨h1, h2, h3⟩

theorem foldl {α : Type} (g : State → α → State) (hg : ∀ s a, Quiet s (g s a)) :
    ∀ (l : List α) (s : State), Quiet s (l.foldl g s) := by
  intro l
  induction l with
  | nil => intro s; exact refl s
  | cons a l ih => intro s; exact (hg s a).trans (ih (g s a))

theorem ext {s s' : State} (h : Quiet s s') (o : Nat) : s'.ext o = s.ext o :=
  ext_congr h.roots h.raws h.vals o

theorem pend {s s' : State} (h : Quiet s s') (o : Nat) : s'.pend o = s.pend o :=
  pend_congr h.stack o

theorem inHeap {s s' : State} (h : Quiet s s') (o : Nat) : s'.inHeap o = s.inHeap o := by
  simp only [inHeap_def, h.len, H_def, h.heldOf]

theorem invSCore {s s' : State} (h : Quiet s s') (hS : s.InvSCore) : s'.InvSCore :=
  hS.of_eq h.isLive h.ext h.inHeap h.stack h.wit

end Quiet

theorem Quiet.purgeOne (x : Nat) (s : State) (e : Link × Nat) : Quiet s (purgeOne x s e) := by
  unfold State.purgeOne
  split
  · exact Quiet.refl s
  · exact Quiet.setLinks _ _ _

theorem Quiet.purgePeers (s : State) (x : Nat) : Quiet s (s.purgePeers x) := by
  unfold State.purgePeers
  split
  · exact (Quiet.foldl _ (Quiet.purgeOne x) _ s).trans (Quiet.setLinks _ _ _)
  · exact Quiet.fail _ _

theorem Quiet.cloneHandles (s : State) (v : Val) : Quiet s (s.cloneHandles v) :=
  (Quiet.foldl _ Quiet.incStrong _ s).trans (Quiet.foldl _ Quiet.incWeak _ _)

/-! ## the shapes of the simple actions -/

/-- the count of the live object `o` is incremented and the program gets one more handle to it;
if `o` is not live the increment aborts -/
theorem InvS_incStrong_gen {s s' : State} {o : Nat} (h : s.InvS)
    (herr : s'.err = (s.incStrong o).err) (hh : s'.heap = (s.incStrong o).heap)
    (hst : s'.stack = (s.incStrong o).stack)
    (he : ∀ t, s'.ext t = (s.incStrong o).ext t + (if o = t then 1 else 0)) : s'.InvS := by
  intro herr'
  rw [herr] at herr'
  obtain ⟨herr0, hl⟩ := (incStrong_err_eq_none_iff s o).mp herr'
  refine ((Quiet.incStrong s o).invSCore (h herr0)).of_heap_eq hh hst ?_
  intro t ht
  rw [isLive_incStrong] at ht
  rw [he, if_neg (fun e => by rw [e, ht] at hl; cases hl)]
  exact Nat.le_add_right _ _

theorem InvS_incWeak_gen {s s' : State} {o : Nat} (h : s.InvS)
    (herr : s'.err = (s.incWeak o).err) (hh : s'.heap = (s.incWeak o).heap)
    (hst : s'.stack = (s.incWeak o).stack) (he : ∀ t, s'.ext t = (s.incWeak o).ext t) :
    s'.InvS := by
  intro herr'
  rw [herr] at herr'
  exact InvSCore_congr ((Quiet.incWeak s o).invSCore
    (h ((incWeak_err_eq_none_iff s o).mp herr').1)) hh hst he

theorem InvSCore_push_move {s s0 : State} {f : Frame} (h : s.InvSCore) (hh : s0.heap = s.heap)
    (hst : s0.stack = s.stack)
    (hC : ∀ t, s0.ext t + Frame.strongTo t f = s.ext t)
    (hf : f.isPhase3 = false) : (s0.push [f]).InvSCore := by
  refine h.of_live_eq (fun x => isLive_congr hh x) ?_ ?_ (fun o => (Wit_congr hh o).mpr) ?_
  · intro t _ h0
    rw [ext_push, inHeap_push, inHeap_congr hh]
    exact Nat.eq_zero_of_le_zero (h0 ▸ Nat.add_le_add_right (Nat.le.intro (hC t)) _)
  · intro t _ h0
    have hz := (Nat.add_eq_zero_iff.mp ((hC t).trans (Nat.add_eq_zero_iff.mp h0).1)).2
    rw [pend_push, List.map_singleton, sumList_singleton, pend_congr hst, hz, Nat.zero_add]
    exact Nat.le_refl _
  · intro t
    rw [push_stack, belowPhase3_append t _ _ (by rw [List.any_cons, hf]; rfl), hst]
    exact h.2.2 t

theorem InvS_modVal {s : State} (h : s.InvS) (o : Nat) (f : Val → Val)
    (hf : ∀ v, (f v).held = v.held) : (s.modVal o f).InvS := by
  intro herr
  have herr0 : s.err = none := ((modVal_err_eq_none_iff s o f).mp herr).1
  exact (h herr0).transfer (Skel.modVal s o f) (fun x => by
    rw [ext_modVal, inHeap_modVal_of_held_eq s o f hf])

/-! ## actions on link tables and stored handles -/

theorem InvSCore.adopt {s : State} (h : s.InvSCore) {a b : Nat} (ha : s.isLive a = true)
    (hb : s.isLive b = true) (same : Bool) : (s.adopt a b same).InvSCore :=
  h.transfer (Skel.adopt ha hb same) (by simp)

theorem InvSCore.unadopt {s : State} (h : s.InvSCore) {a b : Nat} (ha : s.isLive a = true)
    (hb : s.isLive b = true) (same : Bool) : (s.unadopt a b same).InvSCore :=
  h.transfer (Skel.unadopt ha hb same) (by simp)

theorem InvSCore.swap {s : State} (h : s.InvSCore) {o : Nat} (ho : s.isLive o = true) (i : Nat) :
    (s.setLinks o (·.swapAt i)).InvSCore :=
  h.transfer (Skel.setLinks ho _) (by simp)

theorem InvSCore.store {s : State} (h : s.InvSCore) (hO : s.InvO) {i t o : Nat}
    (hr : s.roots[i]? = some t) (ho : s.isLive o = true) :
    (({ s with roots := s.roots.eraseIdx i } : State).modVal o
      (fun v => { v with held := v.held ++ [t] })).InvSCore := by
  obtain ⟨v, hv⟩ := valOf_of_live hO ho
  have hv0 : ({ s with roots := s.roots.eraseIdx i } : State).valOf o = some v := hv
  refine h.transfer ((Skel.of_eq rfl rfl).trans (Skel.modVal _ _ _)) ?_
  intro x
  have h1 := ext_withRoots_eraseIdx s i x
  have h2 := inHeap_modVal (fun v => { v with held := v.held ++ [t] }) hv0 x
  rw [ext_modVal]
  simp only [inHeap_withRoots, count_concat, hr, Option.some.injEq] at h1 h2
  omega

theorem InvSCore.storeWeak {s : State} (h : s.InvSCore) {i t o : Nat} :
    (({ s with wroots := s.wroots.eraseIdx i } : State).modVal o
      (fun v => { v with weaks := v.weaks ++ [t] })).InvSCore := by
  refine h.transfer ((Skel.of_eq rfl rfl).trans (Skel.modVal _ _ _)) ?_
  intro x
  rw [ext_modVal, inHeap_modVal_of_held_eq _ o (fun v => { v with weaks := v.weaks ++ [t] }) (fun _ => rfl)]
  rfl

theorem InvSCore.take {s : State} (h : s.InvSCore) {o : Nat} {v : Val} (hv : s.valOf o = some v)
    {i t : Nat} (hk : v.held[i]? = some t) (f : Val → Val) (hf : (f v).held = v.held.eraseIdx i) :
    ({ s.modVal o f with roots := (s.modVal o f).roots ++ [t] } : State).InvSCore := by
  refine h.transfer ((Skel.modVal _ _ _).trans (Skel.of_eq rfl rfl)) ?_
  intro x
  have h1 := take_inHeap hv hk f hf x
  simp only [ext_withRoots_append, inHeap_withRoots, ext_modVal]
  omega

theorem InvSCore.unlink {s : State} (h : s.InvSCore) {o : Nat} {v : Val} (hv : s.valOf o = some v)
    {i t : Nat} (hk : v.held[i]? = some t) (f : Val → Val) (hf : (f v).held = v.held.eraseIdx i)
    (ho : s.isLive o = true) (ht : s.isLive t = true) :
    ({ (s.modVal o f).unadopt o t false with
        roots := ((s.modVal o f).unadopt o t false).roots ++ [t] } : State).InvSCore := by
  refine h.transfer
    ((Skel.modVal _ _ _).trans ((Skel.unadopt (by rw [isLive_modVal]; exact ho)
      (by rw [isLive_modVal]; exact ht) false).trans (Skel.of_eq rfl rfl))) ?_
  intro x
  have h1 := take_inHeap hv hk f hf x
  simp only [ext_withRoots_append, inHeap_withRoots, ext_modVal, ext_unadopt, inHeap_unadopt]
  omega

theorem InvS.adopt {s : State} (h : s.InvS) {a b : Nat} (ha : s.isLive a = true)
    (hb : s.isLive b = true) (same : Bool) : (s.adopt a b same).InvS :=
  fun herr => (h ((adopt_err_eq_none_iff s a b same).mp herr).1).adopt ha hb same

theorem InvS.unadopt {s : State} (h : s.InvS) {a b : Nat} (ha : s.isLive a = true)
    (hb : s.isLive b = true) (same : Bool) : (s.unadopt a b same).InvS :=
  fun herr => (h ((unadopt_err_eq_none_iff s a b same).mp herr).1).unadopt ha hb same

/-! ## giving an allocation up, and allocating -/

/-- releasing a weak reference: no liveness changes, and the target, when the reference is its
implicit one, is not needed as a witness -/
theorem InvSCore.decWeakFree {s : State} {a : Nat} {imp : Bool} (h : s.InvSCore)
    (hL : ∀ x, (s.decWeakFree a imp).isLive x = s.isLive x)
    (hw : imp = true → s.Wit a → s.pend a = 0) : (s.decWeakFree a imp).InvSCore := by
  refine h.general ?_ ?_ ?_ ?_ ?_
  · intro x hl hl'
    rw [hL, hl] at hl'; cases hl'
  · intro x _ _ h0
    rw [ext_decWeakFree, inHeap_decWeakFree]; exact h0
  · intro x _ _ _
    rw [pend_decWeakFree]; exact Nat.le_refl _
  · intro x _ hp hwx
    by_cases hx : x = a
    · subst hx
      cases imp with
      | false => exact Wit_decWeakFree_false x hwx
      | true => rw [pend_decWeakFree, hw rfl hwx] at hp; cases hp
    · exact Wit_of_get_eq (getElem?_decWeakFree_other s imp hx) hwx
  · intro x
    rw [decWeakFree_stack_imp]; exact h.2.2 x

theorem isLive_decWeakFree_of_not_live {s : State} {a : Nat} (imp : Bool) (h : s.isLive a = false)
    (x : Nat) : (s.decWeakFree a imp).isLive x = s.isLive x := by
  by_cases hx : x = a
  · subst hx
    cases hl : (s.decWeakFree x imp).isLive x with
    | false => rw [h]
    | true => rw [isLive_decWeakFree_le s x imp x hl] at h; cases h
  · exact isLive_decWeakFree_other s imp hx

/-- an object to which no handle is left, except handles stored in its own value, loses its value
and may stop being live -/
theorem InvSCore.kill {s : State} {o : Nat} {ob ob' : Obj} (h : s.InvSCore)
    (hg : s.heap[o]? = some ob) (hlo : s.isLive o = true)
    (h0 : s.ext o = 0 ∧ s.inHeap o = s.H o o ∧ s.pend o = 0) (hv : ob'.value = none) :
    (s.setObj o ob').InvSCore := by
  have hin : ∀ t, (s.setObj o ob').inHeap t + s.H o t = s.inHeap t := fun t => by
    have := inHeap_setObj ob' hg t
    rw [Obj.heldList_of_none hv] at this
    exact this
  refine h.general ?_ ?_ ?_ ?_ ?_
  · intro x hl hl'
    by_cases hx : x = o
    · subst hx
      rw [ext_setObj, pend_setObj, h0.1, h0.2.2,
        Nat.add_eq_right.mp ((hin x).trans h0.2.1), Nat.add_zero]
      exact ⟨rfl, rfl⟩
    · rw [isLive_setObj_other s _ hx, hl] at hl'; cases hl'
  · intro x _ _ h0x
    rw [ext_setObj]
    exact Nat.eq_zero_of_le_zero (h0x ▸ Nat.add_le_add_left (Nat.le.intro (hin x)) _)
  · intro x _ _ _
    rw [pend_setObj]; exact Nat.le_refl _
  · intro x _ _ hw
    refine Wit_of_get_eq (getElem?_setObj_other s _ (fun e => ?_)) hw
    have := hw.not_live
    rw [e, hlo] at this; cases this
  · intro x
    rw [setObj_stack]; exact h.2.2 x

/-- giving up a live allocation that nothing designates any more, except handles stored in its own
value: these go with the value -/
theorem InvSCore.giveUp {s : State} {o : Nat} (h : s.InvSCore) (hlo : s.isLive o = true)
    (h0 : s.ext o = 0 ∧ s.inHeap o = s.H o o ∧ s.pend o = 0) (herr : (s.giveUp o).err = none) :
    (s.giveUp o).InvSCore := by
  have hq := Quiet.purgePeers s o
  unfold State.giveUp at herr ⊢
  cases hc : (s.purgePeers o).cell o with
  | none =>
    rw [hc] at herr
    exact absurd herr (fail_err_ne_none _ _)
  | some ob =>
    have hg := get_of_cell hc
    have hg2 := getElem?_setObj_same (s := s.purgePeers o)
      { ob with strong := .cnt 0, value := none, links := none } (get_lt hg)
    have h2 := (hq.invSCore h).kill (ob' := { ob with strong := .cnt 0, value := none, links := none })
      hg (by rw [hq.isLive]; exact hlo)
      (by rw [hq.ext, hq.inHeap, hq.pend, H_def, hq.heldOf]; exact h0) rfl
    refine h2.decWeakFree
      (isLive_decWeakFree_of_not_live true (by rw [isLive_of_get hg2]; exact Bool.and_false _))
      (fun _ hw => ?_)
    obtain ⟨ob2, hgw, hsw, -⟩ := hw
    rw [hg2] at hgw; cases hgw; cases hsw

/-- a fresh allocation whose value holds copies of handles stored in values; the program gains
the handle to it, handles to live objects and copies of stored handles, nothing else -/
theorem InvSCore.alloc {s s' : State} {v : Val} (h : s.InvSCore)
    (hv : ∀ x, v.held.count x ≤ s.inHeap x)
    (hh : s'.heap = (s.alloc v).heap) (hst : s'.stack = s.stack)
    (he : ∀ x, s.isLive x = false →
      s'.ext x ≤ s.ext x + s.inHeap x + (if s.heap.length = x then 1 else 0)) : s'.InvSCore := by
  have hlive : ∀ x, s'.isLive x = true ↔ s.isLive x = true ∨ x = s.heap.length := fun x => by
    rw [isLive_congr hh, isLive_alloc_iff]
  refine h.general ?_ ?_ ?_ ?_ ?_
  · intro x hl hl'
    rw [(hlive x).mpr (Or.inl hl)] at hl'; cases hl'
  · intro x hl' hl h0
    have h1 := he x hl
    have h2 := hv x
    rw [if_neg (fun e => by rw [(hlive x).mpr (Or.inr e.symm)] at hl'; cases hl'), h0] at h1
    rw [(Nat.add_eq_zero_iff.mp h0).2] at h2
    rw [inHeap_congr hh, inHeap_alloc, (Nat.add_eq_zero_iff.mp h0).2, Nat.eq_zero_of_le_zero h1,
      Nat.eq_zero_of_le_zero h2]
  · intro x _ _ _; rw [pend_congr hst]; exact Nat.le_refl _
  · intro x _ _ hw; exact (Wit_congr hh x).mpr (Wit_alloc _ hw)
  · intro x; rw [hst]; exact h.2.2 x

/-- `try_unwrap`: in `sb` the value `v` of `o` has been copied to `vals` and the root handle, the
only handle to `o`, is gone; then `o` is given up.  In `sb` the handles of `v` are counted twice -/
theorem InvSCore.tryUnwrap {s sb : State} {o : Nat} {v : Val} (h : s.InvSCore)
    (herr : (sb.giveUp o).err = none) (hlo : s.isLive o = true)
    (hH : ∀ x, v.held.count x = s.H o x) (h1 : s.ext o = 1 ∧ s.inHeap o = 0 ∧ s.pend o = 0)
    (hh : sb.heap = s.heap) (hst : sb.stack = s.stack)
    (he : ∀ x, sb.ext x + (if o = x then 1 else 0) = s.ext x + v.held.count x) :
    (sb.giveUp o).InvSCore := by
  have hS1 : sb.InvSCore := h.of_heap_eq hh hst (fun x _ =>
    Nat.le_trans (Nat.le.intro (he x)) (Nat.add_le_add_left (hH x ▸ H_le_inHeap s o x) _))
  have hz : s.H o o = 0 := Nat.eq_zero_of_le_zero (h1.2.1 ▸ H_le_inHeap s o o)
  have he' := he o
  rw [if_pos rfl, h1.1, hH o, hz] at he'
  exact hS1.giveUp (by rw [isLive_congr hh]; exact hlo)
    ⟨Nat.succ.inj he', by rw [inHeap_congr hh, H_congr hh, h1.2.1, hz],
      by rw [pend_congr hst]; exact h1.2.2⟩ herr

/-- the steal branch of `make_mut`: in `sb` the value `v` of `o` has been copied to a fresh
allocation whose handle has replaced the root handle, the only handle to `o`; then `o` is given up -/
theorem InvSCore.makeMut_steal {s sb : State} {o : Nat} {v : Val} (h : s.InvSCore)
    (herr : (sb.giveUp o).err = none) (hlo : s.isLive o = true)
    (hH : ∀ x, v.held.count x = s.H o x) (h1 : s.ext o = 1 ∧ s.inHeap o = 0 ∧ s.pend o = 0)
    (hh : sb.heap = (s.alloc v).heap) (hst : sb.stack = s.stack)
    (he : ∀ x, sb.ext x + (if o = x then 1 else 0)
      = s.ext x + (if s.heap.length = x then 1 else 0)) : (sb.giveUp o).InvSCore := by
  have hS1 : sb.InvSCore := h.alloc (fun x => hH x ▸ H_le_inHeap s o x) hh hst (fun x _ =>
    Nat.le_trans (Nat.le.intro (he x)) (Nat.add_le_add_right (Nat.le_add_right _ _) _))
  have hne : o ≠ s.heap.length := Nat.ne_of_lt (isLive_lt hlo)
  have he' := he o
  rw [if_pos rfl, if_neg (Ne.symm hne), h1.1] at he'
  refine hS1.giveUp (by rw [isLive_congr hh]; exact isLive_alloc_of_isLive v hlo)
    ⟨Nat.succ.inj he', ?_, by rw [pend_congr hst]; exact h1.2.2⟩ herr
  rw [inHeap_congr hh, inHeap_alloc, h1.2.1, Nat.zero_add, H_congr hh, H_def,
    heldOf_alloc_old s v hne, ← H_def]
  exact hH o

/-- the clone branch of `make_mut`: the handles of `v'`, copies of handles stored in the value of
the live `o`, go to a fresh allocation whose handle takes the place of the root handle to `o`;
that one goes to a new `rcDrop` frame, as if the new handle had first been added beside it -/
theorem InvSCore.makeMut_clone {s sc s0 : State} {o : Nat} {v' : Val} (h : s.InvSCore)
    (hq : Quiet s sc) (hv' : ∀ x, v'.held.count x ≤ s.inHeap x)
    (hh : s0.heap = (sc.alloc v').heap) (hst : s0.stack = sc.stack)
    (he : ∀ x, s0.ext x + (if o = x then 1 else 0)
      = sc.ext x + (if s.heap.length = x then 1 else 0)) : (s0.push [.rcDrop o]).InvSCore := by
  have hm : ({ sc.alloc v' with roots := (sc.alloc v').roots ++ [s.heap.length] } : State).InvSCore :=
    (hq.invSCore h).alloc (fun x => by rw [hq.inHeap]; exact hv' x) rfl rfl
      (fun x _ => by
        rw [ext_withRoots_append, ext_alloc, hq.len]
        exact Nat.add_le_add_right (Nat.le_add_right _ _) _)
  refine InvSCore_push_move hm hh hst (fun t => ?_) rfl
  rw [ext_withRoots_append, ext_alloc, Frame.strongTo_rcDrop]
  exact he t

theorem sole_handle {s : State} {i o : Nat} (hC : s.InvC) (hi : s.roots[i]? = some o)
    (ho : s.isLive o = true) (h1 : s.strongNat o = 1) : s.ext o = 1 ∧ s.inHeap o = 0 ∧ s.pend o = 0 := by
  have := hC o ho
  have := ext_pos_of_mem_roots (List.mem_of_getElem? hi)
  omega

end State

open State

theorem ActOutcome.invS {s t : State} {fh fw : List Nat} {a : Act} (hout : ActOutcome s fh fw a t) (hI : s.Inv)
    (hS : s.InvS) : t.InvS := by
  induction hout with
  | stay => exact hS
  | fails t e ht => exact fun herr => absurd (ht.symm.trans herr) (fail_err_ne_none s e)
  | ret n _ ih => exact ih.emit _
  | gainRoot o _ => exact InvS_incStrong_gen hS rfl rfl rfl (fun t => ext_withRoots_append _ _ t)
  | gainRaw o _ _ => exact InvS_incStrong_gen hS rfl rfl rfl (fun t => ext_withRaws_append _ _ t)
  | gainWeak o _ => exact InvS_incWeak_gen hS rfl rfl rfl (fun _ => rfl)
  | intoRaw i o hi _ => exact fun herr => InvSCore_congr (hS herr) rfl rfl (fun t => ext_intoRaw s i o t hi)
  | fromRaw i o hi => exact fun herr => InvSCore_congr (hS herr) rfl rfl (fun t => ext_fromRaw s i o t hi)
  | dropRoot i o hi _ =>
    refine fun herr => InvSCore_push_move (hS herr) rfl rfl (fun t => ?_) rfl
    have := ext_withRoots_eraseIdx s i t
    simp only [hi, Option.some.injEq] at this
    exact this
  | dropRaw i o hi _ =>
    refine fun herr => InvSCore_push_move (hS herr) rfl rfl (fun t => ?_) rfl
    have := ext_withRaws_eraseIdx s i t
    simp only [hi, Option.some.injEq] at this
    exact this
  | dropWeak i o _ => exact fun herr => InvSCore_push_move (hS herr) rfl rfl (fun t => Nat.add_zero _) rfl
  | dropValue i v hi =>
    exact fun herr => InvSCore_push_move (hS herr) rfl rfl (fun t => ext_withVals_eraseIdx s i v t hi) rfl
  | edit o f _ hf => exact InvS_modVal hS o f fun v => (hf v).1
  | storeWeak i t o _ _ => exact fun herr => (hS ((modVal_err_eq_none_iff _ _ _).mp herr).1).storeWeak
  | store i t o hi _ ho =>
    intro herr
    have e0 : s.err = none := ((modVal_err_eq_none_iff _ _ _).mp herr).1
    exact (hS e0).store (hI e0).1 hi ho
  | link i t o hi ht ho =>
    intro herr
    have e1 : (s.adopt o t false).err = none := ((modVal_err_eq_none_iff _ _ _).mp herr).1
    have e0 : s.err = none := ((adopt_err_eq_none_iff _ _ _ _).mp e1).1
    exact ((hS e0).adopt ho ht false).store ((hI e0).adopt ho ht false).1 (i := i)
      (by rw [adopt_roots]; exact hi) (by rw [isLive_adopt]; exact ho)
  | take o k t v _ hv hk => exact fun herr => (hS ((modVal_err _ hv).symm.trans herr)).take hv hk _ rfl
  | unlink o k t v ho hv hk ht =>
    intro herr
    have e1 := ((unadopt_err_eq_none_iff _ _ _ _).mp herr).1
    rw [modVal_err _ hv] at e1
    exact (hS e1).unlink hv hk _ rfl ho ht
  | adopt a b same ha hb => exact hS.adopt ha hb same
  | unadopt a b same ha hb => exact hS.unadopt ha hb same
  | new v hv =>
    exact fun herr => (hS herr).alloc (fun _ => hv ▸ Nat.zero_le _) rfl rfl fun x _ => by
      rw [ext_withRootsNextVid, ext_withRoots_append, ext_alloc]
      exact Nat.add_le_add_right (Nat.le_add_right _ _) _
  | unwrap i o ob v hi ho hc hs hv =>
    intro herr
    have hg := get_of_cell hc
    have herr0 := giveUp_err_none herr
    have hE := fun x => ext_withRootsVals_eraseIdx_append s i v x
    simp only [hi, Option.some.injEq] at hE
    exact (hS herr0).tryUnwrap herr ho
      (fun x => by rw [H_def, heldOf_of_get hg, Obj.heldList_of_some hv])
      (sole_handle (hI herr0).2.2.1 hi ho (by rw [strongNat_of_get hg, hs]; rfl)) rfl rfl hE
  | cloneOut i o ob v v' sc hi ho hc hv _ hsc =>
    have hle : ∀ x, v.held.count x ≤ s.inHeap x := fun x => by
      rw [← Obj.heldList_of_some hv, ← heldOf_of_get (get_of_cell hc), ← H_def]
      exact H_le_inHeap s o x
    have ⟨hq, hv'⟩ : Quiet s sc ∧ ∀ x, v'.held.count x ≤ v.held.count x := by
      rcases hsc with ⟨rfl, rfl⟩ | ⟨rfl, rfl⟩
      · exact ⟨Quiet.refl _, fun _ => Nat.zero_le _⟩
      · exact ⟨Quiet.cloneHandles _ v, fun _ => Nat.le_refl _⟩
    have hr' : (sc.alloc v').roots[i]? = some o := by rw [alloc_roots, hq.roots]; exact hi
    exact fun herr => (hS (hq.err herr)).makeMut_clone hq (fun x => Nat.le_trans (hv' x) (hle x)) rfl rfl
      (ext_of_roots_set (s := sc.alloc v') hr' rfl rfl rfl)
  | steal i o ob v hi ho hc hv hs _ =>
    intro herr
    have hg := get_of_cell hc
    have herr0 := giveUp_err_none herr
    exact (hS herr0).makeMut_steal herr ho
      (fun x => by rw [H_def, heldOf_of_get hg, Obj.heldList_of_some hv])
      (sole_handle (hI herr0).2.2.1 hi ho (by rw [strongNat_of_get hg, hs]; rfl)) rfl rfl
      (ext_of_roots_set (s := s.alloc v) hi rfl rfl rfl)

/-- `InvS` is preserved by every user-level action (the adoption contract is not needed) -/
theorem applyAct_invS (s : State) (fh fw : List Nat) (a : Act) (hI : s.Inv) (hS : s.InvS) :
    (applyAct s fh fw a).InvS :=
  (applyAct_outcome s fh fw a).invS hI hS

theorem applyOp_invS (s : State) (op : Op) (hI : s.Inv) (hS : s.InvS) : (applyOp s op).InvS := by
  cases op with
  | act a => exact applyAct_invS s [] [] a hI hS
  | setScript q acts =>
    simp only [applyOp]
    split
    · exact InvS_modVal hS _ _ (fun _ => rfl)
    · exact hS.badRoot q
  | shuffle q i =>
    simp only [applyOp]
    split
    · rename_i o h1
      exact fun herr => (hS ((setLinks_err_eq_none_iff _ _ _).mp herr).1).swap (useRoot_some h1).2 i
    · exact hS.badRoot q

namespace State

/-- `Weak::drop`: a live target keeps its implicit weak reference, so it is not freed -/
theorem step_invS_weakDrop {s : State} {rest : List Frame} {o : Nat}
    (hst : s.stack = Frame.weakDrop o :: rest) (herr : s.err = none) (hI : s.Inv) (hS : s.InvS) :
    (({ s with stack := rest } : State).weakDrop o).InvS := by
  intro herr'
  obtain ⟨hO, -, -, hW, -⟩ := hI herr
  unfold weakDrop at herr' ⊢
  obtain ⟨-, ob, hc, hw0⟩ := (decWeakFree_err_eq_none_iff _ _ _).mp herr'
  have hg : s.heap[o]? = some ob := get_of_cell (s := s) hc
  refine (pop_InvSCore hst (hS herr)).decWeakFree ?_ nofun
  intro x
  by_cases hx : x = o
  · subst hx
    rw [isLive_decWeakFree_same false hc hw0]
    cases hl : ({ s with stack := rest } : State).isLive x with
    | false => exact Bool.and_false _
    | true =>
      obtain ⟨ob', n, hg', -, hn⟩ := (isLive_eq_true_iff s x).mp hl
      rw [hg] at hg'; cases hg'
      have h1 := hW x (get_lt hg)
      have h2 := pendW_of_stack_cons hst x
      rw [Frame.weakTo_weakDrop, if_pos rfl] at h2
      rw [weakNat_of_get hg, implicitNat_of_get hg, ((hO x ob hg).1 n hn).2.2.2, if_pos rfl] at h1
      rw [decide_eq_true (p := ob.weak ≠ 1) (by omega)]
      rfl
  · exact isLive_decWeakFree_other _ false hx

/-- `drop(inner)` -/
theorem step_invS_dropVal {s : State} {rest : List Frame} {v : Val}
    (hst : s.stack = Frame.dropVal v :: rest) (herr : s.err = none) (hS : s.InvS) :
    (({ s with stack := rest } : State).dropVal v).InvS := fun _ =>
  (hS herr).restack hst rfl (fun _ => rfl) rfl (by cases v.panics <;> rfl)
    (fun o => by rw [pend_dropVal, pend_of_stack_cons hst o]; exact Nat.le_refl _)

theorem step_invS_scriptNil {s : State} {rest : List Frame} {hh ww : List Nat}
    (hst : s.stack = Frame.script hh ww [] :: rest) (herr : s.err = none) (hS : s.InvS) :
    ({ s with stack := rest } : State).InvS :=
  fun _ => pop_InvSCore hst (hS herr)

theorem step_invS_scriptCons {s : State} {rest : List Frame} {hh ww : List Nat} {a : Act}
    {as : List Act} (hst : s.stack = Frame.script hh ww (a :: as) :: rest) (herr : s.err = none)
    (hI : s.Inv) (hS : s.InvS) :
    (applyAct (({ s with stack := rest } : State).push [.script hh ww as]) hh ww a).InvS :=
  applyAct_invS _ hh ww a (fun _ => script_push_invCore hst (hI herr)) (fun _ =>
    (hS herr).restack (fs := [.script hh ww as]) hst rfl (fun _ => rfl) rfl rfl
      (fun o => by rw [pend_push, pend_of_stack_cons hst o]; exact Nat.le_refl _))

theorem step_invS_panic {s : State} {rest : List Frame}
    (hst : s.stack = Frame.panic :: rest) (herr : s.err = none) (hS : s.InvS) :
    (({ s with stack := rest } : State).panic).InvS := by
  intro _
  have h0 : ({ s with stack := rest } : State).InvSCore := pop_InvSCore hst (hS herr)
  refine h0.of_live_eq (isLive_congr (panic_heap _)) ?_ ?_ (fun o => (Wit_congr (panic_heap _) o).mpr) ?_
  · intro o _ h
    rw [ext_panic, inHeap_congr (panic_heap _)]; exact h
  · intro o _ _
    rw [pend_panic]; exact Nat.le_refl _
  · intro o
    unfold panic
    split
    · rw [fail_stack]; exact h0.2.2 o
    · exact belowPhase3_filter_cleanup o _

theorem dropFields_frames (s : State) (hs ws : List Nat) :
    ∃ fs, s.dropFields hs ws = s.push fs ∧ fs.any Frame.isPhase3 = false := by
  cases hs with
  | cons a hs => exact ⟨_, rfl, rfl⟩
  | nil =>
    cases ws with
    | cons a ws => exact ⟨_, rfl, rfl⟩
    | nil => exact ⟨[], rfl, rfl⟩

theorem step_invS_dropFields {s : State} {rest : List Frame} {hs ws : List Nat}
    (hst : s.stack = Frame.dropFields hs ws :: rest) (herr : s.err = none) (hS : s.InvS) :
    (({ s with stack := rest } : State).dropFields hs ws).InvS := by
  intro _
  have hp : ∀ o, (({ s with stack := rest } : State).dropFields hs ws).pend o ≤ s.pend o :=
    fun o => by rw [pend_dropFields, pend_of_stack_cons hst o]; exact Nat.le_refl _
  obtain ⟨fs, hfs, hnp⟩ := dropFields_frames ({ s with stack := rest } : State) hs ws
  rw [hfs] at hp ⊢
  exact (hS herr).restack hst rfl (fun _ => rfl) rfl hnp hp

/-- rest of `drop_unreachable*`: the object is not live; while it had its link table it was no
witness, so by the second clause of `InvSCore` no frame holds a handle to it -/
theorem step_invS_finishSingle {s : State} {rest : List Frame} {o : Nat}
    (hst : s.stack = Frame.finishSingle o :: rest) (herr : s.err = none) (hI : s.Inv)
    (hS : s.InvS) : (({ s with stack := rest } : State).finishSingle o).InvS := by
  intro _
  have hcore := hI herr
  obtain ⟨ob, hget, hun, hlk, himpl⟩ :=
    hcore.2.2.2.2.1 o (by rw [hst]; exact List.mem_cons_self)
  have hget0 : ({ s with stack := rest } : State).heap[o]? = some ob := hget
  have hnl : ({ s with stack := rest } : State).isLive o = false := by
    rw [isLive_of_get hget0, hun]; exact Bool.and_false _
  have hS0 := pop_InvSCore hst (hS herr)
  have hp : ({ s with stack := rest } : State).pend o = 0 := Nat.eq_zero_of_not_pos (fun hp => by
    obtain ⟨ob2, hg2, -, hl2, -⟩ := hS0.2.1 o hp hnl
    rw [hget0] at hg2; cases hg2
    rw [hlk] at hl2; cases hl2)
  have hc : ({ s with stack := rest } : State).cell o = some ob :=
    cell_of_implicit (s := s) hcore.1 hcore.2.2.2.1 hget himpl
  unfold finishSingle
  rw [hc]
  simp only [hlk]
  have hl1 := isLive_setObj_of_eq (ob' := { ob with links := none }) hget0 rfl rfl
  refine (hS0.of_eq hl1 (fun _ => rfl) (inHeap_setObj_of_value_eq _ hget0 rfl) rfl
    (fun x hw => Wit_setObj hget0 (fun _ h2 _ => by rw [hlk] at h2; cases h2) hw)).decWeakFree
    (isLive_decWeakFree_of_not_live true (by rw [hl1]; exact hnl)) (fun _ _ => hp)

theorem phase3One_invSCore {s : State} {k : Nat} (h : s.InvSCore) (hp : s.pend k = 0) :
    (phase3One s k).InvSCore ∧ (phase3One s k).stack = s.stack := by
  unfold phase3One
  cases hc : s.cell k with
  | none => exact ⟨InvSCore_congr h (fail_heap _ _) (fail_stack _ _) (ext_fail _ _), fail_stack _ _⟩
  | some ob =>
    simp only []
    split
    · rename_i hd
      exact ⟨h.decWeakFree
        (isLive_decWeakFree_of_not_live true (by rw [isLive_of_cell hc, hd]; rfl)) (fun _ _ => hp),
        decWeakFree_stack_imp _ _ _⟩
    · exact ⟨h, rfl⟩

theorem phase3_fold_invSCore (ks : List Nat) (s : State) (h : s.InvSCore)
    (hp : ∀ k ∈ ks, s.pend k = 0) : (ks.foldl phase3One s).InvSCore := by
  induction ks generalizing s with
  | nil => exact h
  | cons k ks ih =>
    obtain ⟨h1, hst⟩ := phase3One_invSCore h (hp k List.mem_cons_self)
    exact ih _ h1 (fun x hx => by rw [pend_congr hst]; exact hp x (List.mem_cons_of_mem _ hx))

/-- phase 3 of `drop_cycle`: by the third clause of `InvSCore` no frame below holds a handle to a
member, so the witnesses that are lost are not needed any more -/
theorem step_invS_phase3 {s : State} {rest : List Frame} {ks : List Nat}
    (hst : s.stack = Frame.phase3 ks :: rest) (herr : s.err = none) (hS : s.InvS) :
    (ks.foldl phase3One ({ s with stack := rest } : State)).InvS := by
  refine fun _ => phase3_fold_invSCore ks _ (pop_InvSCore hst (hS herr)) (fun k hk => ?_)
  have h3 := (hS herr).2.2 k
  rw [hst, belowPhase3_phase3, if_pos hk] at h3
  exact h3

end State

open State

theorem step_invS_nonDrop (s : State) (hI : s.Inv) (hS : s.InvS)
    (hf : ∀ o rest, s.stack ≠ .rcDrop o :: rest) : (step s).InvS := by
  unfold step
  split
  · exact hS
  · rename_i herr
    split
    · exact hS
    · rename_i f rest hst
      split
      · rename_i o; exact absurd hst (hf o rest)
      · exact step_invS_weakDrop hst herr hI hS
      · exact step_invS_dropVal hst herr hS
      · exact step_invS_scriptNil hst herr hS
      · exact step_invS_scriptCons hst herr hI hS
      · exact step_invS_panic hst herr hS
      · exact step_invS_dropFields hst herr hS
      · exact step_invS_finishSingle hst herr hI hS
      · exact step_invS_phase3 hst herr hS

theorem endOp_invS (s : State) (hS : s.InvS) : (endOp s).InvS := by
  unfold endOp
  split
  · exact fun herr => InvSCore_congr (hS herr) rfl rfl (fun _ => rfl)
  · exact hS

theorem begin_invS (s : State) (hint : List Nat) (hS : s.InvS) : (s.begin hint).InvS :=
  fun herr => InvSCore_congr (hS herr) rfl rfl (fun _ => rfl)

theorem fail_invS (s : State) (e : Err) : (s.fail e).InvS := InvS_fail s e

end Cactus
