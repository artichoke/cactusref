import Cactus.Lemmas.Safety.Core
import Cactus.Lemmas.CycleStruct
import Cactus.Lemmas.Inv.Frames
import Cactus.Lemmas.Inv.Purge
import Cactus.Lemmas.Inv.DropCycle
/-!
# Safety invariant `InvS`: preservation by the `rcDrop` step

Setting: `s.err = none`, `s.stack = .rcDrop o :: rest`, `s0 := { s with stack := rest }`,
`s.Inv`, `s.InvS`, and the adoption contract.  Result: `(s0.rcDrop o).InvS`
(`rcDrop_invS_local`, `step_invS_rcDrop_local`, `step_invS_rcDrop`).

The contract is used in one place only: a group that passed the orphan test has no holder outside
the group (`closure_core_local`, `closure_lemma_local`), so that tearing it down leaves no handle to
a member behind (`Teardown.invSCore`).  It is therefore needed only between members of a group that
passes the test in this very step (`State.LocalContract`); the global contract `P`
(`∀ a b, isLive a → F a b ≤ H a b`) is a special case.
-/
namespace Cactus
open State

/-! ## `belowPhase3` -/

theorem belowPhase3_cons_of_strongTo (x : Nat) (f : Frame) (rest : List Frame)
    (hf : ∀ ks, f ≠ Frame.phase3 ks) : belowPhase3 x (f :: rest) = belowPhase3 x rest := by
  cases f with
  | phase3 ks => exact absurd rfl (hf ks)
  | _ => rfl

@[simp] theorem belowPhase3_rcDrop (x t : Nat) (rest : List Frame) :
    belowPhase3 x (Frame.rcDrop t :: rest) = belowPhase3 x rest := rfl
@[simp] theorem belowPhase3_dropVal (x : Nat) (v : Val) (rest : List Frame) :
    belowPhase3 x (Frame.dropVal v :: rest) = belowPhase3 x rest := rfl
@[simp] theorem belowPhase3_finishSingle (x t : Nat) (rest : List Frame) :
    belowPhase3 x (Frame.finishSingle t :: rest) = belowPhase3 x rest := rfl

theorem belowPhase3_dropVals (x : Nat) (vs : List Val) (rest : List Frame) :
    belowPhase3 x (vs.map Frame.dropVal ++ rest) = belowPhase3 x rest := by
  induction vs with
  | nil => rfl
  | cons v vs ih => exact ih

/-! ## steps that rewrite link tables only -/

/-- `s'` differs from `s` only in link tables that were present (and possibly in `err`, `log`) -/
structure LinksOnly (s s' : State) : Prop where
  roots : s'.roots = s.roots
  raws : s'.raws = s.raws
  vals : s'.vals = s.vals
  stack : s'.stack = s.stack
  len : s'.heap.length = s.heap.length
  obj : ∀ (x : Nat) (ob : Obj), s.heap[x]? = some ob → ∃ ob' : Obj, s'.heap[x]? = some ob' ∧ ob'.strong = ob.strong
    ∧ ob'.value = ob.value ∧ ob'.freed = ob.freed ∧ ob'.implicit = ob.implicit
    ∧ (ob.links = none → ob'.links = none)

namespace LinksOnly

/-- what the specification of the purge loop (`State.LinksOnly`) says, as far as `InvS` reads it -/
theorem of_state {s s' : State} (h : s.LinksOnly s') : LinksOnly s s' := by
  refine ⟨h.roots, h.raws, h.vals, h.stack, h.heap_length, fun x ob hg => ?_⟩
  obtain ⟨ob', hg', a1, -, a3, a4, a5, a6, -⟩ := h.obj x ob hg
  refine ⟨ob', hg', a1, a3, a4, a5, fun hn => ?_⟩
  rw [hn] at a6
  cases hl : ob'.links with
  | none => rfl
  | some t => rw [hl] at a6; cases a6

theorem purgePeers (s : State) (x : Nat) : LinksOnly s (s.purgePeers x) :=
  of_state (State.LinksOnly.purgePeers s x)

variable {s s' : State}

theorem get_none (h : LinksOnly s s') {x : Nat} (hx : s.heap[x]? = none) : s'.heap[x]? = none := by
  rw [get_none_iff] at hx ⊢
  rw [h.len]; exact hx

theorem isLive_eq (h : LinksOnly s s') (x : Nat) : s'.isLive x = s.isLive x := by
  cases hg : s.heap[x]? with
  | none => rw [isLive_of_get_none hg, isLive_of_get_none (h.get_none hg)]
  | some ob =>
    obtain ⟨ob', hg', a1, -, a3, -, -⟩ := h.obj x ob hg
    rw [isLive_of_get hg, isLive_of_get hg', a1, a3]

theorem heldOf_eq (h : LinksOnly s s') (x : Nat) : s'.heldOf x = s.heldOf x := by
  cases hg : s.heap[x]? with
  | none => rw [heldOf_of_get_none hg, heldOf_of_get_none (h.get_none hg)]
  | some ob =>
    obtain ⟨ob', hg', -, a2, -, -, -⟩ := h.obj x ob hg
    rw [heldOf_of_get hg, heldOf_of_get hg', Obj.heldList_congr a2]

theorem inHeap_eq (h : LinksOnly s s') (x : Nat) : s'.inHeap x = s.inHeap x := by
  unfold State.inHeap
  rw [h.len]
  exact sumList_range_congr _ _ _ (fun i _ => by rw [h.heldOf_eq])

theorem ext_eq (h : LinksOnly s s') (x : Nat) : s'.ext x = s.ext x :=
  ext_congr h.roots h.raws h.vals x

theorem pend_eq (h : LinksOnly s s') (x : Nat) : s'.pend x = s.pend x := pend_congr h.stack x

theorem invSCore (h : LinksOnly s s') (hS : s.InvSCore) : s'.InvSCore := by
  refine hS.of_eq h.isLive_eq h.ext_eq h.inHeap_eq h.stack (fun x hw => ?_)
  obtain ⟨ob, hg, b1, b2, b3⟩ := hw
  obtain ⟨ob', hg', a1, -, -, a4, a5⟩ := h.obj x ob hg
  exact ⟨ob', hg', a1.trans b1, a5 b2, a4.trans b3⟩

end LinksOnly

/-! ## the last-handle branch -/

/-- `beginSingle` on an object whose count has just dropped to zero: its stored handles move to the
`dropVal` frame.  No handle designates the object itself any more: by the first
clause of `InvSCore`, since it is not live, and by the second, since with count zero it is no witness -/
theorem beginSingle_invSCore {s : State} {o : Nat} {ob : Obj} (hg : s.heap[o]? = some ob)
    (hs : ob.strong = .cnt 0) (hS : s.InvSCore) : (s.beginSingle o).InvS := by
  unfold State.beginSingle
  rw [cell_of_get hg]
  cases hf : ob.freed with
  | true => exact InvS_fail _ _
  | false =>
    simp only [Bool.false_eq_true, if_false, hs]
    cases hv : ob.value with
    | none => exact InvS_fail _ _
    | some v =>
      simp only
      intro _
      have hin : ∀ x, (s.setObj o { ob with strong := .uninit, value := none }).inHeap x
          + v.held.count x = s.inHeap x := inHeap_setObj_move_out _ hg hv rfl
      refine hS.of_live_eq ?_ ?_ ?_ ?_ ?_
      · intro x
        rw [isLive_push]
        exact isLive_setObj_of_eq (ob' := { ob with strong := .uninit, value := none }) hg rfl
          (by rw [hs]; rfl) x
      · intro x _ h0
        rw [ext_push, ext_setObj, inHeap_push]
        exact Nat.eq_zero_of_le_zero (h0 ▸ Nat.add_le_add_left (Nat.le.intro (hin x)) _)
      · intro x _ h0
        rw [pend_push, pend_setObj, List.map_cons, List.map_singleton, sumList_cons,
          sumList_singleton, Frame.strongTo_dropVal, Frame.strongTo_finishSingle,
          (Nat.add_eq_zero_iff.mp ((hin x).trans (Nat.add_eq_zero_iff.mp h0).2)).2]
        exact Nat.le_of_eq (Nat.zero_add _)
      · intro x hw
        exact (Wit_congr (push_heap _ _) x).mpr
          (Wit_setObj hg (fun h1 _ _ => by rw [hs] at h1; cases h1) hw)
      · intro x
        rw [push_stack, setObj_stack]
        exact hS.2.2 x

/-! ## the closure lemma -/

theorem sumList_sub_le_range (n : Nat) (R : List Nat) (g : Nat → Nat) (hnd : R.Nodup)
    (hlt : ∀ k ∈ R, k < n) : sumList (R.map g) ≤ sumList ((List.range n).map g) := by
  rw [← sumList_range_indicator n R g hnd hlt]
  apply sumList_map_le
  intro a _
  split
  · exact Nat.le_refl _
  · exact Nat.zero_le _

theorem sumList_H_le_inHeap (s : State) (R : List Nat) (m : Nat) (hnd : R.Nodup)
    (hlt : ∀ k ∈ R, k < s.heap.length) : sumList (R.map (fun n => s.H n m)) ≤ s.inHeap m :=
  sumList_sub_le_range s.heap.length R (fun n => s.H n m) hnd hlt

/-- **closure, list form.**  If every member of a duplicate-free list `R` of live objects has a
strong count bounded by the adoptions recorded inside `R`, then (under the contract between members
of `R` and exact counts `InvC`) no handle to a member exists outside the values of the members. -/
theorem closure_core_local (s : State) (R : List Nat) (hC : s.InvC)
    (hP : ∀ a b, a ∈ R → b ∈ R → s.F a b ≤ s.H a b) (hnd : R.Nodup)
    (hlive : ∀ k ∈ R, s.isLive k = true)
    (hle : ∀ m ∈ R, s.strongNat m ≤ sumList (R.map (fun n => s.F n m))) :
    ∀ m ∈ R, s.ext m = 0 ∧ s.pend m = 0 ∧ s.inHeap m = sumList (R.map (fun n => s.H n m)) := by
  intro m hm
  have h1 := hle m hm
  have h2 : sumList (R.map (fun n => s.F n m)) ≤ sumList (R.map (fun n => s.H n m)) :=
    sumList_map_le R _ _ (fun n hn => hP n m hn hm)
  have h3 := sumList_H_le_inHeap s R m hnd (fun k hk => isLive_lt (hlive k hk))
  have h4 := hC m (hlive m hm)
  omega

/-- **closure lemma.**  After a passed orphan test from the live object `o`, with
`R := (cycleRefs s1 o).visited` (= the keys of the cycle map): no member of `R` is designated by a
handle of the program or of a stack frame, and all handles stored in values and designating a
member are stored in values of members.  The contract is assumed only between members of `R`. -/
theorem closure_lemma_local (s1 : State) (o : Nat) (hO : s1.InvO) (hB : s1.InvB) (hC : s1.InvC)
    (hPloc : ∀ a b, a ∈ (cycleRefs s1 o).visited → b ∈ (cycleRefs s1 o).visited →
      s1.F a b ≤ s1.H a b)
    (ho : s1.isLive o = true) (hne : (cycleRefs s1 o).cmap.isEmpty = false)
    (hext : hasExternalOwners s1 (cycleRefs s1 o).cmap = false) :
    ∀ m ∈ (cycleRefs s1 o).visited,
      s1.ext m = 0 ∧ s1.pend m = 0
      ∧ s1.inHeap m = sumOver (cycleRefs s1 o).visited (fun n => s1.H n m) := by
  have hkv := keys_eq_visited s1 o hO hB ho hne hext
  refine closure_core_local s1 (cycleRefs s1 o).visited hC hPloc (visited_nodup s1 o hO hB ho)
    (visited_live s1 o hO hB ho) (fun m hm => ?_)
  have h1 := strong_le_cmap s1 o hO hB ho hext m ((hkv m).mpr hm)
  rw [cmap_get_eq s1 o hO hB ho m] at h1
  exact h1

theorem closure_keys_local (s1 : State) (o : Nat) (hO : s1.InvO) (hB : s1.InvB) (hC : s1.InvC)
    (hPloc : ∀ a b, a ∈ (cycleRefs s1 o).visited → b ∈ (cycleRefs s1 o).visited →
      s1.F a b ≤ s1.H a b)
    (ho : s1.isLive o = true) (hne : (cycleRefs s1 o).cmap.isEmpty = false)
    (hext : hasExternalOwners s1 (cycleRefs s1 o).cmap = false) :
    ∀ m ∈ (cycleRefs s1 o).cmap.keys,
      s1.ext m = 0 ∧ s1.pend m = 0
      ∧ s1.inHeap m = sumList ((cycleRefs s1 o).cmap.keys.map (fun n => s1.H n m)) := by
  have hkv := keys_eq_visited s1 o hO hB ho hne hext
  have hperm : (cycleRefs s1 o).cmap.keys.Perm (cycleRefs s1 o).visited :=
    (List.perm_ext_iff_of_nodup (keys_nodup s1 o hO hB ho) (visited_nodup s1 o hO hB ho)).mpr hkv
  intro m hm
  obtain ⟨h1, h2, h3⟩ := closure_lemma_local s1 o hO hB hC hPloc ho hne hext m ((hkv m).mp hm)
  refine ⟨h1, h2, ?_⟩
  rw [h3, sumList_map_perm hperm]
  rfl

theorem local_of_P {s1 : State} (o : Nat) (hO : s1.InvO) (hB : s1.InvB) (ho : s1.isLive o = true)
    (hP : s1.P) : ∀ a b, a ∈ (cycleRefs s1 o).visited → b ∈ (cycleRefs s1 o).visited →
      s1.F a b ≤ s1.H a b :=
  fun a b ha _ => hP a b (visited_live s1 o hO hB ho a ha)

theorem closure_keys (s1 : State) (o : Nat) (hO : s1.InvO) (hB : s1.InvB) (hC : s1.InvC)
    (hP : s1.P) (ho : s1.isLive o = true) (hne : (cycleRefs s1 o).cmap.isEmpty = false)
    (hext : hasExternalOwners s1 (cycleRefs s1 o).cmap = false) :
    ∀ m ∈ (cycleRefs s1 o).cmap.keys,
      s1.ext m = 0 ∧ s1.pend m = 0
      ∧ s1.inHeap m = sumList ((cycleRefs s1 o).cmap.keys.map (fun n => s1.H n m)) :=
  closure_keys_local s1 o hO hB hC (local_of_P o hO hB ho hP) ho hne hext

/-! ## the state after the decrement -/

section dec
variable {s0 : State} {o : Nat} {ob : Obj} {n : Nat}

theorem dec_isLive (hg : s0.heap[o]? = some ob) (hs : ob.strong = .cnt (n + 2)) (x : Nat) :
    (s0.setObj o { ob with strong := .cnt (n + 1) }).isLive x = s0.isLive x :=
  isLive_setObj_of_eq (ob' := { ob with strong := .cnt (n + 1) }) hg rfl (by rw [hs]; rfl) x

theorem dec_F (hg : s0.heap[o]? = some ob) (x y : Nat) :
    (s0.setObj o { ob with strong := .cnt (n + 1) }).F x y = s0.F x y :=
  F_setObj_of_links_eq (ob' := { ob with strong := .cnt (n + 1) }) hg rfl rfl x y

theorem dec_B (hg : s0.heap[o]? = some ob) (x y : Nat) :
    (s0.setObj o { ob with strong := .cnt (n + 1) }).B x y = s0.B x y :=
  B_setObj_of_links_eq (ob' := { ob with strong := .cnt (n + 1) }) hg rfl rfl x y

theorem dec_H (hg : s0.heap[o]? = some ob) (x y : Nat) :
    (s0.setObj o { ob with strong := .cnt (n + 1) }).H x y = s0.H x y :=
  H_setObj_of_value_eq (ob' := { ob with strong := .cnt (n + 1) }) hg rfl x y

theorem dec_InvO (hg : s0.heap[o]? = some ob) (hs : ob.strong = .cnt (n + 2)) (hO : s0.InvO) :
    (s0.setObj o { ob with strong := .cnt (n + 1) }).InvO := by
  intro x obx hx
  by_cases hxo : x = o
  · subst hxo
    rw [getElem?_setObj_same _ (get_lt hg)] at hx
    cases hx
    obtain ⟨h1, -, -, h4⟩ := hO x ob hg
    exact ⟨fun k _ => h1 (n + 1) hs, nofun, nofun, h4⟩
  · rw [getElem?_setObj_other s0 _ hxo] at hx
    exact hO x obx hx

theorem dec_InvB (hg : s0.heap[o]? = some ob) (hs : ob.strong = .cnt (n + 2)) (hB : s0.InvB) :
    (s0.setObj o { ob with strong := .cnt (n + 1) }).InvB := by
  refine ⟨fun x t ht => ?_, fun a b ha hb => ?_⟩
  · rw [tableOf_setObj_of_links_eq (ob' := { ob with strong := .cnt (n + 1) }) hg rfl rfl] at ht
    obtain ⟨hwf, he⟩ := hB.1 x t ht
    refine ⟨hwf, fun e hem => ⟨(he e hem).1, fun hk => ?_⟩⟩
    rw [dec_isLive hg hs]
    exact (he e hem).2 hk
  · rw [dec_isLive hg hs] at ha hb
    rw [dec_F hg, dec_B hg]
    exact hB.2 a b ha hb

/-- `hC` is `InvC` of the state before the pop: the popped `rcDrop o` frame owned one handle -/
theorem dec_InvC (hg : s0.heap[o]? = some ob) (hs : ob.strong = .cnt (n + 2))
    (hC : ∀ t, s0.isLive t = true →
      s0.strongNat t = s0.ext t + s0.inHeap t + s0.pend t + (if t = o then 1 else 0)) :
    (s0.setObj o { ob with strong := .cnt (n + 1) }).InvC := by
  intro t ht
  rw [dec_isLive hg hs] at ht
  have h := hC t ht
  rw [ext_setObj, pend_setObj,
    inHeap_setObj_of_value_eq { ob with strong := .cnt (n + 1) } hg rfl]
  by_cases hto : t = o
  · subst hto
    rw [strongNat_setObj_same _ (get_lt hg)]
    rw [strongNat_of_get hg, hs, if_pos rfl] at h
    exact Nat.succ.inj h
  · rw [strongNat_setObj_other s0 _ hto]
    rw [if_neg hto] at h
    exact h

theorem P_of_dec' (hg : s0.heap[o]? = some ob) (hs : ob.strong = .cnt (n + 2)) (hP : s0.P) :
    (s0.setObj o { ob with strong := .cnt (n + 1) }).P := by
  intro a b ha
  rw [dec_isLive hg hs] at ha
  rw [dec_F hg, dec_H hg]
  exact hP a b ha

theorem dec_InvSCore (hg : s0.heap[o]? = some ob) (hs : ob.strong = .cnt (n + 2))
    (_hf : ob.freed = false) (hS : s0.InvSCore) :
    (s0.setObj o { ob with strong := .cnt (n + 1) }).InvSCore :=
  hS.of_eq (dec_isLive hg hs) (fun _ => ext_setObj _ _ _ _)
    (inHeap_setObj_of_value_eq { ob with strong := .cnt (n + 1) } hg rfl) (setObj_stack _ _ _)
    (fun _ hw => Wit_setObj hg (fun h1 _ _ => by rw [hs] at h1; cases h1) hw)

theorem zero_InvSCore (hg : s0.heap[o]? = some ob) (hs : ob.strong = .cnt 1)
    (h0 : s0.ext o + s0.inHeap o + s0.pend o = 0) (hS : s0.InvSCore) :
    (s0.setObj o { ob with strong := .cnt 0 }).InvSCore := by
  have hin := inHeap_setObj_of_value_eq { ob with strong := .cnt 0 } hg rfl
  refine hS.general ?_ ?_ ?_ ?_ ?_
  · intro x hl hl'
    by_cases hx : x = o
    · subst hx
      rw [ext_setObj, hin, pend_setObj]
      exact Nat.add_eq_zero_iff.mp h0
    · rw [isLive_setObj_other s0 _ hx, hl] at hl'; cases hl'
  · intro x _ _ h0
    rw [ext_setObj, hin]; exact h0
  · intro x _ _ _
    rw [pend_setObj]; exact Nat.le_refl _
  · intro x _ _ hw
    exact Wit_setObj hg (fun h1 _ _ => by rw [hs] at h1; cases h1) hw
  · intro x
    rw [setObj_stack]; exact hS.2.2 x

end dec

theorem P_of_dec {s : State} {o : Nat} {ob : Obj} {n : Nat} (rest : List Frame)
    (hg : s.heap[o]? = some ob) (hs : ob.strong = .cnt (n + 2)) (hP : s.P) :
    (({ s with stack := rest } : State).setObj o { ob with strong := .cnt (n + 1) }).P :=
  P_of_dec' (s0 := { s with stack := rest }) hg hs hP

/-! ## the group teardown -/

namespace Teardown

variable {s s' : State} {ks : List Nat} {vs : List Val}

theorem vals_sum (h : Teardown s s' ks vs) (t : Nat) :
    sumList (vs.map (fun v => v.held.count t)) = sumList (ks.map (fun k => s.H k t)) := by
  rw [sumList_map_of_map_some vs ks _ (fun v => v.held.count t) h.vals]
  apply sumList_map_congr
  intro k _
  unfold State.H State.heldOf
  cases s.heap[k]? with
  | none => rfl
  | some ob => cases hv : ob.value <;> simp [hv]

/-- **the group teardown keeps the safety invariant**, provided the group is closed -/
theorem invSCore (h : Teardown s s' ks vs) (hO : s.InvO) (hS : s.InvSCore)
    (hcl : ∀ m ∈ ks, s.ext m = 0 ∧ s.pend m = 0
      ∧ s.inHeap m = sumList (ks.map (fun n => s.H n m))) : s'.InvSCore := by
  refine ⟨fun x hx => ?_, fun x hx hnl => ?_, fun x => ?_⟩
  · have e1 := State.ext_congr h.roots h.raws h.pvals x
    have e2 := h.inHeap_eq x
    by_cases hxk : x ∈ ks
    · obtain ⟨c1, -, c3⟩ := hcl x hxk
      rw [e1, c1, Nat.add_eq_right.mp (e2.trans (c3.trans (h.vals_sum x).symm))] at hx
      cases hx
    · rw [h.isLive_other hxk]
      refine hS.1 x (Nat.lt_of_lt_of_le hx ?_)
      rw [e1]; exact Nat.add_le_add_left (Nat.le.intro e2) _
  · by_cases hxk : x ∈ ks
    · obtain ⟨ob, n, hg, -, hs, hg'⟩ := h.key_obj hxk
      exact ⟨p2Obj ob, hg', rfl, rfl, ((hO x ob hg).1 n hs).2.2.2⟩
    · rw [h.isLive_other hxk] at hnl
      -- `x` is not live, so no value holds a handle to it, in particular no member's value
      have hv0 := (Nat.add_eq_zero_iff.mp
        ((h.inHeap_eq x).trans (Nat.add_eq_zero_iff.mp (hS.s1 hnl)).2)).2
      rw [h.pend_eq, hv0, Nat.zero_add] at hx
      rw [h.other x hxk]
      exact hS.2.1 x hx hnl
  · obtain ⟨vs', -, hst⟩ := h.stack
    rw [hst, List.append_assoc, belowPhase3_dropVals]
    show belowPhase3 x (Frame.phase3 ks :: s.stack) = 0
    rw [State.belowPhase3_phase3]
    split
    · next hxk => exact (hcl x hxk).2.1
    · exact hS.2.2 x

end Teardown

/-! ## the trace branch -/

/-- **the trace branch of `Rc::drop` keeps the safety invariant**: the contract is needed only if
the orphan test passes, and then only between members of the traced set -/
theorem trace_branch_invS_local (s1 : State) (o : Nat) (herr : s1.err = none) (hO : s1.InvO)
    (hB : s1.InvB) (hC : s1.InvC)
    (hPloc : (cycleRefs s1 o).cmap.isEmpty = false →
      hasExternalOwners s1 (cycleRefs s1 o).cmap = false →
      ∀ a b, a ∈ (cycleRefs s1 o).visited → b ∈ (cycleRefs s1 o).visited → s1.F a b ≤ s1.H a b)
    (hS : s1.InvSCore) (ho : s1.isLive o = true) :
    (s1.traceBranch o).InvS := by
  obtain ⟨e, -, he | ⟨hne, hext, -, -, hT⟩⟩ := traceBranch_inv s1 o herr hO hB ho
  · rw [he]; exact fun _ => hS
  · exact fun _ => hT.invSCore hO hS (closure_keys_local s1 o hO hB hC (hPloc hne hext) ho hne hext)

/-! ## `rcDrop` -/

/-- the local contract for the `rcDrop o` step run in the (already popped) state `s0`: *if* the
object has at least two handles, and the trace started in the decremented state `s1` passes the
orphan test, then `F ≤ H` between members of the traced set -/
def State.LocalContract (s0 : State) (o : Nat) : Prop :=
  ∀ ob n, s0.cell o = some ob → ob.strong = .cnt (n + 2) →
    let s1 := s0.setObj o { ob with strong := .cnt (n + 1) }
    (cycleRefs s1 o).cmap.isEmpty = false →
    hasExternalOwners s1 (cycleRefs s1 o).cmap = false →
    ∀ a b, a ∈ (cycleRefs s1 o).visited → b ∈ (cycleRefs s1 o).visited → s1.F a b ≤ s1.H a b

/-- the `rcDrop o` step, stated for the state `s0` in which the frame has already been popped:
`hC` is `InvC` of the state before the pop (the popped frame owned one handle to `o`) -/
theorem rcDrop_invS_core_local (s0 : State) (o : Nat) (herr : s0.err = none) (hO : s0.InvO)
    (hB : s0.InvB)
    (hC : ∀ t, s0.isLive t = true →
      s0.strongNat t = s0.ext t + s0.inHeap t + s0.pend t + (if t = o then 1 else 0))
    (hS : s0.InvSCore) (hPloc : s0.LocalContract o) : (s0.rcDrop o).InvS := by
  rcases State.rcDrop_cases s0 o with ⟨e, he⟩ | he | ⟨ob, n, t, hc, hs, hl, hcase⟩
  · rw [he]; exact InvS_fail _ _
  · rw [he]; exact fun _ => hS
  · have hg := get_of_cell hc
    have hlo : s0.isLive o = true := by rw [isLive_of_get hg, freed_of_cell hc, hs]; rfl
    have hg1 := getElem?_setObj_same (s := s0) { ob with strong := .cnt n } (get_lt hg)
    cases n with
    | zero =>
      have h0 := hC o hlo
      rw [strongNat_of_get hg, hs, if_pos rfl] at h0
      have hS1 := zero_InvSCore hg hs (Nat.succ.inj h0).symm hS
      rcases hcase with ⟨hn, -⟩ | ⟨-, -, he⟩ | ⟨-, -, he⟩ | ⟨hn, -⟩
      · exact absurd rfl hn
      · rw [he]; exact beginSingle_invSCore hg1 rfl hS1
      · rw [he]
        have hLO := LinksOnly.purgePeers (s0.setObj o { ob with strong := .cnt 0 }) o
        obtain ⟨ob', hg', a1, -⟩ := hLO.obj o _ hg1
        exact beginSingle_invSCore hg' a1 (hLO.invSCore hS1)
      · exact absurd rfl hn
    | succ n =>
      have hS1 := dec_InvSCore hg hs (freed_of_cell hc) hS
      rcases hcase with ⟨-, -, he⟩ | ⟨hn, -⟩ | ⟨hn, -⟩ | ⟨-, -, he⟩
      · rw [he]; exact fun _ => hS1
      · cases hn
      · cases hn
      · rw [he]
        exact trace_branch_invS_local _ o herr (dec_InvO hg hs hO) (dec_InvB hg hs hB)
          (dec_InvC hg hs hC) (hPloc ob n hc hs) hS1 (by rw [dec_isLive hg hs]; exact hlo)

/-- **`InvS` is preserved by the `rcDrop` step under the local contract**: *if* this step's trace
(run in the decremented state `s1`) passes the orphan test, then the contract holds between members
of the traced set.  Nothing is assumed otherwise. -/
theorem rcDrop_invS_local {s : State} {o : Nat} {rest : List Frame} (herr : s.err = none)
    (hst : s.stack = Frame.rcDrop o :: rest) (hI : s.Inv) (hS : s.InvS)
    (hPloc : ({ s with stack := rest } : State).LocalContract o) :
    (({ s with stack := rest } : State).rcDrop o).InvS := by
  obtain ⟨hO, hB, hC, -, -⟩ := hI herr
  refine rcDrop_invS_core_local _ o herr (State.pop_InvO rest hO) (State.pop_InvB rest hB) ?_
    (pop_InvSCore hst (hS herr)) hPloc
  intro t ht
  show s.strongNat t = s.ext t + s.inHeap t + ({ s with stack := rest } : State).pend t
    + (if t = o then 1 else 0)
  rw [hC t ht, pend_of_stack_cons hst t, Frame.strongTo_rcDrop]
  by_cases hto : t = o
  · rw [if_pos hto, if_pos hto.symm, Nat.add_comm 1]
    exact (Nat.add_assoc _ _ _).symm
  · rw [if_neg hto, if_neg (Ne.symm hto), Nat.zero_add, Nat.add_zero]

theorem step_invS_rcDrop_local (s : State) (hI : s.Inv) (hS : s.InvS) (o : Nat)
    (rest : List Frame) (hst : s.stack = Frame.rcDrop o :: rest) (herr : s.err = none)
    (hPloc : ({ s with stack := rest } : State).LocalContract o) : (step s).InvS := by
  rw [step_eq_frame herr hst]
  exact rcDrop_invS_local herr hst hI hS hPloc

theorem visited_live_dec {s : State} {o : Nat} {rest : List Frame} (herr : s.err = none)
    (hI : s.Inv) {ob : Obj} {n : Nat} (hc : s.cell o = some ob) (hs : ob.strong = .cnt (n + 2))
    {a : Nat}
    (ha : a ∈ (cycleRefs (({ s with stack := rest } : State).setObj o
      { ob with strong := .cnt (n + 1) }) o).visited) : s.isLive a = true := by
  obtain ⟨hO, hB, -, -, -⟩ := hI herr
  have hg : ({ s with stack := rest } : State).heap[o]? = some ob := get_of_cell hc
  have := visited_live _ o (dec_InvO hg hs (State.pop_InvO rest hO))
    (dec_InvB hg hs (State.pop_InvB rest hB))
    (by rw [dec_isLive hg hs, isLive_of_get hg, freed_of_cell hc, hs]; rfl) a ha
  rwa [dec_isLive hg hs] at this

theorem step_invS_rcDrop (s : State) (hI : s.Inv) (hS : s.InvS) (hP : s.P) (o : Nat)
    (rest : List Frame) (hst : s.stack = Frame.rcDrop o :: rest) (herr : s.err = none) :
    (step s).InvS := by
  refine step_invS_rcDrop_local s hI hS o rest hst herr ?_
  intro ob n hc hs s1 _ _ a b ha _
  have hg : ({ s with stack := rest } : State).heap[o]? = some ob := get_of_cell hc
  exact P_of_dec rest hg hs hP a b ((dec_isLive hg hs a).trans (visited_live_dec herr hI hc hs ha))

end Cactus
