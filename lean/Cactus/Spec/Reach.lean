import Cactus.Spec.Inv
/-!
# Reachable machine states

`Reachable s`: `s` occurs in some execution of some history, at an operation boundary or in the
middle of a teardown (so statements about reachable states also speak about every point at which
a user destructor runs).  `ReachableP` additionally requires the adoption contract `P` in every
state passed through: it is the hypothesis of the properties that the crate documents as
requiring correct use of `adopt_unchecked`.
-/
namespace Cactus

/-- start of an operation: the layout hint is installed (no other effect) -/
def State.begin (s : State) (hint : List Nat) : State := { s with hint := hint }

inductive Reachable : State → Prop
  | init : Reachable {}
  | op {s : State} (o : Op) (hint : List Nat) : Reachable s → s.stack = [] → Reachable (applyOp (s.begin hint) o)
  | step {s : State} : Reachable s → Reachable (step s)
  | endOp {s : State} : Reachable s → Reachable (endOp s)
  | outOfFuel {s : State} : Reachable s → Reachable (s.fail .fuel)

inductive ReachableP : State → Prop
  | init : ReachableP {}
  | op {s : State} (o : Op) (hint : List Nat) : ReachableP s → s.stack = [] →
      (applyOp (s.begin hint) o).P → ReachableP (applyOp (s.begin hint) o)
  | step {s : State} : ReachableP s → (step s).P → ReachableP (step s)
  | endOp {s : State} : ReachableP s → ReachableP (endOp s)
  | outOfFuel {s : State} : ReachableP s → ReachableP (s.fail .fuel)

theorem ReachableP.reachable {s : State} (h : ReachableP s) : Reachable s := by
  induction h with
  | init => exact .init
  | op o hint _ hq _ ih => exact .op o hint ih hq
  | step _ _ ih => exact .step ih
  | endOp _ ih => exact .endOp ih
  | outOfFuel _ ih => exact .outOfFuel ih

end Cactus
