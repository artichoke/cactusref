import Cactus.Lemmas.Contract
import Cactus.Lemmas.Once
import Cactus.Lemmas.NoErr
import Cactus.Lemmas.Final
import Cactus.Lemmas.Orphan
import Cactus.Lemmas.Shared.OneStep   -- `Shared.rcDrop_dead_noop`, `Shared.decWeakFree_released`
import Cactus.Lemmas.Shared.Alloc     -- `pending_handle_cell_isSome`
import Cactus.Lemmas.Shared.Eval      -- decidable equality of `State`
/-!
# C02 — values die at most once; the library never touches freed memory

In the model every library access to an allocation goes through `cell` / `tableOf` / the value
field and reports `uaf`, `movedLinks`, `movedValue`, `underflow` instead of proceeding; so the
property is "`err` never becomes one of those".  What is proved here:
* one-step lemmas: `C02_begun_object_inert`, `C02_trace_reads_live_only`,
  `C02_no_silent_double_free`;
* whole histories: `C02_no_handle_to_released_allocation`, `C02_no_access_after_release` (under
  `ReachableP`), `C02_contract_respecting_histories` (under the syntactic `Op.respects`), and with
  no hypothesis on the history at all `C02_release_scheduled_at_most_once`,
  `C02_destroyed_and_released_at_most_once`, `C02_run_at_most_once`;
* example: a contract-respecting history with a collection, Weak handles and a destructor that
  re-enters the library, the theorems instantiated and the log shown.
Not proved: the library-side statements for histories that break the adoption contract (they are
false: D4); real memory is abstracted by the model, the harness checks it on the implementation.
-/
namespace Cactus
open State

/-- `make_uninit` precedes moving the value out: once a teardown has begun on `o`, every further
`Rc::drop` of a handle to `o` (the members' handles to each other, dropped while the values are
being destroyed) returns at once — the value cannot be moved out or destroyed a second time -/
theorem C02_begun_object_inert (s : State) (o : Nat) (ob : Obj) (v : Val)
    (hc : s.cell o = some ob) (hs : ∃ n, ob.strong = .cnt n) (hv : ob.value = some v) :
    ∃ ob', (s.beginSingle o).cell o = some ob' ∧ ob'.strong = .uninit ∧ ob'.value = none
      ∧ ((s.beginSingle o).rcDrop o) = s.beginSingle o := by
  obtain ⟨n, hn⟩ := hs
  have hb : s.beginSingle o
      = (s.setObj o { ob with strong := .uninit, value := none }).push [.dropVal v, .finishSingle o] := by
    simp only [State.beginSingle, hc, hn, hv]
  have hcell : (s.beginSingle o).cell o = some { ob with strong := .uninit, value := none } := by
    rw [hb]
    show (s.setObj o _).cell o = _
    rw [cell_setObj_same s o ob _ hc, if_neg (by simp [(cell_some_get s o ob hc).2])]
  exact ⟨_, hcell, rfl, rfl, Shared.rcDrop_dead_noop _ o _ hcell rfl⟩

/-- every trace only reads tables of live objects, and every key of the cycle map is a live,
readable allocation: the trace and the orphan test never touch a released allocation or a
moved-out table (needs only the bookkeeping invariants, not the contract) -/
theorem C02_trace_reads_live_only (s : State) (x : Nat) (hO : s.InvO) (hB : s.InvB) (hx : s.isLive x = true) :
    (cycleRefs s x).bad = none ∧ firstUnreadable s (cycleRefs s x).cmap = none
    ∧ ∀ n ∈ (cycleRefs s x).visited, s.isLive n = true :=
  ⟨(cycleRefs_ok s x hO hB hx).1, firstUnreadable_none s x hO hB hx, visited_live s x hO hB hx⟩

/-- releasing is never silent on a released allocation (see also `C04_no_double_release`) -/
theorem C02_no_silent_double_free (s : State) (o : Nat) (h : s.cell o = none) (he : s.err = none) :
    (s.weakDrop o).err = some (.uaf o) := (Shared.decWeakFree_released s o false h he).1


/-! ## Over whole contract-respecting histories -/

/-- **C02 (no access after release, handle side).** In every state of every contract-respecting
execution, every strong handle that still exists anywhere — in the program, inside a stored value,
or owned by a pending teardown frame (this includes the handles that the values of a collected
group hold to each other, which are dropped while the members' values are being destroyed) —
targets an allocation that has not been released; so the `Rc::drop` that will eventually consume it
reads valid counter cells. -/
theorem C02_no_handle_to_released_allocation {s : State} (h : ReachableP s) (he : s.err = none) {o : Nat}
    (hh : 0 < s.ext o + s.inHeap o + s.pend o) : (s.cell o).isSome = true := by
  by_cases h1 : 0 < s.ext o + s.inHeap o
  · exact State.isLive_cell_isSome ((reachableP_invS h he).1 o h1)
  · exact pending_handle_cell_isSome h he (by omega)

/-- **C02 (no double release).** Each implicit weak reference is owed by at most one pending
continuation, and only while the object still owns it: a second release of the same allocation by
the library cannot be scheduled (no hypothesis on the history) -/
theorem C02_release_scheduled_at_most_once {s : State} (h : Reachable s) (he : s.err = none) (o : Nat) :
    s.owed o ≤ 1 := by
  obtain ⟨-, -, how⟩ : s.InvK := (reachable_core h he).1.2.2.2.2
  exact how o


/-- **C02 (library side).** In every contract-respecting execution the machine never reports a
read or write of a released allocation (`uaf`), of a moved-out link table (`movedLinks`) or value
(`movedValue`), a double release, a counter underflow or a corrupted counter — and the program
never even holds a dangling handle (`dangling`).  The only ways the machine can stop are running
out of fuel and the two documented aborts (cloning a dead handle, a second panic while unwinding). -/
theorem C02_no_access_after_release {s : State} (h : ReachableP s) (o : Nat) :
    s.err ≠ some (.uaf o) ∧ s.err ≠ some (.movedLinks o) ∧ s.err ≠ some (.movedValue o)
    ∧ s.err ≠ some (.doubleFree o) ∧ s.err ≠ some (.underflow o) ∧ s.err ≠ some (.corrupt o)
    ∧ s.err ≠ some (.dangling o) := reachableP_no_library_error h o

/-- **C02 (at most once).** In every execution of every history — no contract needed, panics
included — the destructor of each stored value runs at most once and each allocation is released
at most once; and a value that is still in place has not been destroyed. -/
theorem C02_destroyed_and_released_at_most_once {s : State} (h : Reachable s) :
    s.destroyedVids.Nodup ∧ s.freedIds.Nodup ∧ ∀ v ∈ s.allVals, v.vid ∉ s.destroyedVids :=
  ⟨(reachable_once' h).1, (reachable_once' h).2, reachable_stored_not_destroyed h⟩

theorem C02_run_at_most_once (ops : List (Op × List Nat)) :
    (run ops).destroyedVids.Nodup ∧ (run ops).freedIds.Nodup := run_once ops


/-! ## With the syntactic hypothesis of `C01_contract_respecting_histories` -/

/-- **C02 for every contract-respecting history** (no bare `adopt`, no bare `take`, also inside
destructor scripts): at every point of the execution the machine is error-free or has stopped for
one of the three reasons that are not library faults — out of fuel, or one of the two documented
aborts.  In particular never `uaf`, `movedLinks`, `movedValue`, `doubleFree`, `underflow`,
`corrupt`, `dangling`. -/
theorem C02_contract_respecting_histories {s : State} (h : ReachableC s) : s.okErr := by
  induction h with
  | init => exact Or.inl rfl
  | @op s o hint hr hq _ ih =>
    cases he : s.err with
    | none =>
      have hp := hr.reachableP he
      have hI : (s.begin hint).Inv := begin_inv s hint (reachable_Inv hp.reachable)
      have hR : (s.begin hint).InvR := begin_invR s hint (reachable_InvR hp.reachable he)
      have hS : (s.begin hint).InvS := begin_invS s hint (reachableP_invS hp)
      exact applyOp_okErr _ o hI hR hS he
    | some e =>
      have he0 : (s.begin hint).err = some e := he
      exact okErr_of_err_eq (s := s) ((applyOp_err_of_some _ o he0).trans he.symm) ih
  | @step s hr ih =>
    cases he : s.err with
    | none =>
      have hp := hr.reachableP he
      exact step_okErr s (reachable_Inv hp.reachable) (reachable_InvR hp.reachable he)
        (reachableP_invS hp) (reachableP_P hp) (reachableP_scriptOK hp) he
    | some e =>
      rw [step_of_err he]; exact ih
  | @endOp s _ ih => exact okErr_of_err_eq (endOp_err s) ih
  | @outOfFuel s _ ih => exact okErr_fail_fuel ih

/-! ## Non-vacuity: a contract-respecting history with a collection and Weak handles

A 3-ring `0 → 1 → 2 → 0` built with `link`; the program holds a Weak to object 0, object 2's value
holds a Weak to object 1 and its destructor upgrades it (re-entering the library in the middle of
the teardown, when 1 is already marked dead); a survivor (object 3) with a Weak.  The last `drop`
collects the ring (destruction order chosen by the hint `[2, 0, 1]`); afterwards the Weak to the
collected object 0 fails to upgrade and is dropped (releasing the allocation), the Weak to the
survivor upgrades. -/

def weakRingHistory : List (Op × List Nat) :=
  [(.act .new, []), (.act .new, []), (.act .new, []),
   (.act (.clone 1), []), (.act (.link 3 0), []),       -- 0 → 1
   (.act (.clone 2), []), (.act (.link 3 1), []),       -- 1 → 2
   (.act (.clone 0), []), (.act (.link 3 2), []),       -- 2 → 0
   (.act (.downgrade 0), []),                           -- program: Weak to 0
   (.act (.downgrade 1), []), (.act (.storeWeak 1 2), []),  -- object 2 holds a Weak to 1
   (.setScript 2 [.upgradeField 0], []),                -- 2's destructor upgrades it
   (.act .new, []), (.act (.downgrade 3), []),          -- survivor 3 and a Weak to it
   (.act (.drop 1), []), (.act (.drop 1), []),          -- program handles to 1, 2
   (.act (.drop 0), [2, 0, 1]),                         -- last handle: collects {0, 1, 2}
   (.act (.upgrade 0), []),                             -- Weak to dead 0: None
   (.act (.dropWeak 0), []),                            -- last Weak to 0: allocation released
   (.act (.upgrade 0), []), (.act (.counts 1), [])]     -- Weak to survivor 3: Some

/-- the syntactic hypothesis of `C02_contract_respecting_histories` holds (script included) -/
theorem weakRingHistory_respects : ∀ oh ∈ weakRingHistory, oh.1.respects := by decide +kernel

/-- so its final state is `ReachableC`, and (no error) `ReachableP` -/
theorem weakRingHistory_reachableC : ReachableC (run weakRingHistory) :=
  run_reachableC weakRingHistory weakRingHistory_respects

/-- the end state of the history; the examples below read it off this literal -/
theorem run_weakRingHistory : run weakRingHistory =
    { heap := [.husk 0, .husk 0, .husk 0,
               .live 2 2 [] (.plain 3 [])],
      roots := [3, 3], wroots := [3],
      log := [.traced 1 3 4, .traced 2 3 4, .traced 0 3 4,
              .destroyed 2, .ret 0, .destroyed 0, .destroyed 1, .freed 1, .freed 2,
              .ret 0, .freed 0, .ret 1, .ret 2, .ret 1],
      nextVid := 4 } := by
  decide +kernel

theorem weakRingHistory_noErr : (run weakRingHistory).err = none := by rw [run_weakRingHistory]

/-- the theorems instantiated: the machine has not stopped for a library fault … -/
example : (run weakRingHistory).okErr :=
  C02_contract_respecting_histories weakRingHistory_reachableC

example (o : Nat) : (run weakRingHistory).err ≠ some (.uaf o)
    ∧ (run weakRingHistory).err ≠ some (.movedLinks o)
    ∧ (run weakRingHistory).err ≠ some (.movedValue o)
    ∧ (run weakRingHistory).err ≠ some (.doubleFree o)
    ∧ (run weakRingHistory).err ≠ some (.underflow o)
    ∧ (run weakRingHistory).err ≠ some (.corrupt o)
    ∧ (run weakRingHistory).err ≠ some (.dangling o) :=
  C02_no_access_after_release (weakRingHistory_reachableC.reachableP weakRingHistory_noErr) o

/-- … every value was destroyed at most once and every allocation released at most once … -/
example : (run weakRingHistory).destroyedVids.Nodup ∧ (run weakRingHistory).freedIds.Nodup :=
  C02_run_at_most_once weakRingHistory

/-- … every handle left designates an allocation that has not been released -/
example : ((run weakRingHistory).cell 3).isSome = true :=
  C02_no_handle_to_released_allocation
    (weakRingHistory_reachableC.reachableP weakRingHistory_noErr) weakRingHistory_noErr
    (by rw [run_weakRingHistory]; decide +kernel)

/-- concretely (by evaluation): no error at all; the three ring values destroyed once each, in the
order of the hint; the three allocations released once each (1 and 2 by `phase3`, 0 when its last
Weak is dropped); the `upgradeField` inside the teardown and the `upgrade` after it return `None`
(`ret 0`), the `upgrade` of the survivor's Weak `Some` (`ret 1`); survivor counts 2 strong, 1 Weak -/
example : let s := run weakRingHistory
    s.err = none ∧ s.destroyedVids = [2, 0, 1] ∧ s.freedIds = [1, 2, 0]
    ∧ s.roots = [3, 3] ∧ s.wroots = [3]
    ∧ s.log = [.traced 1 3 4, .traced 2 3 4, .traced 0 3 4,
               .destroyed 2, .ret 0, .destroyed 0, .destroyed 1, .freed 1, .freed 2,
               .ret 0, .freed 0, .ret 1, .ret 2, .ret 1]
    ∧ s.heap.map (fun ob => (ob.strong, ob.weak, ob.freed))
        = [(.uninit, 0, true), (.uninit, 0, true), (.uninit, 0, true), (.cnt 2, 2, false)] := by
  rw [run_weakRingHistory]; decide +kernel

end Cactus
