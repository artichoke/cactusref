import Cactus.Lemmas.Final
import Cactus.Lemmas.Basic
import Cactus.Lemmas.Shared.OneStep   -- `Shared.upgradeField_dead_none`
import Cactus.Lemmas.Shared.Alloc     -- `State.cell_isSome_of_weak_ref`
import Cactus.Lemmas.NoRevive         -- `Later`, `later_isLive_false` (destruction is final)
import Cactus.Lemmas.Shared.Eval      -- decidable equality of `State`
/-!
# C05 — Weak handles observe destruction exactly

What is proved here:
* one-step lemmas: `C05_upgrade_dead_none`, `C05_upgradeField_dead_none`, `C05_upgrade_live_some`,
  `C05_wcounts_dead`, `C05_weakDrop`;
* whole histories, no hypothesis on the history, every state including mid-teardown:
  `C05_weak_keeps_allocation`, `C05_value_present_iff_not_dead`, and the statement itself
  `C05_upgrade_iff_value_not_destroyed`;
* example: a history after which the program holds a Weak to a collected group member and a Weak to
  a survivor; both directions of the equivalence instantiated.
Not modelled: a Weak that never had an allocation (`Weak::new()`): no action of the model creates one.
-/
namespace Cactus
open State

/-- `Weak::upgrade` on a destroyed object (count 0 after `try_unwrap`/`make_mut`, or the uninit
sentinel set by every teardown path before any value is destroyed) returns `None`: no handle is
created, no counter changes (rc.rs:1555-1563). Also holds when called from a destructor
(`upgradeField`, below), because `applyAct` is the same function at every nesting depth. -/
theorem C05_upgrade_dead_none (s : State) (fh fw : List Nat) (w o : Nat) (ob : Obj)
    (hw : nthMod s.wroots w = some o) (hc : s.cell o = some ob) (hd : ob.strong.isDead = true) :
    applyAct s fh fw (.upgrade w) = s.emit (retBool false) := by
  simp [applyAct, hw, hc, hd]

theorem C05_upgradeField_dead_none (s : State) (fh fw : List Nat) (k o : Nat) (ob : Obj)
    (hw : nthMod fw k = some o) (hc : s.cell o = some ob) (hd : ob.strong.isDead = true) :
    applyAct s fh fw (.upgradeField k) = s.emit (retBool false) :=
  Shared.upgradeField_dead_none s fh fw k o ob hw hc hd

/-- on an object whose value has not been destroyed `upgrade` yields a handle to the same
object and increments exactly its strong count -/
theorem C05_upgrade_live_some (s : State) (fh fw : List Nat) (w o : Nat) (ob : Obj) (n : Nat)
    (hw : nthMod s.wroots w = some o) (hc : s.cell o = some ob) (hs : ob.strong = .cnt (n + 1)) :
    (applyAct s fh fw (.upgrade w)).roots = s.roots ++ [o]
    ∧ (applyAct s fh fw (.upgrade w)).log = s.log ++ [retBool true]
    ∧ (applyAct s fh fw (.upgrade w)).heap = s.heap.set o { ob with strong := .cnt (n + 2) } := by
  simp [applyAct, hw, hc, hs, Strong.isDead, State.incStrong, State.setObj, State.emit]

/-- after destruction a Weak reports `strong_count` 0 and `weak_count` 0 (rc.rs:1569-1595) -/
theorem C05_wcounts_dead (s : State) (fh fw : List Nat) (w o : Nat) (ob : Obj)
    (hw : nthMod s.wroots w = some o) (hc : s.cell o = some ob) (hd : ob.strong.isDead = true) :
    (applyAct s fh fw (.wcounts w)).log = s.log ++ [.ret 0, .ret 0] := by
  simp only [applyAct, hw, hc]
  cases hs : ob.strong with
  | uninit => simp [State.emit]
  | cnt n =>
    cases n with
    | zero => simp [State.emit]
    | succ n => simp [hs, Strong.isDead] at hd

/-- dropping a Weak releases the allocation exactly when it was the last weak reference
(implicit one included), and never touches the strong count, the value or the table -/
theorem C05_weakDrop (s : State) (o : Nat) (ob : Obj) (hc : s.cell o = some ob) (w : Nat)
    (hw : ob.weak = w + 1) :
    (s.weakDrop o).heap = s.heap.set o { ob with weak := w, freed := decide (w = 0) }
    ∧ (s.weakDrop o).err = s.err := by
  unfold State.weakDrop State.decWeakFree
  simp only [hc]
  cases w with
  | zero => simp [hw, State.setObj, State.emit]
  | succ w => simp [hw, State.setObj, (cell_some_get s o ob hc).2]

/-- a Weak selector is interpreted modulo the length of the Weak table (the non-vacuity examples
for the property itself are at the end of the file) -/
example : nthMod ({ wroots := [0] } : State).wroots 5 = some 0 := by decide


/-! ## Over whole histories (no hypothesis on the history) -/

/-- **C05 (allocation validity).** While any Weak handle to an object exists — held by the program,
stored inside a value, or owned by a pending teardown frame — its allocation has not been released,
whatever happened to its value (plain drop, zero count with adoptions, member of a collected group,
`try_unwrap`, `make_mut`, interrupted by a panic). -/
theorem C05_weak_keeps_allocation {s : State} (h : Reachable s) (he : s.err = none) {t : Nat}
    (hw : 0 < s.extW t + s.inHeapW t + s.pendW t) : (s.cell t).isSome = true := by
  obtain ⟨⟨hO, _, _, hW, _⟩, hR⟩ := reachable_core h he
  have hlt : t < s.heap.length := Nat.lt_of_not_le fun hge => by
    have := (hR t hge).2
    omega
  exact State.cell_isSome_of_weak_ref hO hW hlt (by omega)

/-- **C05 (exactness).** For an allocated object, "the value has not been destroyed" (it is still in
place) is equivalent to "the strong count is positive", which is exactly the test `upgrade`
performs; so `upgrade` succeeds iff the value has not been destroyed, in every reachable state —
including states in the middle of a group teardown, where all members have already been marked
dead before any member's destructor runs. -/
theorem C05_value_present_iff_not_dead {s : State} (h : Reachable s) (he : s.err = none) {o : Nat} {ob : Obj}
    (hc : s.cell o = some ob) : ob.value.isSome = true ↔ ob.strong.isDead = false := by
  have hO := (reachable_core h he).1.1
  have hg := (cell_some_get s o ob hc).1
  have := hO o ob hg
  cases hs : ob.strong with
  | uninit => simp [Strong.isDead, (this.2.2.1 hs).1]
  | cnt n =>
    cases n with
    | zero => simp [Strong.isDead, (this.2.1 hs).1]
    | succ n => simp [Strong.isDead, (this.1 n hs).1]


/-- **C05 (the statement itself).** In every reachable state, for every Weak handle the program
holds: the allocation is readable, and `upgrade` hands out a new strong handle to that same object
if and only if the object's value has not been destroyed (it is still in place). -/
theorem C05_upgrade_iff_value_not_destroyed {s : State} (h : Reachable s) (he : s.err = none)
    (fh fw : List Nat) {w o : Nat} (hw : nthMod s.wroots w = some o) :
    ∃ ob, s.cell o = some ob ∧
      ((applyAct s fh fw (.upgrade w)).roots = s.roots ++ [o] ↔ ob.value.isSome = true) := by
  have hc := C05_weak_keeps_allocation h he
    (Nat.add_pos_left (Nat.add_pos_left (State.extW_pos_of_mem_wroots (mem_of_nthMod hw)) _) _)
  obtain ⟨ob, hcell⟩ := Option.isSome_iff_exists.mp hc
  refine ⟨ob, hcell, ?_⟩
  have hiff := C05_value_present_iff_not_dead h he hcell
  cases hd : ob.strong.isDead with
  | true =>
    rw [C05_upgrade_dead_none s fh fw w o ob hw hcell hd, hiff, hd]
    exact ⟨fun hr => (nomatch List.self_eq_append_right.mp hr), fun hv => nomatch hv⟩
  | false =>
    obtain ⟨n, hs⟩ := (Strong.isDead_eq_false_iff _).mp hd
    exact ⟨fun _ => hiff.mpr hd, fun _ => (C05_upgrade_live_some s fh fw w o ob n hw hcell hs).1⟩

/-- **C05 (destruction is final for every Weak).** Once an object's value has been destroyed — in
state `s`, by any teardown path — then in every later state `t` of the same execution (`Later`: any
number of operation starts, machine steps, operation boundaries; mid-teardown states included), as
long as the machine has reported no error, every Weak handle the program holds to that object

* still names a readable allocation,
* fails to `upgrade` (no handle is created, no counter changes), and
* reports `strong_count` 0 and `weak_count` 0,

and the same answer is given to a destructor that upgrades one of its own Weak fields. -/
theorem C05_destroyed_is_final {s t : State} (hl : Later s t) (hr : Reachable t) (he : t.err = none)
    (o : Nat) (ho : o < s.heap.length) (hd : s.isLive o = false) (fh fw : List Nat) :
    (∀ w, nthMod t.wroots w = some o →
        (t.cell o).isSome = true
        ∧ applyAct t fh fw (.upgrade w) = t.emit (retBool false)
        ∧ (applyAct t fh fw (.wcounts w)).log = t.log ++ [.ret 0, .ret 0])
    ∧ (∀ k, nthMod fw k = some o → (t.cell o).isSome = true →
        applyAct t fh fw (.upgradeField k) = t.emit (retBool false)) := by
  have hdead := (later_isLive_false hl ho hd).2
  have key : ∀ ob, t.cell o = some ob → ob.strong.isDead = true := by
    intro ob hc
    rw [State.isLive_of_cell hc] at hdead
    simpa using hdead
  constructor
  · intro w hw
    have hc := C05_weak_keeps_allocation hr he
      (Nat.add_pos_left (Nat.add_pos_left (State.extW_pos_of_mem_wroots (mem_of_nthMod hw)) _) _)
    obtain ⟨ob, hcell⟩ := Option.isSome_iff_exists.mp hc
    exact ⟨hc, C05_upgrade_dead_none t fh fw w o ob hw hcell (key ob hcell),
      C05_wcounts_dead t fh fw w o ob hw hcell (key ob hcell)⟩
  · intro k hk hc
    obtain ⟨ob, hcell⟩ := Option.isSome_iff_exists.mp hc
    exact C05_upgradeField_dead_none t fh fw k o ob hk hcell (key ob hcell)

/-- the history form: an object destroyed by the end of `ops1` answers `None`/0/0 through every
Weak the program holds after `ops1 ++ ops2`, whatever `ops2` does -/
theorem C05_destroyed_is_final_run (ops1 ops2 : List (Op × List Nat)) (o : Nat)
    (ho : o < (run ops1).heap.length) (hd : (run ops1).isLive o = false)
    (he : (run (ops1 ++ ops2)).err = none) (w : Nat)
    (hw : nthMod (run (ops1 ++ ops2)).wroots w = some o) :
    applyAct (run (ops1 ++ ops2)) [] [] (.upgrade w) = (run (ops1 ++ ops2)).emit (retBool false)
    ∧ (applyAct (run (ops1 ++ ops2)) [] [] (.wcounts w)).log
        = (run (ops1 ++ ops2)).log ++ [.ret 0, .ret 0] :=
  ((C05_destroyed_is_final (later_run_append ops1 ops2) (run_reachable _) he o ho hd [] []).1 w hw).2


/-! ## Non-vacuity: both directions of `C05_upgrade_iff_value_not_destroyed` on one history

A two-cycle `0 ↔ 1` built with `link`, a Weak to its member 0, a survivor (object 2) with a Weak;
the program drops its handles to 1 and 0, the second `drop` collects {0, 1}.  In the final state
the program holds the Weak handles `[0, 2]`: one to a collected group member, one to a survivor. -/

def weakObserveHistory : List (Op × List Nat) :=
  [(.act .new, []), (.act .new, []),
   (.act (.clone 1), []), (.act (.link 2 0), []),     -- 0 → 1
   (.act (.clone 0), []), (.act (.link 2 1), []),     -- 1 → 0
   (.act (.downgrade 0), []),                         -- Weak to group member 0
   (.act .new, []), (.act (.downgrade 2), []),        -- survivor 2 and a Weak to it
   (.act (.drop 1), []),                              -- program's handle to 1
   (.act (.drop 0), [])]                              -- program's handle to 0: collects {0, 1}

/-- the end state of the history; the examples below read it off this literal -/
theorem run_weakObserveHistory : run weakObserveHistory =
    { heap := [.husk 1, .husk 0,
               .live 1 2 [] (.plain 2 [])],
      roots := [2], wroots := [0, 2],
      log := [.traced 1 2 3, .traced 0 2 3, .destroyed 1, .destroyed 0, .freed 1], nextVid := 3 } := by
  decide +kernel

theorem weakObserveHistory_noErr : (run weakObserveHistory).err = none := by
  rw [run_weakObserveHistory]

/-- the final state: both members destroyed, 1's allocation released, 0's kept by the Weak -/
example : let s := run weakObserveHistory
    s.roots = [2] ∧ s.wroots = [0, 2]
    ∧ s.log = [.traced 1 2 3, .traced 0 2 3, .destroyed 1, .destroyed 0, .freed 1]
    ∧ s.heap.map (fun ob => (ob.strong, ob.weak, ob.value.isSome, ob.freed))
        = [(.uninit, 1, false, false), (.uninit, 0, false, true), (.cnt 1, 2, true, false)] := by
  rw [run_weakObserveHistory]; decide +kernel

/-- `C05_weak_keeps_allocation` there: the Weak to the collected member keeps its allocation -/
example : ((run weakObserveHistory).cell 0).isSome = true :=
  C05_weak_keeps_allocation (run_reachable weakObserveHistory) weakObserveHistory_noErr
    (by rw [run_weakObserveHistory]; decide +kernel)

/-- direction "destroyed ⇒ no handle": for the Weak to the collected member 0 the theorem gives an
allocation whose value is gone, so `upgrade` does not hand out a handle -/
example : (applyAct (run weakObserveHistory) [] [] (.upgrade 0)).roots
    ≠ (run weakObserveHistory).roots ++ [0] := by
  obtain ⟨ob, hc, hiff⟩ := C05_upgrade_iff_value_not_destroyed (run_reachable weakObserveHistory)
    weakObserveHistory_noErr [] [] (w := 0) (o := 0) (by rw [run_weakObserveHistory]; rfl)
  rw [run_weakObserveHistory] at hc
  cases hc
  intro h
  exact absurd (hiff.mp h) (by decide)

/-- direction "not destroyed ⇒ handle": for the Weak to the survivor 2 the value is in place, so
`upgrade` hands out a new strong handle to object 2 -/
example : (applyAct (run weakObserveHistory) [] [] (.upgrade 1)).roots
    = (run weakObserveHistory).roots ++ [2] := by
  obtain ⟨ob, hc, hiff⟩ := C05_upgrade_iff_value_not_destroyed (run_reachable weakObserveHistory)
    weakObserveHistory_noErr [] [] (w := 1) (o := 2) (by rw [run_weakObserveHistory]; rfl)
  rw [run_weakObserveHistory] at hc
  cases hc
  exact hiff.mpr rfl

/-- the same by evaluation, as the program observes it: `upgrade` of the first Weak returns `None`
(`ret 0`), of the second `Some` (`ret 1`), and the dead object reports counts 0 / 0 -/
example : (run (weakObserveHistory ++ [(.act (.upgrade 0), []), (.act (.upgrade 1), []),
      (.act (.wcounts 0), [])])).log.drop 5 = [.ret 0, .ret 1, .ret 0, .ret 0] := by
  rw [run_append, run_weakObserveHistory]; decide +kernel

def weakObserveLater : List (Op × List Nat) :=
  [(.act .new, []), (.act (.clone 0), []), (.act (.drop 0), [])]

/-- non-vacuity of `C05_destroyed_is_final_run`: object 0 is destroyed by `weakObserveHistory`; the
program goes on (a new object, a clone, a drop) and still holds a Weak to 0, which the theorem
then answers for -/
example :
    0 < (run weakObserveHistory).heap.length
    ∧ (run weakObserveHistory).isLive 0 = false
    ∧ (run (weakObserveHistory ++ weakObserveLater)).err = none
    ∧ nthMod (run (weakObserveHistory ++ weakObserveLater)).wroots 0 = some 0 := by
  rw [run_append, run_weakObserveHistory]; decide +kernel

end Cactus
