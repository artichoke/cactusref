import Cactus.Lemmas.Final
import Cactus.Lemmas.Basic
import Cactus.Lemmas.Table
import Cactus.Lemmas.Shared.Eval      -- decidable equality of `State`
/-!
# C08 — adoption bookkeeping is exact and symmetric

Each `adopt` adds one owner→target record visible from both ends, each `unadopt` removes at most
one and is a no-op when none exists.  What is proved here:
* one-step lemmas about the two API calls: `C08_adopt_records`, `C08_adopt_self_records`,
  `C08_adopt_counts`, `C08_unadopt_records`, `C08_unadopt_counts`;
* whole histories, no hypothesis on the history, every state: `C08_bookkeeping` (tables well formed,
  records name live objects only, both ends agree — the invariant `InvB`) and
  `C08_decision_from_records`;
* example: parallel adoptions, both kinds of self-adoption, a redundant `unadopt` and the
  destruction of an object with records; the theorems instantiated.
Not proved: hashbrown itself (a table is an association list in the model).
-/
namespace Cactus
open State

theorem tableOf_setLinks_setLinks (s : State) (a b : Nat) (f g : Table → Table) (ta tb : Table)
    (hab : a ≠ b) (ha : s.tableOf a = some ta) (hb : s.tableOf b = some tb) :
    ((s.setLinks a f).setLinks b g).tableOf a = some (f ta)
    ∧ ((s.setLinks a f).setLinks b g).tableOf b = some (g tb)
    ∧ ((s.setLinks a f).setLinks b g).err = s.err := by
  have h2 : (s.setLinks a f).tableOf b = some tb := by
    rw [tableOf_setLinks_other s a b _ hab]; exact hb
  refine ⟨?_, tableOf_setLinks_same _ b _ tb h2, ?_⟩
  · rw [tableOf_setLinks_other _ b a _ (Ne.symm hab)]; exact tableOf_setLinks_same s a f ta ha
  · rw [setLinks_err_of_some _ b _ tb h2, setLinks_err_of_some s a _ ta ha]

/-- `adopt(a, b)` through two different handles, `a ≠ b`: one Forward record in `a`, one Backward
record in `b`, nothing else changes in either table -/
theorem C08_adopt_records (s : State) (a b : Nat) (ta tb : Table) (hab : a ≠ b)
    (ha : s.tableOf a = some ta) (hb : s.tableOf b = some tb) :
    (s.adopt a b false).tableOf a = some (ta.insert ⟨b, .fwd⟩)
    ∧ (s.adopt a b false).tableOf b = some (tb.insert ⟨a, .bwd⟩)
    ∧ (s.adopt a b false).err = s.err :=
  tableOf_setLinks_setLinks s a b _ _ ta tb hab ha hb

/-- self-adoption through a clone: both records land in the one table -/
theorem C08_adopt_self_records (s : State) (a : Nat) (ta : Table) (ha : s.tableOf a = some ta) :
    (s.adopt a a false).tableOf a = some ((ta.insert ⟨a, .fwd⟩).insert ⟨a, .bwd⟩) :=
  tableOf_setLinks_same _ a _ _ (tableOf_setLinks_same s a (·.insert ⟨a, .fwd⟩) ta ha)

/-- the record is visible from both ends with the same multiplicity: both counts go up by one -/
theorem C08_adopt_counts (ta tb : Table) (a b : Nat) :
    (ta.insert ⟨b, .fwd⟩).get ⟨b, .fwd⟩ = ta.get ⟨b, .fwd⟩ + 1
    ∧ (tb.insert ⟨a, .bwd⟩).get ⟨a, .bwd⟩ = tb.get ⟨a, .bwd⟩ + 1
    ∧ ∀ l, l ≠ ⟨b, .fwd⟩ → (ta.insert ⟨b, .fwd⟩).get l = ta.get l := by
  refine ⟨by simp [Table.get_insert], by simp [Table.get_insert], ?_⟩
  intro l hl; simp [Table.get_insert, hl]

/-- `unadopt(a, b)`, `a ≠ b`: removes one record from each end, saturating -/
theorem C08_unadopt_records (s : State) (a b : Nat) (ta tb : Table) (hab : a ≠ b)
    (ha : s.tableOf a = some ta) (hb : s.tableOf b = some tb) :
    (s.unadopt a b false).tableOf a = some (ta.remove ⟨b, .fwd⟩ 1)
    ∧ (s.unadopt a b false).tableOf b = some (tb.remove ⟨a, .bwd⟩ 1)
    ∧ (s.unadopt a b false).err = s.err :=
  tableOf_setLinks_setLinks s a b _ _ ta tb hab ha hb

/-- an `unadopt` of a pair that has no record is a no-op; otherwise the count drops by exactly one
and the entry disappears at zero -/
theorem C08_unadopt_counts (t : Table) (hw : t.WF) (k : Link) :
    (t.remove k 1).get k = t.get k - 1 ∧ (∀ l, l ≠ k → (t.remove k 1).get l = t.get l)
    ∧ (t.get k = 0 → t.remove k 1 = t) ∧ (t.remove k 1).WF := by
  refine ⟨by simp [Table.get_remove t hw], ?_, ?_, Table.WF_remove t hw k 1⟩
  · intro l hl; simp [Table.get_remove t hw, hl]
  · intro h; exact Table.remove_absent t k 1 h hw

example : (({ heap := [{ strong := .cnt 1, weak := 1, links := some [], value := none, freed := false },
                       { strong := .cnt 1, weak := 1, links := some [], value := none, freed := false }] } : State).adopt 0 1 false).tableOf 1
    = some [(⟨0, .bwd⟩, 1)] := by decide


/-! ## The property over whole histories (no hypothesis on the history) -/

/-- **C08.** In every reachable state of every history: every link table is well formed (distinct
keys, positive counts), every Forward/Backward record names a *live* object (records involving an
object disappear when it is destroyed), and every record is visible from both ends with the same
multiplicity. -/
theorem C08_bookkeeping {s : State} (h : Reachable s) (he : s.err = none) :
    (∀ (o : Nat) (t : Table), s.tableOf o = some t →
        t.WF ∧ ∀ e, e ∈ t → (e.1.kind = .loop → e.1.ptr = o) ∧ (e.1.kind ≠ .loop → s.isLive e.1.ptr = true))
    ∧ (∀ a b, s.isLive a = true → s.isLive b = true → s.F a b = s.B b a) :=
  (reachable_core h he).1.2.1

/-- consequently the orphan decision taken at any later drop depends only on the currently recorded
adoptions and the handle counts: the cycle map computed by the trace is determined by `F` and the
visited set (not by the order in which the records were made) -/
theorem C08_decision_from_records {s : State} (h : Reachable s) (he : s.err = none) {x : Nat}
    (hx : s.isLive x = true) (k : Nat) :
    (cycleRefs s x).cmap.get k = sumOver (cycleRefs s x).visited (fun n => s.F n k) :=
  let hc := (reachable_core h he).1
  cmap_get_eq s x hc.1 hc.2.1 hx k

/-! ## Non-vacuity: parallel adoptions, both kinds of self-adoption, a redundant `unadopt`, and the
destruction of an object that has records (no contract is assumed by C08, so the history uses the
bare `adopt`/`unadopt` calls) -/

def recordsHistory : List (Op × List Nat) :=
  [(.act .new, []), (.act .new, []), (.act .new, []),       -- objects 0, 1, 2
   (.act (.adopt 0 1), []), (.act (.adopt 0 1), []),
   (.act (.adopt 0 1), []),                                 -- 0 adopts 1 three times
   (.act (.adopt 1 2), []),                                 -- 1 adopts 2
   (.act (.adopt 2 2), []),                                 -- 2 adopts itself through the same handle
   (.act (.clone 0), []), (.act (.adopt 0 3), []),          -- 0 adopts itself through a clone
   (.act (.unadopt 0 1), []),                               -- one of the three records removed
   (.act (.unadopt 2 0), []),                               -- no such record: no-op
   (.act (.drop 2), [])]                                    -- last handle to 2: its records vanish

/-- the tables before the final `drop` (Forward/Backward/Loopback entries with multiplicities) … -/
example : (run (recordsHistory.take 12)).heap.map (·.links) =
    [some [(⟨1, .fwd⟩, 2), (⟨0, .fwd⟩, 1), (⟨0, .bwd⟩, 1)],
     some [(⟨0, .bwd⟩, 2), (⟨2, .fwd⟩, 1)],
     some [(⟨1, .bwd⟩, 1), (⟨2, .loop⟩, 1)]] := by decide +kernel

/-- the end state of the history; the examples below read it off this literal -/
theorem run_recordsHistory : run recordsHistory =
    { heap := [
        .live 2 1 [(⟨1, .fwd⟩, 2), (⟨0, .fwd⟩, 1), (⟨0, .bwd⟩, 1)] (.plain 0 []),
        .live 1 1 [(⟨0, .bwd⟩, 2)] (.plain 1 []),
        .husk 0],
      roots := [0, 1, 0], log := [.destroyed 2, .freed 2], nextVid := 3 } := by
  decide +kernel

/-- … and after it: object 2 is gone and so is every record naming it -/
example : (run recordsHistory).err = none ∧ (run recordsHistory).roots = [0, 1, 0]
    ∧ (run recordsHistory).heap.map (·.links) =
      [some [(⟨1, .fwd⟩, 2), (⟨0, .fwd⟩, 1), (⟨0, .bwd⟩, 1)], some [(⟨0, .bwd⟩, 2)], none] := by
  rw [run_recordsHistory]; decide

/-- `C08_bookkeeping` instantiated at that state: object 1's table is well formed and names live
objects only (the record of the destroyed object 2 has been purged), and the adoption `0 → 1` is
visible from both ends with the same multiplicity -/
example : Table.WF [(⟨0, .bwd⟩, 2)]
    ∧ (∀ e ∈ ([(⟨0, .bwd⟩, 2)] : Table), e.1.kind ≠ .loop → (run recordsHistory).isLive e.1.ptr = true)
    ∧ (run recordsHistory).F 0 1 = (run recordsHistory).B 1 0 := by
  have h := C08_bookkeeping (run_reachable recordsHistory) (by rw [run_recordsHistory])
  have h1 := h.1 1 [(⟨0, .bwd⟩, 2)] (by rw [run_recordsHistory]; decide +kernel)
  exact ⟨h1.1, fun e he => (h1.2 e he).2,
    h.2 0 1 (by rw [run_recordsHistory]; decide) (by rw [run_recordsHistory]; decide)⟩

example : (run recordsHistory).F 0 1 = 2 ∧ (run recordsHistory).B 1 0 = 2
    ∧ (run recordsHistory).F 0 0 = 1 ∧ (run recordsHistory).B 0 0 = 1
    ∧ (run recordsHistory).F 1 2 = 0 := by rw [run_recordsHistory]; decide +kernel

/-- `C08_decision_from_records` there: the count the trace from 0 attributes to object 1 is the sum
of the recorded adoptions of 1 by the visited objects `[1, 0]`, i.e. `0 + 2` -/
example : (cycleRefs (run recordsHistory) 0).cmap.get 1
    = sumOver (cycleRefs (run recordsHistory) 0).visited (fun n => (run recordsHistory).F n 1) :=
  C08_decision_from_records (run_reachable recordsHistory) (by rw [run_recordsHistory])
    (by rw [run_recordsHistory]; decide) 1

example : (cycleRefs (run recordsHistory) 0).visited = [1, 0]
    ∧ (cycleRefs (run recordsHistory) 0).cmap = [(1, 2), (0, 1)] := by
  rw [run_recordsHistory]; decide +kernel

end Cactus
