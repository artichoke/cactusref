import Cactus.Lemmas.Once
import Cactus.Lemmas.Contract
import Cactus.Lemmas.Final
import Cactus.Lemmas.Orphan
import Cactus.Lemmas.Shared.RunWith   -- `runWith` (`run` with an explicit step budget)
import Cactus.Lemmas.Shared.Eval      -- decidable equality of `State`
/-!
# C01 — no premature destruction

What is proved here:
* one-step lemmas: `C01_closure` (the arithmetic heart of the orphan test: exact counts `InvC`, the
  adoption contract `P` and a passing test leave no handle outside the traced group) and
  `C01_survivors_do_not_name_members` (the group handed to `drop_cycle` is closed);
* whole histories, every state including mid-teardown: `C01_no_premature_destruction`, `C01_run`,
  `C01_destructor_has_not_run` under `ReachableP` (the contract held in every state passed through),
  and `C01_contract_respecting_histories`, `C01_run_contract_respecting` under the purely syntactic
  hypothesis `Op.respects`; `C01_internal_steps_keep_contract`;
* examples: the ring-with-tail history by evaluation, and the theorems instantiated at its end state
  and at a state three steps into a group teardown.
Not proved: anything about histories that break the contract — the property is false there (known
finding D4, machine-checked counterexample in `Props/C13.lean`).
-/
namespace Cactus
open State

theorem sum_split (l : List Nat) (p : Nat → Bool) (f : Nat → Nat) :
    (l.map f).sum = ((l.filter p).map f).sum + ((l.filter (fun n => !p n)).map f).sum := by
  induction l with
  | nil => rfl
  | cons a r ih =>
    rw [List.map_cons, List.sum_cons, ih]
    cases h : p a
    · rw [List.filter_cons_of_neg (by simp [h]), List.filter_cons_of_pos (by simp [h]), List.map_cons,
        List.sum_cons, Nat.add_left_comm]
    · rw [List.filter_cons_of_pos h, List.filter_cons_of_neg (by simp [h]), List.map_cons,
        List.sum_cons, Nat.add_assoc]

theorem sum_le_sum (l : List Nat) (f g : Nat → Nat) (h : ∀ n, f n ≤ g n) :
    (l.map f).sum ≤ (l.map g).sum := by
  induction l with
  | nil => exact Nat.le_refl _
  | cons a r ih => exact Nat.add_le_add (h a) ih

/-- closure lemma, arithmetic core: `strong m = ext m + Σ_all H · m` (exact counts),
`F n m ≤ H n m` (contract), `strong m ≤ Σ_{n ∈ R} F n m` (orphan test) ⇒ no outside handle, no
holder outside `R`, and inside `R` every held handle is recorded -/
theorem C01_closure (All : List Nat) (inR : Nat → Bool) (F H : Nat → Nat → Nat)
    (strong ext : Nat → Nat) (m : Nat)
    (hC : strong m = ext m + (All.map (H · m)).sum)
    (hP : ∀ n, F n m ≤ H n m)
    (hT : strong m ≤ ((All.filter inR).map (F · m)).sum) :
    ext m = 0 ∧ ((All.filter (fun n => !inR n)).map (H · m)).sum = 0
      ∧ ((All.filter inR).map (F · m)).sum = ((All.filter inR).map (H · m)).sum := by
  have h1 := sum_split All inR (H · m)
  have h2 := sum_le_sum (All.filter inR) (F · m) (H · m) hP
  omega

/-- the group handed to `drop_cycle` is closed: a live object outside it neither adopts nor is
adopted by a member, so after the teardown no surviving table names a destroyed object -/
theorem C01_survivors_do_not_name_members (s : State) (x : Nat) (hO : s.InvO) (hB : s.InvB)
    (hx : s.isLive x = true) (hne : (cycleRefs s x).cmap.isEmpty = false)
    (hext : hasExternalOwners s (cycleRefs s x).cmap = false) (a m : Nat)
    (ha : s.isLive a = true) (hna : a ∉ (cycleRefs s x).cmap.keys) (hm : m ∈ (cycleRefs s x).cmap.keys) :
    s.F a m = 0 ∧ s.B a m = 0 := by
  rw [keys_eq_visited s x hO hB hx hne hext] at hna hm
  have := survivors_clean s x hO hB hx hne hext a ha hna m hm
  exact ⟨this.1, this.2.1⟩

/-- non-vacuity and a concrete instance: ring x↔y with tail x→z₁→z₂ (the D1 witness); while the
program holds x nothing is destroyed, and dropping x destroys all four -/
def ringTailHistory : List (Op × List Nat) :=
  [(.act .new, []), (.act .new, []), (.act .new, []), (.act .new, []),
   (.act (.clone 1), []), (.act (.link 4 0), []), (.act (.clone 0), []), (.act (.link 4 1), []),
   (.act (.clone 2), []), (.act (.link 4 0), []), (.act (.clone 3), []), (.act (.link 4 2), []),
   (.act (.drop 1), []), (.act (.drop 1), []), (.act (.drop 1), [])]

example : let s := runWith 64 ringTailHistory
    s.err = none ∧ s.roots = [0] ∧ (∀ o, o < 4 → s.isLive o = true) ∧ ∀ v, v < 4 → Ev.destroyed v ∉ s.log := by
  decide +kernel

example : let s := runWith 64 (ringTailHistory ++ [(.act (.drop 0), [])])
    s.err = none ∧ ∀ v, v < 4 → Ev.destroyed v ∈ s.log ∧ Ev.freed v ∈ s.log := by
  decide +kernel


/-! ## The property, at full strength

`ReachableP s`: `s` occurs in some execution (at an operation boundary or in the middle of a
teardown, e.g. while a user destructor runs) of some history — any object-graph shape, any
multiplicities, any drop order, any `shuffle`s and hints (every layout) — in which the adoption
contract `P` ("never more recorded adoptions from an owner to a target than the owner's value holds
handles to it") held in every state passed through. -/

/-- **C01.** Every object reachable from a strong handle the program still holds — directly or
through handles stored inside other reachable objects, recorded as adoptions or not — is live: its
strong count is positive, its allocation has not been released and its value is still in place
(its destructor has not run). -/
theorem C01_no_premature_destruction {s : State} (h : ReachableP s) (he : s.err = none)
    {o : Nat} (hr : s.Reach o) :
    s.isLive o = true ∧ ∃ ob v, s.heap[o]? = some ob ∧ ob.freed = false ∧ ob.value = some v := by
  have hlive := reach_live (reachableP_invS h he) hr
  refine ⟨hlive, ?_⟩
  have hO := (reachable_core h.reachable he).1.1
  obtain ⟨ob, n, hg, hf, hs⟩ := (State.isLive_eq_true_iff s o).mp hlive
  obtain ⟨hv, _, _, _⟩ := (hO o ob hg).1 n hs
  obtain ⟨v, hv⟩ := Option.isSome_iff_exists.mp hv
  exact ⟨ob, v, hg, hf, hv⟩

/-- the same for the states produced by `run`, as a function of the history -/
theorem C01_run (ops : List (Op × List Nat)) (hP : ReachableP (run ops)) (he : (run ops).err = none)
    {o : Nat} (hr : (run ops).Reach o) : (run ops).isLive o = true :=
  (C01_no_premature_destruction hP he hr).1

/-- the contract is satisfiable and the theorem is not vacuous: the initial state is
contract-respecting-reachable -/
example : ReachableP ({} : State) := .init


/-! ## The same, with a *syntactic* hypothesis on the history

`Op.respects`: the history (including every destructor script it installs) never calls the two
primitives that can break the contract on their own — a bare `adopt` (recording an adoption without
storing the handle) and a bare `take` (removing a stored handle without `unadopt`) — and uses the
composites `link` (= adopt; store) and `unlink` (= take; unadopt) instead, together with every
other operation of the alphabet: `new clone drop unadopt store downgrade upgrade cloneWeak dropWeak
storeWeak tryUnwrap dropValue makeMut getMut intoRaw fromRaw incStrong decStrong ptrEq counts
setPanic shuffle …`.  Redundant or unmatched `unadopt`s, partially recorded edges (`store` without
`adopt`), parallel adoptions, self-adoption through a clone or through the same handle, panicking
destructors and every layout are all inside this alphabet.  `step_P` shows that the machine's own
steps never break the contract as long as the installed scripts respect it (`ScriptsC`), so nothing
needs to be assumed about intermediate states. -/

/-- **C01 for every contract-respecting history**, at every point of its execution. -/
theorem C01_contract_respecting_histories {s : State} (h : ReachableC s) (he : s.err = none)
    {o : Nat} (hr : s.Reach o) : s.isLive o = true := contract_respecting_history_safe h he hr

theorem C01_run_contract_respecting (ops : List (Op × List Nat)) (hops : ∀ oh ∈ ops, oh.1.respects)
    (he : (run ops).err = none) {o : Nat} (hr : (run ops).Reach o) : (run ops).isLive o = true :=
  run_contract_safe ops hops he hr

/-- the library's own steps never break the adoption contract -/
theorem C01_internal_steps_keep_contract (s : State) (hI : s.Inv) (hC : s.ScriptsC) (hP : s.P) :
    (step s).P := step_P s hI hC hP

theorem ringTailHistory_respects : ∀ oh ∈ ringTailHistory, oh.1.respects := by decide +kernel

/-- non-vacuity: the ring-with-tail history is contract-respecting -/
example : ∀ oh ∈ ringTailHistory, oh.1.respects := ringTailHistory_respects


/-- …and the destructor of a reachable object's value has not run: its `vid` does not occur among
the `destroyed` events of the log (no operation so far ran its destructor) -/
theorem C01_destructor_has_not_run {s : State} (h : ReachableP s) (he : s.err = none)
    {o : Nat} (hr : s.Reach o) :
    ∃ ob v, s.heap[o]? = some ob ∧ ob.value = some v ∧ v.vid ∉ s.destroyedVids := by
  obtain ⟨_, ob, v, hg, _, hv⟩ := C01_no_premature_destruction h he hr
  refine ⟨ob, v, hg, hv, ?_⟩
  apply reachable_stored_not_destroyed h.reachable v
  unfold State.allVals
  apply List.mem_append_left
  apply List.mem_append_left
  rw [List.mem_filterMap]
  exact ⟨ob, List.mem_of_getElem? hg, hv⟩

/-! ## The theorems instantiated on the ring-with-tail history

`ringTailHistory` (above) is contract-respecting and ends without error with `roots = [0]`; object 3
(z₂) is reachable from the program's handle through the stored handles `0 → 2 → 3`. -/

/-- the end state of the history; what follows reads it off this literal -/
theorem run_ringTailHistory : run ringTailHistory =
    { heap := [
        .live 2 1 [(⟨1, .fwd⟩, 1), (⟨1, .bwd⟩, 1), (⟨2, .fwd⟩, 1)] (.plain 0 [1, 2]),
        .live 1 1 [(⟨0, .bwd⟩, 1), (⟨0, .fwd⟩, 1)] (.plain 1 [0]),
        .live 1 1 [(⟨0, .bwd⟩, 1), (⟨3, .fwd⟩, 1)] (.plain 2 [3]),
        .live 1 1 [(⟨2, .bwd⟩, 1)] (.plain 3 [])],
      roots := [0], log := [.traced 1 4 5, .traced 2 2 2, .traced 3 1 1], nextVid := 4 } := by
  decide +kernel

theorem ringTailHistory_noErr : (run ringTailHistory).err = none := by rw [run_ringTailHistory]

theorem ringTail_reach3 : (run ringTailHistory).Reach 3 := by
  rw [run_ringTailHistory]
  exact .step (a := 2) (.step (a := 0) (o := 2) (.root (by decide)) (by decide) (by decide))
    (by decide) (by decide)

/-- `C01_run_contract_respecting`: so it is live -/
example : (run ringTailHistory).isLive 3 = true :=
  C01_run_contract_respecting ringTailHistory ringTailHistory_respects ringTailHistory_noErr
    ringTail_reach3

/-- `C01_no_premature_destruction` / `C01_destructor_has_not_run` (through `ReachableC ⇒ ReachableP`):
its allocation is not released, its value is in place, its destructor has not run -/
example : ∃ ob v, (run ringTailHistory).heap[3]? = some ob ∧ ob.freed = false ∧ ob.value = some v :=
  (C01_no_premature_destruction
    ((run_reachableC ringTailHistory ringTailHistory_respects).reachableP ringTailHistory_noErr)
    ringTailHistory_noErr ringTail_reach3).2

example : ∃ ob v, (run ringTailHistory).heap[3]? = some ob ∧ ob.value = some v
    ∧ v.vid ∉ (run ringTailHistory).destroyedVids :=
  C01_destructor_has_not_run
    ((run_reachableC ringTailHistory ringTailHistory_respects).reachableP ringTailHistory_noErr)
    ringTailHistory_noErr ringTail_reach3

/-- mid-teardown: the same ring with two more objects, 4 held by the program and 5 held by 4's value;
the program drops its handle to x and we stop three machine steps into the group teardown (x, y,
z₁, z₂ marked dead, y's destructor body done, its fields about to be dropped).  The state is `ReachableC`, object 5 is reachable
through `4 → 5`, and the theorem says it is live — while the four members are not. -/
def ringTailMid : State :=
  step (step (step (applyOp
    ((run (ringTailHistory ++ [(.act .new, []), (.act .new, []), (.act (.store 2 1), [])])).begin [])
    (.act (.drop 0)))))

theorem ringTailMid_reachableC : ReachableC ringTailMid :=
  .step (.step (.step (.op (.act (.drop 0)) []
    (run_reachableC _ (by decide +kernel)) (by rw [run_append, run_ringTailHistory]; decide +kernel)
    trivial)))

example : ringTailMid.err = none ∧ ringTailMid.roots = [4] ∧ ringTailMid.stack.length = 5
    ∧ ringTailMid.heap.map (·.strong) = [.uninit, .uninit, .uninit, .uninit, .cnt 1, .cnt 1] := by
  rw [ringTailMid, run_append, run_ringTailHistory]; decide +kernel

example : ringTailMid.isLive 5 = true := by
  have h : ringTailMid.err = none ∧ 0 < ringTailMid.ext 4 ∧ ringTailMid.isLive 4 = true
      ∧ 0 < ringTailMid.H 4 5 := by
    rw [ringTailMid, run_append, run_ringTailHistory]; decide +kernel
  exact C01_contract_respecting_histories ringTailMid_reachableC h.1
    (.step (a := 4) (.root h.2.1) h.2.2.1 h.2.2.2)

end Cactus
