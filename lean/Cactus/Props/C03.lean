import Cactus.Lemmas.Final
import Cactus.Lemmas.Complete
import Cactus.Lemmas.Basic
import Cactus.Lemmas.Orphan
import Cactus.Lemmas.Shared.RunWith   -- `runWith` (`run` with an explicit step budget)
import Cactus.Lemmas.Shared.OneStep   -- `Shared.rcDrop_last_handle`
import Cactus.Lemmas.Shared.Eval      -- decidable equality of `State`
import Cactus.Lemmas.Termination.Loop   -- the measure `State.work`, termination, the `makeMut` loop
/-!
# C03 — an orphaned adopted group is destroyed in full by the drop that orphans it

KNOWN FINDING D5: the property is false of the code when the dropped object's own count reaches
zero while it has adoptions (`Rc::drop` then takes the no-trace path, drop.rs:147-150).
`C03_counterexample` is the machine-checked witness; the harness replays it on the real code on
every run (corpus `d5_joint_orphan.ops`).  What does hold and is proved here:
* one-step lemmas: `C03_last_handle`, `C03_last_handle_with_adoptions` (the last-handle rule),
  `C03_group_is_reach_set`, `C03_group_rule` (on the trace path: when the orphan test passes, the
  keys of the cycle map are exactly the objects reachable through recorded adoptions, and that very
  machine step marks every one of them dead, moves its value out and schedules its destructor),
  `C03_no_stale_record_under_contract`;
* a positive instance of the group rule with all eleven hypotheses discharged
  (`C03_group_rule_instance`: ring with tail, an outsider, a Weak);
* whole histories, no hypothesis: `C03_no_live_object_without_a_handle`,
  `C03_handleless_object_is_destroyed` (collection is synchronous: at operation boundaries every
  live object has a handle);
* the drop returns (last section): `C03_work_decreases` (every machine step except the execution of
  a `makeMut` action of a destructor script decreases the measure `State.work`),
  `C03_teardown_terminates` (at most `s.work` steps), `C03_step_budget_suffices` (`drain` with
  `s.work ≤ fuel` never reports `.fuel`), `C03_operation_within_budget`,
  `C03_history_never_out_of_budget` (static condition for `run`), all under the hypothesis that no
  destructor script contains `makeMut`; states without scripts are an instance
  (`C03_teardown_terminates_noScripts`).  Examples with computed `work` and actual step counts:
  `C03_ring_with_tail_budget`, `C03_scripted_budget`.
  FINDING (of the model; not replayed on the code — there it is an unbounded recursion of user
  `drop`, i.e. a stack overflow, not a defect of the crate): without that hypothesis
  termination is false — `C03_teardown_can_diverge`: a destructor that `make_mut`s a shared handle
  to a value carrying the same destructor re-creates what it destroys; the operation exhausts
  every step budget.
Not proved (false): the group rule on the zero-count path, see D5 above; termination of the
teardown for destructor scripts containing `makeMut`.
-/
namespace Cactus
open State

/-- X adopts Y and Z, Y adopts itself (through a clone) and Z; the program drops its only handle
to X.  Afterwards every strong handle to X, Y, Z is a recorded adoption held inside the set. -/
def jointOrphanHistory : List (Op × List Nat) :=
  [(.act .new, []), (.act .new, []), (.act .new, []),
   (.act (.clone 1), []), (.act (.link 3 0), []),
   (.act (.clone 2), []), (.act (.link 3 0), []),
   (.act (.clone 1), []), (.act (.link 3 1), []),
   (.act (.clone 2), []), (.act (.link 3 1), []),
   (.act (.drop 1), []), (.act (.drop 1), []), (.act (.drop 0), [])]

/-- only X is destroyed; Y and Z stay allocated with positive counts and the program holds no
handle to anything: they can never be collected -/
theorem C03_counterexample :
    let s := runWith 64 jointOrphanHistory
    s.err = none ∧ s.roots = [] ∧ Ev.destroyed 0 ∈ s.log ∧ Ev.destroyed 1 ∉ s.log ∧ Ev.destroyed 2 ∉ s.log
      ∧ s.isLive 1 = true ∧ s.isLive 2 = true := by
  decide +kernel

/-- the last-handle rule: dropping the last strong handle of an object without adoptions moves its
value out and schedules its destructor in that very step (synchronously, never deferred) -/
theorem C03_last_handle (s : State) (o : Nat) (ob : Obj) (v : Val)
    (hc : s.cell o = some ob) (hs : ob.strong = .cnt 1) (hl : ob.links = some []) (hv : ob.value = some v) :
    (s.rcDrop o).stack = .dropVal v :: .finishSingle o :: s.stack
    ∧ ((s.rcDrop o).heap[o]?).map (·.strong) = some .uninit :=
  Shared.rcDrop_last_handle s o ob v hc hs hl hv

/-- the group rule on the trace path, graph part: when the orphan test passes, the objects that
`drop_cycle` is given are exactly the objects reachable from the dropped one through recorded
adoptions — none is missed, none outside the group is included -/
theorem C03_group_is_reach_set (s : State) (x : Nat) (hO : s.InvO) (hB : s.InvB) (hx : s.isLive x = true)
    (hne : (cycleRefs s x).cmap.isEmpty = false)
    (hext : hasExternalOwners s (cycleRefs s x).cmap = false) (k : Nat) :
    k ∈ (cycleRefs s x).cmap.keys ↔ FwdReach s x k := by
  rw [keys_eq_visited s x hO hB hx hne hext k]
  exact (s.traced x hO hB hx).reach k


/-! ## The group rule, proved on the trace path

`C03_group_collected` (in `Cactus.Lemmas.Complete`): in any state satisfying the invariants, when
`Rc::drop` of a handle to `x` leaves `x` with a positive count (so the trace runs) and afterwards
(i) no member of `FwdReach x` has a handle in the program or in a pending frame, (ii) no live
object outside the set holds a handle to a member, (iii) inside the set every held handle is a
recorded adoption and (iv) no live object outside has a stale record into the set (implied by (ii)
and the contract: `noStale_of_P`), then that very machine step marks **every** member dead, moves
every member's value out and schedules all their destructors above the rest of the stack, i.e.
they run before the drop returns.  The zero-count path is the known finding D5 above. -/

/-- **C03, group rule on the trace path.**  `s.decTop rest x ob n` is the state in which the trace
of `Rc::drop` runs: the `rcDrop x` frame popped, the strong count of `x` decremented to `n + 1`;
`FwdReach s1 x m`: `m` is reachable from `x` through recorded adoptions (Forward entries). -/
theorem C03_group_rule (s : State) (x : Nat) (rest : List Frame) (ob : Obj) (n : Nat) (t : Table)
    (herr : s.err = none) (hI : s.Inv) (hst : s.stack = .rcDrop x :: rest)
    (hc : s.cell x = some ob) (hs : ob.strong = .cnt (n + 2)) (hl : ob.links = some t)
    (hne : t.isEmpty = false)
    (hi : ∀ m, FwdReach (s.decTop rest x ob n) x m →
      (s.decTop rest x ob n).ext m = 0 ∧ (s.decTop rest x ob n).pend m = 0)
    (hii : ∀ m a, FwdReach (s.decTop rest x ob n) x m → ¬ FwdReach (s.decTop rest x ob n) x a →
      (s.decTop rest x ob n).isLive a = true → (s.decTop rest x ob n).H a m = 0)
    (hiii : ∀ m a, FwdReach (s.decTop rest x ob n) x m → FwdReach (s.decTop rest x ob n) x a →
      (s.decTop rest x ob n).H a m ≤ (s.decTop rest x ob n).F a m)
    (hiv : ∀ m a, FwdReach (s.decTop rest x ob n) x m → ¬ FwdReach (s.decTop rest x ob n) x a →
      (s.decTop rest x ob n).isLive a = true → (s.decTop rest x ob n).F a m = 0) :
    let s1 := s.decTop rest x ob n
    let tr := cycleRefs s1 x
    let s2 := s1.emit (.traced x tr.visited.length tr.popped)
    tr.cmap.isEmpty = false
    ∧ hasExternalOwners s2 tr.cmap = false
    ∧ step s = s2.dropCycle tr.cmap
    ∧ (step s).err = none
    ∧ (∀ k, k ∈ tr.cmap.keys ↔ FwdReach s1 x k)
    ∧ ∃ vs : List Val,
        (step s).stack = vs.map Frame.dropVal ++ [Frame.phase3 tr.cmap.keys] ++ rest
        ∧ ∀ m, FwdReach s1 x m →
            ∃ v, (s.heap[m]?).bind (·.value) = some v
              ∧ v ∈ vs
              ∧ Frame.dropVal v ∈ (step s).stack
              ∧ ∃ ob', (step s).heap[m]? = some ob' ∧ ob'.strong = .uninit ∧ ob'.value = none
                  ∧ ob'.links = none :=
  C03_group_collected s x rest ob n t herr hI hst hc hs hl hne hi hii hiii hiv

/-- the last-handle rule for an object with any link table: dropping the last strong handle of `x`
moves its value out and schedules its destructor in that very step, above the rest of the stack,
and marks `x` uninit -/
theorem C03_last_handle_with_adoptions (s : State) (x : Nat) (rest : List Frame) (ob : Obj)
    (herr : s.err = none) (hI : s.Inv) (hst : s.stack = .rcDrop x :: rest)
    (hc : s.cell x = some ob) (hs : ob.strong = .cnt 1) :
    ∃ v, ob.value = some v
      ∧ (step s).stack = Frame.dropVal v :: Frame.finishSingle x :: rest
      ∧ Frame.dropVal v ∈ (step s).stack
      ∧ ∃ ob', (step s).heap[x]? = some ob' ∧ ob'.strong = .uninit ∧ ob'.value = none :=
  C03_last_handle_links s x rest ob herr hI hst hc hs

/-- hypothesis (iv) of the group rule follows from (ii) and the adoption contract `P` -/
theorem C03_no_stale_record_under_contract (s : State) (x : Nat) (hP : s.P)
    (hii : ∀ m a, FwdReach s x m → ¬ FwdReach s x a → s.isLive a = true → s.H a m = 0) :
    ∀ m a, FwdReach s x m → ¬ FwdReach s x a → s.isLive a = true → s.F a m = 0 :=
  noStale_of_P s x hP hii


/-! ### A positive instance of the group rule

Ring x ↔ y (objects 0, 1) with a tail x → z₁ → z₂ (objects 2, 3), all built with `link`; an outsider
(object 4) that adopts and holds object 5; a Weak handle to y; the program has dropped its handles
to y, z₁, z₂ and now drops its only handle to x.  `groupStart` is the state in which that `drop` has
pushed its `rcDrop 0` frame: x has count 2 (the program's handle and y's). -/

def groupBuild : List (Op × List Nat) :=
  [(.act .new, []), (.act .new, []), (.act .new, []), (.act .new, []),
   (.act (.clone 1), []), (.act (.link 4 0), []),     -- x adopts and holds y
   (.act (.clone 0), []), (.act (.link 4 1), []),     -- y adopts and holds x
   (.act (.clone 2), []), (.act (.link 4 0), []),     -- x → z₁
   (.act (.clone 3), []), (.act (.link 4 2), []),     -- z₁ → z₂
   (.act .new, []), (.act .new, []), (.act (.link 5 4), []),  -- outsider 4 → 5
   (.act (.downgrade 1), []),                         -- a Weak to y
   (.act (.drop 1), []), (.act (.drop 1), []), (.act (.drop 1), [])]

def groupStart : State := applyOp ((run groupBuild).begin []) (.act (.drop 0))

/-- object x as it is in `groupStart` -/
def groupX : Obj :=
  { strong := .cnt 2, weak := 1,
    links := some [(⟨1, .fwd⟩, 1), (⟨1, .bwd⟩, 1), (⟨2, .fwd⟩, 1)],
    value := some { vid := 0, held := [1, 2], weaks := [], script := [], panics := false },
    freed := false }

/-- the state in which the trace runs -/
abbrev groupS1 : State := groupStart.decTop [] 0 groupX 0

/-- the objects 4 and 5, which no operation below touches -/
def groupOutsiders : List Obj :=
  [.live 1 1 [(⟨5, .fwd⟩, 1)] (.plain 4 [5]),
   .live 1 1 [(⟨4, .bwd⟩, 1)] (.plain 5 [])]

/-- the heap after `groupBuild`; pushing the `rcDrop 0` frame does not change it -/
def groupHeap : List Obj :=
  [groupX,
   .live 1 2 [(⟨0, .bwd⟩, 1), (⟨0, .fwd⟩, 1)] (.plain 1 [0]),
   .live 1 1 [(⟨0, .bwd⟩, 1), (⟨3, .fwd⟩, 1)] (.plain 2 [3]),
   .live 1 1 [(⟨2, .bwd⟩, 1)] (.plain 3 [])]
  ++ groupOutsiders

/-- the end state of the 19 operations; every statement below about `groupStart`, the collecting
step and the state after it is evaluated from this literal -/
theorem run_groupBuild : run groupBuild =
    { heap := groupHeap, roots := [0, 4], wroots := [1],
      log := [.traced 1 4 5, .traced 2 2 2, .traced 3 1 1], nextVid := 6 } := by
  decide +kernel

theorem groupStart_eq : groupStart =
    { heap := groupHeap, roots := [4], wroots := [1], stack := [.rcDrop 0],
      log := [.traced 1 4 5, .traced 2 2 2, .traced 3 1 1], nextVid := 6 } := by
  rw [groupStart, run_groupBuild]; decide +kernel

theorem groupS1_eq : groupS1 =
    { heap := groupHeap.set 0 { groupX with strong := .cnt 1 }, roots := [4], wroots := [1],
      log := [.traced 1 4 5, .traced 2 2 2, .traced 3 1 1], nextVid := 6 } := by
  rw [groupS1, groupStart_eq]; rfl

theorem groupStart_reachable : Reachable groupStart :=
  .op (.act (.drop 0)) [] (run_reachable groupBuild) (by rw [run_groupBuild])

example : groupStart.err = none ∧ groupStart.stack = [.rcDrop 0] ∧ groupStart.roots = [4]
    ∧ groupStart.wroots = [1] ∧ groupStart.cell 0 = some groupX
    ∧ groupStart.heap.map (·.strong) = [.cnt 2, .cnt 1, .cnt 1, .cnt 1, .cnt 1, .cnt 1] := by
  rw [groupStart_eq]; decide +kernel

/-- `FwdReach` from x in `groupS1` is membership in the visited list of the trace (`Traced.reach`),
which evaluates to `[1, 3, 2, 0]`: this turns the quantifiers of hypotheses (i)–(iv) into bounded
ones -/
theorem groupS1_fwdReach (m : Nat) : FwdReach groupS1 0 m ↔ m ∈ [1, 3, 2, 0] := by
  have h : (cycleRefs groupS1 0).bad = none ∧ (cycleRefs groupS1 0).outOfFuel = false
      ∧ (cycleRefs groupS1 0).visited = [1, 3, 2, 0] := by rw [groupS1_eq]; decide +kernel
  rw [← h.2.2]
  exact ((cycleRefs_traced h.1).reach m).symm

/-- all eleven hypotheses of `C03_group_rule` hold in `groupStart` (the four quantified ones after
bounding them by `groupS1_fwdReach` and the heap length, each by evaluation), and the theorem
yields: the step raises no error, the keys of the cycle map are exactly the group, the stack becomes
the members' destructors followed by `phase3`, and each of x, y, z₁, z₂ has its value moved out
(its destructor is on the stack) and is marked `uninit` with value and table gone -/
theorem C03_group_rule_instance :
    (step groupStart).err = none
    ∧ (∀ k, k ∈ (cycleRefs groupS1 0).cmap.keys ↔ FwdReach groupS1 0 k)
    ∧ ∃ vs : List Val,
        (step groupStart).stack
          = vs.map Frame.dropVal ++ [Frame.phase3 (cycleRefs groupS1 0).cmap.keys]
        ∧ ∀ m, m < 4 →
            ∃ v, (groupStart.heap[m]?).bind (·.value) = some v
              ∧ Frame.dropVal v ∈ (step groupStart).stack
              ∧ ∃ ob', (step groupStart).heap[m]? = some ob' ∧ ob'.strong = .uninit
                  ∧ ob'.value = none ∧ ob'.links = none := by
  have hlen : groupS1.heap.length = 6 := by rw [groupS1_eq]; rfl
  have hstart : groupStart.err = none ∧ groupStart.stack = [.rcDrop 0]
      ∧ groupStart.cell 0 = some groupX := by rw [groupStart_eq]; decide +kernel
  have key : (∀ m ∈ [1, 3, 2, 0], groupS1.ext m = 0 ∧ groupS1.pend m = 0)
      ∧ (∀ m ∈ [1, 3, 2, 0], ∀ a, a < 6 → a ∉ [1, 3, 2, 0] → groupS1.isLive a = true →
          groupS1.H a m = 0 ∧ groupS1.F a m = 0)
      ∧ (∀ m ∈ [1, 3, 2, 0], ∀ a ∈ [1, 3, 2, 0], groupS1.H a m ≤ groupS1.F a m) := by
    rw [groupS1_eq]; decide +kernel
  have outside : ∀ m a, FwdReach groupS1 0 m → ¬ FwdReach groupS1 0 a → groupS1.isLive a = true →
      groupS1.H a m = 0 ∧ groupS1.F a m = 0 := fun m a hm ha hl =>
    key.2.1 m ((groupS1_fwdReach m).mp hm) a (hlen ▸ State.isLive_lt hl)
      (fun h => ha ((groupS1_fwdReach a).mpr h)) hl
  have h := C03_group_rule groupStart 0 [] groupX 0
    [(⟨1, .fwd⟩, 1), (⟨1, .bwd⟩, 1), (⟨2, .fwd⟩, 1)]
    hstart.1 (reachable_Inv groupStart_reachable) hstart.2.1 hstart.2.2 rfl rfl rfl
    (fun m hm => key.1 m ((groupS1_fwdReach m).mp hm))
    (fun m a hm ha hl => (outside m a hm ha hl).1)
    (fun m a hm ha => key.2.2 m ((groupS1_fwdReach m).mp hm) a ((groupS1_fwdReach a).mp ha))
    (fun m a hm ha hl => (outside m a hm ha hl).2)
  obtain ⟨-, -, -, herr, hkeys, vs, hstack, hmem⟩ := h
  rw [List.append_nil] at hstack
  refine ⟨herr, hkeys, vs, hstack, ?_⟩
  intro m hm
  have hmG : ∀ m, m < 4 → m ∈ [1, 3, 2, 0] := by decide
  obtain ⟨v, h1, -, h3, h4⟩ := hmem m ((groupS1_fwdReach m).mpr (hmG m hm))
  exact ⟨v, h1, h3, h4⟩

/-- the same step by evaluation: the four destructors and `phase3` on the stack, the outsiders
untouched -/
example : (step groupStart).stack =
      [.dropVal { vid := 1, held := [0], weaks := [], script := [], panics := false },
       .dropVal { vid := 2, held := [3], weaks := [], script := [], panics := false },
       .dropVal { vid := 0, held := [1, 2], weaks := [], script := [], panics := false },
       .dropVal { vid := 3, held := [], weaks := [], script := [], panics := false },
       .phase3 [1, 2, 0, 3]]
    ∧ (step groupStart).heap.map (·.strong) = [.uninit, .uninit, .uninit, .uninit, .cnt 1, .cnt 1] := by
  rw [groupStart_eq]; decide +kernel

/-- the state in which the collecting `drop 0` returns -/
theorem run_groupCollected : run (groupBuild ++ [(.act (.drop 0), [])]) =
    { heap := [.husk 0, .husk 1, .husk 0, .husk 0] ++ groupOutsiders,
      roots := [4], wroots := [1],
      log := [.traced 1 4 5, .traced 2 2 2, .traced 3 1 1, .traced 0 4 5,
              .destroyed 1, .destroyed 2, .destroyed 0, .destroyed 3, .freed 2, .freed 0, .freed 3],
      nextVid := 6 } := by
  rw [run_append, run_groupBuild]; decide +kernel

/-- … and the whole operation: all four destructors have run when the `drop` returns; the three
allocations without Weak handles are released, y's is kept by its Weak; the outsiders are live -/
example : let s := run (groupBuild ++ [(.act (.drop 0), [])])
    s.err = none ∧ s.stack = []
    ∧ s.log = [.traced 1 4 5, .traced 2 2 2, .traced 3 1 1,      -- the three earlier drops
               .traced 0 4 5, .destroyed 1, .destroyed 2, .destroyed 0, .destroyed 3,
               .freed 2, .freed 0, .freed 3]
    ∧ s.isLive 4 = true ∧ s.isLive 5 = true ∧ (s.cell 1).isSome = true := by
  rw [run_groupCollected]; decide +kernel


/-! ## The cascade rule, as a statement about operation boundaries

"An object whose last strong handle disappears is destroyed immediately, and so, transitively, is
every object all of whose strong handles were owned by objects destroyed in that same step":
when an operation returns (the control stack is empty again) every object that is still live has
at least one strong handle held by the program or stored in a value that is still in place.  So
an object all of whose handles disappeared during the operation — dropped directly, or owned by
values destroyed in that operation, at any depth of the cascade — is not live any more when the
operation returns: its value has been moved out and its destructor has run (or is the husk of a
`try_unwrap`/`make_mut`).  Collection is synchronous, never deferred.  No hypothesis on the history. -/

theorem C03_no_live_object_without_a_handle {s : State} (h : Reachable s) (he : s.err = none)
    (hq : s.stack = []) {t : Nat} (hl : s.isLive t = true) : 0 < s.ext t + s.inHeap t := by
  have hC := (reachable_core h he).1.2.2.1 t hl
  have hp := pend_of_stack_nil hq t
  have := State.strongNat_pos_of_isLive hl
  omega

/-- contrapositive form: an object with no handle left at an operation boundary is dead, its value
is gone -/
theorem C03_handleless_object_is_destroyed {s : State} (h : Reachable s) (he : s.err = none)
    (hq : s.stack = []) {t : Nat} {ob : Obj} (hg : s.heap[t]? = some ob)
    (h0 : s.ext t + s.inHeap t = 0) : ob.value = none := by
  have hO := (reachable_core h he).1.1 t ob hg
  cases hs : ob.strong with
  | uninit => exact (hO.2.2.1 hs).1
  | cnt n =>
    cases n with
    | zero => exact (hO.2.1 hs).1
    | succ n =>
      have hf := (hO.1 n hs).2.2.1
      have hl : s.isLive t = true := (State.isLive_eq_true_iff s t).mpr ⟨ob, n, hg, hf, hs⟩
      have := C03_no_live_object_without_a_handle h he hq hl
      omega

/-- the cascade rule instantiated on the history of the positive instance above, after the
collecting `drop` has returned: the two objects that are still live (the outsiders 4 and 5) each have
a handle, and y (object 1), all of whose handles were owned by values destroyed in that operation,
has had its value destroyed although its allocation is kept by a Weak -/
example : 0 < (run (groupBuild ++ [(.act (.drop 0), [])])).ext 5
      + (run (groupBuild ++ [(.act (.drop 0), [])])).inHeap 5 :=
  C03_no_live_object_without_a_handle (run_reachable _) (by rw [run_groupCollected])
    (by rw [run_groupCollected]) (by rw [run_groupCollected]; decide)

example : ∀ ob, (run (groupBuild ++ [(.act (.drop 0), [])])).heap[1]? = some ob → ob.value = none :=
  fun _ hg => C03_handleless_object_is_destroyed (run_reachable _) (by rw [run_groupCollected])
    (by rw [run_groupCollected]) hg (by rw [run_groupCollected]; decide)

example : let s := run (groupBuild ++ [(.act (.drop 0), [])])
    s.ext 5 = 0 ∧ s.inHeap 5 = 1 ∧ s.ext 1 + s.inHeap 1 = 0 ∧ s.wroots = [1]
    ∧ (s.heap[1]?).map (fun ob => (ob.strong, ob.weak, ob.value.isSome, ob.freed))
        = some (.uninit, 1, false, false) := by
  rw [run_groupCollected]; decide +kernel


/-! ## The drop returns: termination of the teardown

"All objects of the set are destroyed before the drop returns" presupposes that the drop returns.
In the model an operation is `endOp (drain fuel (applyOp …))` and `drain` gives up with
`err := some .fuel` when the budget is exhausted; every other theorem assumes `err = none`.  This
section shows that the `fuel` error is an artefact of a too small budget only — for every state in
which no destructor script contains `makeMut` (`State.NoMM = ScriptsQ Act.notMakeMut`:
scripts of running destructors, of values about to be destroyed, of values in the heap and of
unwrapped values) — and that it is not for the remaining class.

The measure (`Cactus/Lemmas/Termination/Measure.lean`) is a weighted sum,
`s.work = stackW s.stack + heapW s.heap + valsW s.vals`:
a value costs `v.cost = 3 + 7·|script| + 3·|held| + 2·|weaks|`; frames weigh `rcDrop` 2,
`weakDrop`/`panic`/`finishSingle`/`phase3` 1, `dropFields h w` `1 + 3|h| + 2|w|`, `script _ _ acts`
`1 + 7|acts|`, `dropVal v` `v.cost + 1`; a value in the heap weighs `v.cost + 3`, an unwrapped value
`v.cost + 1`. -/

/-- the measure, spelled out -/
theorem C03_work_def (s : State) :
    s.work = ((s.stack.map Frame.work).sum
      + ((s.heap.map (·.value)).map (fun ov => match ov with | some v => v.cost + 3 | none => 0)).sum)
      + (s.vals.map (fun v => v.cost + 1)).sum := by
  have : optW = (fun ov => match ov with | some v => v.cost + 3 | none => 0) := by
    funext ov; cases ov <;> rfl
  simp only [State.work, stackW, heapW, hv, valsW, this]

/-- **every machine step decreases the measure** (or raises an error), all nine frame kinds and
all actions inside destructor scripts, with one exception: the step that executes a `makeMut`
action of a destructor script.  No hypothesis on the state. -/
theorem C03_work_decreases (s : State) (he : s.err = none) (hst : s.stack ≠ [])
    (hmm : ∀ h w r as rest, s.stack ≠ .script h w (.makeMut r :: as) :: rest) :
    (step s).err ≠ none ∨ (step s).work < s.work :=
  step_work_lt s he hst hmm

/-- **C03, the drop returns**: from any state whose destructor scripts contain no `makeMut`, the
control stack is empty (the operation returns) or an error is raised after at most `s.work` machine
steps -/
theorem C03_teardown_terminates (s : State) (hq : s.ScriptsQ Act.notMakeMut) :
    ∃ k, k ≤ s.work ∧ ((runSteps k s).stack = [] ∨ (runSteps k s).err ≠ none) :=
  teardown_terminates s hq

/-- no destructor scripts at all (e.g. all values `quiet`), nothing else assumed -/
theorem C03_teardown_terminates_noScripts (s : State) (hq : s.ScriptsQ (fun _ => False)) :
    ∃ k, k ≤ s.work ∧ ((runSteps k s).stack = [] ∨ (runSteps k s).err ≠ none) :=
  teardown_terminates_noScripts s hq

/-- **the step budget is not hiding a loop**: `drain` with a budget of at least `s.work` never
ends in the `fuel` error -/
theorem C03_step_budget_suffices (f : Nat) (s : State) (hq : s.ScriptsQ Act.notMakeMut)
    (he : s.err = none) (hf : s.work ≤ f) :
    (drain f s).err ≠ some .fuel :=
  drain_no_fuel_error f s hq he hf

/-- … it ends with an empty stack and no more work than it started with, or with another error -/
theorem C03_drain_finishes (f : Nat) (s : State) (hq : s.ScriptsQ Act.notMakeMut)
    (he : s.err = none) (hf : s.work ≤ f) :
    ((drain f s).err = none ∧ (drain f s).stack = [] ∧ (drain f s).work ≤ s.work)
    ∨ ((drain f s).err ≠ none ∧ (drain f s).err ≠ some .fuel) :=
  drain_finishes f s hq he hf

/-- no machine step raises `fuel` (the trace's own budget is sufficient, `cycleRefs_fuel`): the
error comes from `drain` alone -/
theorem C03_step_never_out_of_fuel (s : State) (h : (step s).err = some .fuel) : s.err = some .fuel :=
  step_err_fuel s h

/-- one operation, from the state before it: a budget of `2·work + 6 + 7·|installed script|` is
enough (`2·`: a top-level `makeMut` may clone a value that is already counted) -/
theorem C03_operation_within_budget (fuel : Nat) (s : State) (op : Op) (hint : List Nat)
    (he : s.err ≠ some .fuel) (hq : s.ScriptsQ Act.notMakeMut) (hop : op.scriptNoMM)
    (hw : 2 * s.work + 6 + 7 * op.scriptLen ≤ fuel) :
    (execOp fuel s op hint).err ≠ some .fuel :=
  execOp_no_fuel_of_work fuel s op hint he hq hop hw

/-- the same in terms of sizes, for a quiescent state: allocations, unwrapped values, handles
stored in values, total script length -/
theorem C03_operation_within_budget_sizes (fuel : Nat) (s : State) (op : Op) (hint : List Nat)
    (he : s.err ≠ some .fuel) (hst : s.stack = []) (hq : s.ScriptsQ Act.notMakeMut) (hop : op.scriptNoMM)
    (hw : 12 * (s.heap.length + s.vals.length) + 6 * s.storedHandles + 14 * s.scriptTotal + 6
      + 7 * op.scriptLen ≤ fuel) :
    (execOp fuel s op hint).err ≠ some .fuel :=
  execOp_no_fuel_of_size fuel s op hint he hst hq hop hw

/-- **whole histories**: a history in which `makeMut` occurs neither as an action nor in a
destructor script, with `6·#operations + 7·Σ script lengths ≤ defaultFuel = 10⁶`, never reports
`fuel` — whatever else it does -/
theorem C03_history_never_out_of_budget (ops : List (Op × List Nat))
    (hops : ∀ oh ∈ ops, oh.1.S Act.notMakeMut)
    (hsize : 6 * ops.length + 7 * (ops.map (·.1.scriptLen)).sum ≤ defaultFuel) :
    (run ops).err ≠ some .fuel :=
  run_no_fuel_error ops hops hsize

/-! ### The finding: with `makeMut` in a destructor the teardown can run forever

`make_mut` on a shared handle clones the value *with its destructor*; a destructor that does this
to a value carrying the same destructor and drops the copy re-creates what it destroys (in Rust:
an unbounded recursion of `drop`, i.e. a stack overflow — the crate cannot prevent it, `T: Clone`
and `T: Drop` are user code).  Proof: `Cactus.TerminationLoop.loop_six_steps` (loop invariant: six
machine steps lead from round `n` to round `n + 1`; one more husk in the heap, three more frames
on the stack, `work = 53 + 3·n`). -/

/-- the history: a prototype carrying the script, shared, `makeMut` of one handle (first copy);
the fifth operation, `drop 1`, drops the copy -/
theorem C03_diverging_history : TerminationLoop.loopPre =
    [(.act .new, []), (.setScript 0 [.clone 0, .makeMut 1, .drop 1], []), (.act (.clone 0), []),
     (.act (.makeMut 1), [])] := rfl

/-- **FINDING**: for every step budget `f` the fifth operation ends with `err = some .fuel` -/
theorem C03_teardown_can_diverge (f : Nat) :
    (execOp f (run TerminationLoop.loopPre) (.act (.drop 1)) []).err = some .fuel :=
  TerminationLoop.makeMut_loop_never_returns f

/-- as a statement about machine steps: no error, never an empty stack, and the measure grows
without bound (by 3 every six steps) -/
theorem C03_teardown_can_diverge_steps (m : Nat) :
    let s := applyOp ((run TerminationLoop.loopPre).begin []) (.act (.drop 1))
    (runSteps m s).err = none ∧ (runSteps m s).stack ≠ [] ∧ (runSteps (6 * m + 1) s).work = 53 + 3 * m := by
  refine ⟨(TerminationLoop.makeMut_loop_runs_forever m).1, (TerminationLoop.makeMut_loop_runs_forever m).2, ?_⟩
  rw [Nat.add_comm (6 * m) 1, runSteps_add]
  show (runSteps (6 * m) (step TerminationLoop.loopStart)).work = _
  rw [TerminationLoop.loopStart_step, TerminationLoop.loop_rounds, TerminationLoop.loop_work]

/-! ### Examples: computed `work`, actual number of steps -/

/-- the ring with tail of the positive instance above (`groupStart`: the collecting `drop 0` has
pushed its frame): `work = 53`, the operation returns after exactly 22 machine steps,
`22 ≤ 53 ≤ defaultFuel` -/
theorem C03_ring_with_tail_budget :
    groupStart.work = 53
    ∧ (runSteps 22 groupStart).stack = [] ∧ (runSteps 22 groupStart).err = none
    ∧ (runSteps 21 groupStart).stack ≠ []
    ∧ 22 ≤ groupStart.work ∧ groupStart.work ≤ defaultFuel := by
  rw [groupStart_eq]; decide +kernel

/-- the theorem applies to it (its values have no scripts) -/
example : ∃ k, k ≤ 53 ∧ ((runSteps k groupStart).stack = [] ∨ (runSteps k groupStart).err ≠ none) := by
  have hq : groupStart.ScriptsQ Act.notMakeMut :=
    applyOp_noMM _ _ trivial (begin_scriptsQ _ _ (run_noMM groupBuild (by decide)))
  have h := C03_teardown_terminates groupStart hq
  rwa [C03_ring_with_tail_budget.1] at h

/-- a 2-ring whose members have destructor scripts that allocate, clone, store, downgrade and drop
handles while the group is being collected -/
def scriptedBuild : List (Op × List Nat) :=
  [(.act .new, []), (.act .new, []), (.act .new, []),
   (.act (.clone 1), []), (.act (.link 3 0), []),     -- x adopts and holds y
   (.act (.clone 0), []), (.act (.link 3 1), []),     -- y adopts and holds x
   (.setScript 0 [.new, .clone 2, .store 3 2, .drop 2], []),
   (.setScript 1 [.new, .downgradeField 0, .dropWeak 0, .drop 2], []),
   (.act (.drop 1), [])]

def scriptedStart : State := applyOp ((run scriptedBuild).begin []) (.act (.drop 0))

/-- `work = 82`; both destructors run (`destroyed 0`, `destroyed 1`), the operation returns after
exactly 31 machine steps without error, `31 ≤ 82 ≤ defaultFuel` -/
theorem C03_scripted_budget :
    scriptedStart.work = 82
    ∧ (runSteps 31 scriptedStart).stack = [] ∧ (runSteps 31 scriptedStart).err = none
    ∧ (runSteps 30 scriptedStart).stack ≠ []
    ∧ Ev.destroyed 0 ∈ (runSteps 31 scriptedStart).log ∧ Ev.destroyed 1 ∈ (runSteps 31 scriptedStart).log
    ∧ 31 ≤ scriptedStart.work ∧ scriptedStart.work ≤ defaultFuel := by
  decide +kernel

/-- the hypotheses of the theorems hold for it, so they apply: the budget of `run` suffices -/
example : (drain defaultFuel scriptedStart).err ≠ some .fuel := by
  have hq : scriptedStart.ScriptsQ Act.notMakeMut :=
    applyOp_noMM _ _ trivial (begin_scriptsQ _ _ (run_noMM scriptedBuild (by decide)))
  exact C03_step_budget_suffices defaultFuel scriptedStart hq (by decide +kernel)
    (by rw [C03_scripted_budget.1]; decide)

/-- and the static condition for the whole history: 11 operations, 8 script actions -/
example : (run (scriptedBuild ++ [(.act (.drop 0), [])])).err ≠ some .fuel :=
  C03_history_never_out_of_budget _ (by decide) (by decide)

end Cactus
