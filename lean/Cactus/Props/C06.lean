import Cactus.Lemmas.Final
import Cactus.Lemmas.Basic
import Cactus.Lemmas.Contract   -- `run_reachableC` (non-vacuity of `C06_held_object_count_positive`)
import Cactus.Lemmas.Shared.Eval      -- decidable equality of `State`
/-!
# C06 — reference counts and identity are exact

`adopt`/`unadopt` touch only link tables: counters, values and allocation status of *every* object
are unchanged (adopt.rs:136-247).  What is proved here:
* one-step lemmas: `C06_adopt_counts`, `C06_unadopt_counts`, `C06_ptrEq`, `C06_clone`;
* whole histories, no hypothesis on the history (with or without the adoption contract, at operation
  boundaries and mid-teardown): `C06_counts_exact`, `C06_counts_exact_quiescent`
  (`strong` = number of existing strong handles, `weak` = number of Weak handles + implicit one);
* example: an object designated by every kind of handle at once, the theorem instantiated and the
  numbers shown.
Not proved: counter overflow (`usize` is unbounded `Nat` in the model).
-/
namespace Cactus
open State

/-- everything in an `RcBox` except the link table -/
def Obj.core (ob : Obj) : Strong × Nat × Option Val × Bool := (ob.strong, ob.weak, ob.value, ob.freed)

theorem setLinks_core (s : State) (o : Nat) (f : Table → Table) :
    (s.setLinks o f).heap.map Obj.core = s.heap.map Obj.core := by
  obtain ⟨e, h⟩ | ⟨ob, t, hc, _, h⟩ := State.setLinks_cases s o f
  · rw [h, State.fail_heap]
  · obtain ⟨hlt, rfl⟩ := List.getElem?_eq_some_iff.mp (cell_some_get s o ob hc).1
    have e := congrArg (List.map Obj.core) (List.set_getElem_self hlt)
    rw [List.map_set] at e
    rw [h, State.setObj_heap, List.map_set]
    exact e

/-- recording an adoption changes no counter, value or allocation of any object -/
theorem C06_adopt_counts (s : State) (a b : Nat) (same : Bool) :
    (s.adopt a b same).heap.map Obj.core = s.heap.map Obj.core := by
  unfold State.adopt
  split <;> simp [setLinks_core]

/-- removing an adoption record changes no counter, value or allocation of any object -/
theorem C06_unadopt_counts (s : State) (a b : Nat) (same : Bool) :
    (s.unadopt a b same).heap.map Obj.core = s.heap.map Obj.core := by
  unfold State.unadopt
  split <;> simp [setLinks_core]

/-- identity: the handle table only ever stores object ids, and `ptr_eq` compares them -/
theorem C06_ptrEq (s : State) (fh fw : List Nat) (r1 r2 a b : Nat)
    (h1 : s.useRoot r1 = some a) (h2 : s.useRoot r2 = some b) :
    (applyAct s fh fw (.ptrEq r1 r2)).log = s.log ++ [retBool (a = b)] := by
  simp [applyAct, h1, h2, State.emit]

/-- `clone` adds exactly one to the target's strong count and one handle to the program -/
theorem C06_clone (s : State) (fh fw : List Nat) (r o : Nat) (ob : Obj) (n : Nat)
    (hr : s.useRoot r = some o) (hc : s.cell o = some ob) (hs : ob.strong = .cnt (n + 1)) :
    (applyAct s fh fw (.clone r)).roots = s.roots ++ [o]
    ∧ (applyAct s fh fw (.clone r)).heap = s.heap.set o { ob with strong := .cnt (n + 2) } := by
  simp [applyAct, hr, State.incStrong, hc, hs, State.setObj]

example : (({ heap := [{ strong := .cnt 1, weak := 1, links := some [], value := none, freed := false }] } : State).adopt 0 0 false).heap.map Obj.core
    = [(.cnt 1, 1, none, false)] := by decide


/-! ## The property over whole histories (no hypothesis on the history: holds with or without the
adoption contract, at operation boundaries and mid-teardown) -/

/-- **C06.** In every reachable state, for every live object: `strong_count` equals the number of
existing strong handles to it — held by the program (`ext`: handle table, raw pointers, unwrapped
values), stored in values still in the heap (`inHeap`, including values of unreachable but not yet
collected objects), or owned by pending teardown frames (`pend`, zero between operations) — and
`weak_count` (the weak cell minus the implicit weak) equals the number of existing Weak handles. -/
theorem C06_counts_exact {s : State} (h : Reachable s) (he : s.err = none) {t : Nat}
    (hl : s.isLive t = true) :
    s.strongNat t = s.ext t + s.inHeap t + s.pend t
    ∧ s.weakNat t = s.extW t + s.inHeapW t + s.pendW t + 1 := by
  obtain ⟨⟨hO, _, hC, hW, _⟩, _⟩ := reachable_core h he
  obtain ⟨ob, n, hg, hf, hs⟩ := (State.isLive_eq_true_iff s t).mp hl
  have hw := hW t (State.isLive_lt hl)
  rw [State.implicitNat_of_get hg, ((hO t ob hg).1 n hs).2.2.2] at hw
  exact ⟨hC t hl, hw⟩

/-- between operations no frame is pending, so the counts are exactly the handles of the program
and of stored values -/
theorem C06_counts_exact_quiescent {s : State} (h : Reachable s) (he : s.err = none)
    (hq : s.stack = []) {t : Nat} (hl : s.isLive t = true) :
    s.strongNat t = s.ext t + s.inHeap t ∧ s.weakNat t = s.extW t + s.inHeapW t + 1 := by
  simpa [pend_of_stack_nil hq, pendW_of_stack_nil hq] using C06_counts_exact h he hl

/-- **C06 (an object to which handles exist never reads zero).** Under the adoption contract, in
every state of every execution (mid-teardown included): an object the program can reach — through a
handle it holds or through handles stored in reachable values, adopted or not — has a positive strong
count, and that count is exactly the number of existing handles.  This is the theorem behind the
oracle line `O6:held-object-destroyed-with-k-handles`: a group teardown that decrements a survivor
(seeded m06, m62, m94) makes the implementation leave this set of states. -/
theorem C06_held_object_count_positive {s : State} (h : ReachableP s) (he : s.err = none) {o : Nat}
    (hr : s.Reach o) :
    0 < s.strongNat o ∧ s.strongNat o = s.ext o + s.inHeap o + s.pend o := by
  have hlive := reach_live (reachableP_invS h he) hr
  exact ⟨State.strongNat_pos_of_isLive hlive, (C06_counts_exact h.reachable he hlive).1⟩

/-! ## Non-vacuity: every kind of handle at once

Object 1 is designated by a program handle, a handle stored in object 0's value (adopted), a handle
stored in object 2's value (not adopted), a raw pointer, a handle inside an unwrapped value held by
the program, and by two Weak handles (one of the program, one stored in 0's value). -/

def countsHistory : List (Op × List Nat) :=
  [(.act .new, []), (.act .new, []), (.act .new, []),       -- objects 0, 1, 2
   (.act (.clone 1), []), (.act (.link 3 0), []),           -- 0 holds and adopts 1
   (.act (.clone 1), []), (.act (.store 3 2), []),          -- 2 holds 1, not adopted
   (.act (.clone 1), []), (.act (.intoRaw 3), []),          -- a raw pointer to 1
   (.act (.downgrade 1), []), (.act (.downgrade 1), []),
   (.act (.storeWeak 1 0), []),                             -- Weak to 1: one in 0's value, one in the program
   (.act .new, []), (.act (.clone 1), []), (.act (.store 4 3), []),
   (.act (.tryUnwrap 3), []),                               -- an unwrapped value holding a handle to 1
   (.act (.counts 1), [])]                                  -- `strong_count`, `weak_count` of object 1

/-- the end state of the history; the examples below read it off this literal -/
theorem run_countsHistory : run countsHistory =
    { heap := [
        .live 1 1 [(⟨1, .fwd⟩, 1)] { Val.plain 0 [1] with weaks := [1] },
        .live 5 3 [(⟨0, .bwd⟩, 1)] (.plain 1 []),
        .live 1 1 [] (.plain 2 [1]),
        { strong := .cnt 0, weak := 0, links := none, value := none, freed := true, implicit := false }],
      roots := [0, 1, 2], wroots := [1], raws := [1],
      vals := [.plain 3 [1]],
      log := [.freed 3, .ret 1, .ret 5, .ret 2], nextVid := 4 } := by
  decide +kernel

/-- the hypotheses of `C06_counts_exact_quiescent` at object 1 of the final state, and the theorem
instantiated there -/
example : (run countsHistory).strongNat 1 = (run countsHistory).ext 1 + (run countsHistory).inHeap 1
    ∧ (run countsHistory).weakNat 1
        = (run countsHistory).extW 1 + (run countsHistory).inHeapW 1 + 1 :=
  C06_counts_exact_quiescent (run_reachable countsHistory) (by rw [run_countsHistory])
    (by rw [run_countsHistory]) (t := 1) (by rw [run_countsHistory]; decide)

/-- the concrete numbers: 5 strong handles = 3 of the program (handle table, raw pointer, unwrapped
value) + 2 stored in values; weak cell 3 = 1 Weak of the program + 1 stored + the implicit one; and
what the program reads through the API: `strong_count = 5`, `weak_count = 2` -/
example : let s := run countsHistory
    s.err = none ∧ s.roots = [0, 1, 2] ∧ s.raws = [1] ∧ s.wroots = [1]
    ∧ s.vals.map (·.held) = [[1]]
    ∧ s.strongNat 1 = 5 ∧ s.ext 1 = 3 ∧ s.inHeap 1 = 2
    ∧ s.weakNat 1 = 3 ∧ s.extW 1 = 1 ∧ s.inHeapW 1 = 1
    ∧ s.log = [.freed 3, .ret 1, .ret 5, .ret 2] := by
  rw [run_countsHistory]; decide +kernel

/-- non-vacuity of `C06_held_object_count_positive`: `countsHistory` respects the contract, object 1
is held by the program, and the theorem gives its count (5, see above) as positive and exact -/
example : 0 < (run countsHistory).strongNat 1
    ∧ (run countsHistory).strongNat 1
        = (run countsHistory).ext 1 + (run countsHistory).inHeap 1 + (run countsHistory).pend 1 :=
  C06_held_object_count_positive
    ((run_reachableC countsHistory (by decide +kernel)).reachableP (by rw [run_countsHistory]))
    (by rw [run_countsHistory]) (.root (by rw [run_countsHistory]; decide +kernel))

end Cactus
