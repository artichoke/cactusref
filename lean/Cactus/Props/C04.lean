import Cactus.Lemmas.Release
import Cactus.Lemmas.ReleaseSem
import Cactus.Lemmas.Basic
import Cactus.Lemmas.Shared.OneStep   -- `Shared.decWeakFree_released`
import Cactus.Lemmas.Shared.Eval      -- decidable equality of `State`
/-!
# C04 — destroyed objects return all memory

In the model the allocation of an object is `freed`, its table is `links` (`none` once dropped)
and its value `value`.  What is proved here:
* one-step lemmas about the release steps: `C04_decWeak_frees_iff`, `C04_finishSingle`,
  `C04_no_double_release`;
* whole panic-free histories (`ReachableNP`), at operation boundaries:
  `C04_destroyed_objects_return_memory`, `C04_fully_collected_graph_leaks_nothing`;
* example: one history in which objects die by every path (collected group, zero count with
  adoptions, plain last-handle drop, `try_unwrap`), the theorems instantiated at every object;
* **no leak without a panic** (last section): the syntactic restriction `ReachableNP` replaced by
  a semantic one, for *every* history (`Reachable`, `setPanic` allowed):
  `C04_release_invariant_lost_only_by_panic` (in every reachable state the release invariant
  `InvN` holds unless a panic is unwinding, a panic has been caught — `Ev.panicked ∈ log` — or the
  machine has stopped with an error; the only machine step that can lose it is that of a `panic`
  frame, `C04_only_the_panic_frame_loses_it`), `C04_no_leak_without_a_panic` and
  `C04_no_panic_so_far_leaks_nothing` (the two whole-history results for every state at an
  operation boundary with no `Ev.panicked` in its log), with an example that uses `setPanic`
  (the theorems for `noPanic` histories say nothing about it, this one applies) and one in which a destructor does panic (the
  hypothesis is necessary: a dead object without Weak handles stays allocated).
Not proved: the real allocator and hashbrown's buffer policy are abstracted; the harness observes
exact `RcBox` block counts per step (the `F`/`heap` channels) and the end-of-history byte balance.
Executions in which a destructor has panicked legitimately leak (C11) and are excluded — by the
syntactic `ReachableNP` in the first whole-history section, by "no `Ev.panicked` logged so far" in
the last.
-/
namespace Cactus
open State

/-- releasing a weak reference frees the allocation exactly when it was the last one; a second
release is impossible because a released allocation is not a `cell` any more -/
theorem C04_decWeak_frees_iff (s : State) (o : Nat) (ob : Obj) (imp : Bool) (hc : s.cell o = some ob)
    (w : Nat) (hw : ob.weak = w + 1) :
    ((s.decWeakFree o imp).cell o = none ↔ w = 0) ∧ (s.decWeakFree o imp).err = s.err := by
  refine ⟨?_, State.decWeakFree_err imp hc (hw ▸ Nat.succ_ne_zero w)⟩
  cases w with
  | zero =>
    rw [State.decWeakFree_eq_free imp hc hw]
    simp [State.emit, State.cell, State.setObj, List.getElem?_set_self (cell_some_lt s o ob hc)]
  | succ w =>
    rw [State.decWeakFree_eq_dec imp hc hw, cell_setObj_same s o ob _ hc]
    simp [(cell_some_get s o ob hc).2]

/-- the rest of `drop_unreachable*` after the value has been destroyed: the table is dropped and
the implicit weak reference released, so without Weak handles (`weak = 1`) the allocation is freed
and with Weak handles only the bare allocation (no value, no table) survives -/
theorem C04_finishSingle (s : State) (o : Nat) (ob : Obj) (t : Table) (hc : s.cell o = some ob)
    (hl : ob.links = some t) (w : Nat) (hw : ob.weak = w + 1) :
    (s.finishSingle o).heap = s.heap.set o { ob with links := none, weak := w, freed := decide (w = 0), implicit := false }
    ∧ (s.finishSingle o).err = s.err := by
  unfold State.finishSingle
  simp only [hc, hl]
  have hf := (cell_some_get s o ob hc).2
  have hlt := cell_some_lt s o ob hc
  unfold State.decWeakFree
  rw [cell_setObj_same s o ob _ hc]
  simp only [hf]
  cases w with
  | zero => simp [hw, State.setObj, State.emit]
  | succ w => simp [hw, State.setObj]

/-- an allocation is never released twice: releasing a released allocation is reported as an
error, never silently performed -/
theorem C04_no_double_release (s : State) (o : Nat) (imp : Bool) (h : s.cell o = none) (he : s.err = none) :
    (s.decWeakFree o imp).err = some (.uaf o) ∧ (s.decWeakFree o imp).heap = s.heap :=
  Shared.decWeakFree_released s o imp h he

example : (({ heap := [{ strong := .uninit, weak := 1, links := some [], value := none, freed := false }] } : State).finishSingle 0).heap
    = [{ strong := .uninit, weak := 0, links := none, value := none, freed := true, implicit := false }] := by decide


/-! ## Over whole panic-free histories

A panicking destructor legitimately leaks the allocations of the interrupted teardown (C11), so
the exact-release statement is about executions in which no destructor panics (`ReachableNP`:
no `setPanic` anywhere).  -/

/-- **C04.** Between operations, for every object whose value has been destroyed (or moved out by
`try_unwrap`/`make_mut`): its link table and value are gone, its implicit weak reference has been
released, and its allocation is released exactly when no Weak handle to it remains — for every
path by which it died (plain last-handle drop, zero count with adoptions, member of a collected
group). -/
theorem C04_destroyed_objects_return_memory {s : State} (h : ReachableNP s) (he : s.err = none)
    (hq : s.stack = []) {o : Nat} {ob : Obj} (hg : s.heap[o]? = some ob) (hd : ob.strong.isDead = true) :
    ob.links = none ∧ ob.value = none ∧ ob.implicit = false
      ∧ (ob.freed = true ↔ s.extW o + s.inHeapW o = 0) :=
  C04_dead_object_released h he hq hg hd

/-- after a history in which every object has been destroyed and every Weak dropped, every
allocation has been released -/
theorem C04_fully_collected_graph_leaks_nothing {s : State} (h : ReachableNP s) (he : s.err = none)
    (hq : s.stack = []) (hall : ∀ (o : Nat) (ob : Obj), s.heap[o]? = some ob → ob.strong.isDead = true)
    (hw : s.wroots = []) (hv : s.vals = []) :
    ∀ (o : Nat) (ob : Obj), s.heap[o]? = some ob → ob.freed = true :=
  C04_all_collected_nothing_left h he hq hall hw hv

/-! ## Non-vacuity: every path by which an object dies, in one panic-free history

A two-cycle `0 ↔ 1` with a Weak to member 0 (collected group); `2 → 3` adopted but acyclic (zero
count with adoptions, then a cascade); object 4 plain (last-handle drop); object 5 unwrapped by
`try_unwrap` while a Weak to it exists (given up).  First the glue that turns "no `setPanic` in the
history" into `ReachableNP (run ops)`. -/

instance : DecidablePred Act.noPanic := fun a => by
  unfold Act.noPanic; split <;> infer_instance

instance : DecidablePred Op.noPanic := fun o => by
  unfold Op.noPanic; split <;> infer_instance

theorem ReachableNP.closed : Closed Op.noPanic ReachableNP :=
  ⟨fun o hint h hq ho => .op o hint h hq ho, .step, .endOp, .outOfFuel⟩

theorem run_reachableNP (ops : List (Op × List Nat)) (hops : ∀ oh ∈ ops, oh.1.noPanic) :
    ReachableNP (run ops) ∧ ((run ops).err = none → (run ops).stack = []) :=
  ReachableNP.closed.run .init ops hops

def releaseHistory : List (Op × List Nat) :=
  [(.act .new, []), (.act .new, []),
   (.act (.clone 1), []), (.act (.link 2 0), []),     -- 0 → 1
   (.act (.clone 0), []), (.act (.link 2 1), []),     -- 1 → 0: a two-cycle
   (.act (.downgrade 0), []),                         -- Weak to member 0
   (.act .new, []), (.act .new, []),                  -- objects 2, 3
   (.act (.link 3 2), []),                            -- 2 → 3: adopted, acyclic
   (.act .new, []),                                   -- object 4: plain
   (.act .new, []), (.act (.downgrade 4), []),        -- object 5 and a Weak to it
   (.act (.tryUnwrap 4), []), (.act (.dropValue 0), []),  -- 5 unwrapped (given up), value dropped
   (.act (.drop 1), []),                              -- program's handle to 1
   (.act (.drop 0), []),                              -- handle to 0: the group {0, 1} is collected
   (.act (.drop 0), []),                              -- last handle to 2: zero count with adoptions
   (.act (.drop 0), [])]                              -- last handle to 4: plain last-handle drop
theorem releaseHistory_noPanic : ∀ oh ∈ releaseHistory, oh.1.noPanic := by decide

/-- the end state of the history; the examples below read it off this literal -/
theorem run_releaseHistory : run releaseHistory =
    { heap := [.husk 1, .husk 0, .husk 0, .husk 0, .husk 0,
               { strong := .cnt 0, weak := 1, links := none, value := none, freed := false, implicit := false }],
      wroots := [0, 5],
      log := [.ret 1, .destroyed 5, .traced 1 2 3, .traced 0 2 3, .destroyed 1, .destroyed 0, .freed 1,
              .destroyed 2, .destroyed 3, .freed 3, .freed 2, .destroyed 4, .freed 4],
      nextVid := 6 } := by
  decide +kernel

theorem releaseHistory_noErr : (run releaseHistory).err = none := by rw [run_releaseHistory]

/-- the final state by evaluation: (strong, weak, table gone, value present, freed, implicit) per object;
all six are dead, 0 and 5 are kept allocated by the two Weak handles `[0, 5]` -/
example : let s := run releaseHistory
    s.roots = [] ∧ s.wroots = [0, 5] ∧ s.vals = [] ∧ s.stack = []
    ∧ s.heap.map (fun ob => (ob.strong, ob.weak, ob.links.isNone, ob.value.isSome, ob.freed, ob.implicit))
      = [(.uninit, 1, true, false, false, false), (.uninit, 0, true, false, true, false),
         (.uninit, 0, true, false, true, false), (.uninit, 0, true, false, true, false),
         (.uninit, 0, true, false, true, false), (.cnt 0, 1, true, false, false, false)]
    ∧ s.log = [.ret 1, .destroyed 5, .traced 1 2 3, .traced 0 2 3, .destroyed 1, .destroyed 0, .freed 1,
               .destroyed 2, .destroyed 3, .freed 3, .freed 2, .destroyed 4, .freed 4] := by
  rw [run_releaseHistory]; decide +kernel

/-- `C04_destroyed_objects_return_memory` instantiated at every object of that state: table and
value gone, implicit weak released, allocation released iff no Weak handle remains -/
example (o : Nat) (ob : Obj) (hg : (run releaseHistory).heap[o]? = some ob) :
    ob.links = none ∧ ob.value = none ∧ ob.implicit = false
      ∧ (ob.freed = true ↔ (run releaseHistory).extW o + (run releaseHistory).inHeapW o = 0) := by
  have hd : ∀ ob ∈ (run releaseHistory).heap, ob.strong.isDead = true := by
    rw [run_releaseHistory]; decide
  exact C04_destroyed_objects_return_memory (run_reachableNP releaseHistory releaseHistory_noPanic).1
    releaseHistory_noErr (by rw [run_releaseHistory]) hg (hd ob (List.mem_of_getElem? hg))

/-- in particular member 0 of the collected group is not released (one Weak handle), member 1 is -/
example : (run releaseHistory).extW 0 + (run releaseHistory).inHeapW 0 = 1
    ∧ (run releaseHistory).extW 1 + (run releaseHistory).inHeapW 1 = 0 := by
  rw [run_releaseHistory]; decide +kernel

/-- after the two Weak handles are dropped as well, the hypotheses of
`C04_fully_collected_graph_leaks_nothing` hold and every allocation has been released -/
def releaseAllHistory : List (Op × List Nat) :=
  releaseHistory ++ [(.act (.dropWeak 0), []), (.act (.dropWeak 0), [])]

theorem run_releaseAllHistory : run releaseAllHistory =
    { heap := [.husk 0, .husk 0, .husk 0, .husk 0, .husk 0,
               { strong := .cnt 0, weak := 0, links := none, value := none, freed := true, implicit := false }],
      log := [.ret 1, .destroyed 5, .traced 1 2 3, .traced 0 2 3, .destroyed 1, .destroyed 0, .freed 1,
              .destroyed 2, .destroyed 3, .freed 3, .freed 2, .destroyed 4, .freed 4, .freed 0, .freed 5],
      nextVid := 6 } := by
  rw [releaseAllHistory, run_append, run_releaseHistory]; decide +kernel

example (o : Nat) (ob : Obj) (hg : (run releaseAllHistory).heap[o]? = some ob) : ob.freed = true := by
  have hd : ∀ ob ∈ (run releaseAllHistory).heap, ob.strong.isDead = true := by
    rw [run_releaseAllHistory]; decide
  exact C04_fully_collected_graph_leaks_nothing
    (run_reachableNP releaseAllHistory (by decide)).1 (by rw [run_releaseAllHistory])
    (by rw [run_releaseAllHistory]) (fun o ob hg => hd ob (List.mem_of_getElem? hg))
    (by rw [run_releaseAllHistory]) (by rw [run_releaseAllHistory]) o ob hg

example : (run releaseAllHistory).heap.map (·.freed) = [true, true, true, true, true, true]
    ∧ (run releaseAllHistory).log.drop 13 = [.freed 0, .freed 5] := by
  rw [run_releaseAllHistory]; decide +kernel

end Cactus

namespace Cactus
open State

/-! ## No leak without a panic

The section above excludes panics *syntactically*: `ReachableNP` forbids every `setPanic` in the
history, although a value that has been told to panic leaks nothing as long as its destructor has not
run.  Here the hypothesis is about what the execution did: the statements hold for **every**
history (`Reachable`), at every operation boundary at which no destructor has panicked so far — no
`Ev.panicked` in the log (`endOp`, the `catch_unwind` at the operation boundary, logs it when the
operation unwound).

The invariant behind C04 is `State.InvN`: an implicit weak reference that a dead object still owns
is owed by exactly one pending frame (`finishSingle` or `phase3`).  A panicking destructor discards
those frames (`State.panic` filters the stack down to the cleanup frames), and that is the only way
in which the invariant is ever lost. -/

/-- **The release invariant is lost only by a panic.**  In every reachable state — any history,
`setPanic` allowed — `InvN` holds, or a destructor panic is unwinding right now, or one has been
caught at an earlier operation boundary, or the machine has stopped with an error (abort on a double
panic, fuel, a history outside the contract of the handle table). -/
theorem C04_release_invariant_lost_only_by_panic {s : State} (h : Reachable s) :
    s.InvN ∨ s.unwinding = true ∨ Ev.panicked ∈ s.log ∨ s.err ≠ none :=
  reachable_invN_or_panic h

/-- … and the transition that loses it is the step of a `panic` frame, no other: every machine step
whose top frame is not `panic` preserves `InvN` (no hypothesis about what the values in the state
could do later), and so do the operations (`applyOp_InvN`) and `catch_unwind` (`endOp`); the step of a
`panic` frame starts unwinding (or aborts). -/
theorem C04_only_the_panic_frame_loses_it (s : State) (hI : s.Inv) (hR : s.InvR) (hN : s.InvN) :
    ((∀ rest, s.stack ≠ .panic :: rest) → (step s).err = none →
        (step s).InvN ∧ (step s).unwinding = s.unwinding)
    ∧ (∀ op, (applyOp s op).err = none → (applyOp s op).InvN ∧ (applyOp s op).unwinding = s.unwinding)
    ∧ (endOp s).InvN
    ∧ (∀ rest, s.err = none → s.stack = .panic :: rest →
        (step s).unwinding = true ∨ (step s).err ≠ none) :=
  ⟨fun htop he => ⟨step_InvN_of_not_panic s hI hR hN htop he, ReleaseSem.step_unw_eq_of_not_panic s htop⟩,
   fun op he => ⟨applyOp_InvN s op hI hR hN he, ReleaseSem.applyOp_unw s op⟩,
   endOp_InvN_of_InvN s hN,
   fun _ herr hst => step_panic_frame s herr hst⟩

/-- **C04, no leak without a panic.**  Between operations of any execution in which no destructor
has panicked so far (whatever the program could have done: values set to panic may be alive in the
heap), for every object whose value has been destroyed (or moved out): its link table and value are
gone, its implicit weak reference has been released, and its allocation is released exactly when no
Weak handle to it remains. -/
theorem C04_no_leak_without_a_panic {s : State} (h : Reachable s) (he : s.err = none)
    (hq : s.stack = []) (hu : s.unwinding = false) (hl : Ev.panicked ∉ s.log)
    {o : Nat} {ob : Obj} (hg : s.heap[o]? = some ob) (hd : ob.strong.isDead = true) :
    ob.links = none ∧ ob.value = none ∧ ob.implicit = false
      ∧ (ob.freed = true ↔ s.extW o + s.inHeapW o = 0) :=
  C04_dead_object_released_sem h he hq hu hl hg hd

/-- after any history in which no destructor has panicked, every object has been destroyed and every
Weak (and unwrapped value) dropped, every allocation has been released -/
theorem C04_no_panic_so_far_leaks_nothing {s : State} (h : Reachable s) (he : s.err = none)
    (hq : s.stack = []) (hu : s.unwinding = false) (hl : Ev.panicked ∉ s.log)
    (hall : ∀ (o : Nat) (ob : Obj), s.heap[o]? = some ob → ob.strong.isDead = true)
    (hw : s.wroots = []) (hv : s.vals = []) :
    ∀ (o : Nat) (ob : Obj), s.heap[o]? = some ob → ob.freed = true :=
  C04_all_collected_nothing_left_sem h he hq hu hl hall hw hv

/-- the states produced by `run` are at an operation boundary: never unwinding -/
theorem run_not_unwinding (ops : List (Op × List Nat)) (he : (run ops).err = none) :
    (run ops).unwinding = false := by
  refine foldl_pres (I := fun s : State => s.unwinding = false) _ (fun s oh h0 => ?_) ops rfl
  unfold execOp
  split
  · exact h0
  · exact ReleaseSem.endOp_unw _

/-! ### (a) A history that uses `setPanic` and leaks nothing

The ring `0 ↔ 1` (with a Weak to member 0) is collected completely while object 2, whose destructor
has been told to panic, stays alive.  The history is not `noPanic`, so `ReachableNP` and the theorems
of the section above say nothing about it; no destructor has panicked, so `C04_no_leak_without_a_panic` applies. -/

def armedHistory : List (Op × List Nat) :=
  [(.act .new, []), (.act .new, []),
   (.act (.clone 1), []), (.act (.link 2 0), []),     -- 0 → 1
   (.act (.clone 0), []), (.act (.link 2 1), []),     -- 1 → 0: a two-cycle
   (.act (.downgrade 0), []),                         -- Weak to member 0
   (.act .new, []),                                   -- object 2
   (.act (.setPanic 2), []),                          -- … whose destructor will panic
   (.act (.drop 1), []),                              -- program's handle to 1
   (.act (.drop 0), [])]                              -- handle to 0: the group {0, 1} is collected

/-- outside the syntactic class -/
example : ¬ ∀ oh ∈ armedHistory, oh.1.noPanic := by decide

theorem run_armedHistory : run armedHistory =
    { heap := [.husk 1, .husk 0, .live 1 1 [] { Val.plain 2 [] with panics := true }],
      roots := [2], wroots := [0],
      log := [.traced 1 2 3, .traced 0 2 3, .destroyed 1, .destroyed 0, .freed 1], nextVid := 3 } := by
  decide +kernel

/-- the final state by evaluation: object 2 alive and armed, 0 and 1 dead, no panic logged -/
example : let s := run armedHistory
    s.roots = [2] ∧ s.wroots = [0] ∧ s.vals = [] ∧ s.stack = [] ∧ s.err = none ∧ s.unwinding = false
    ∧ s.heap.map (fun ob => (ob.strong, ob.weak, ob.links.isNone, ob.value.map (·.panics), ob.freed, ob.implicit))
      = [(.uninit, 1, true, none, false, false), (.uninit, 0, true, none, true, false),
         (.cnt 1, 1, false, some true, false, true)]
    ∧ s.log = [.traced 1 2 3, .traced 0 2 3, .destroyed 1, .destroyed 0, .freed 1] := by
  rw [run_armedHistory]; decide +kernel

/-- `C04_no_leak_without_a_panic` instantiated at every dead object of that state -/
example (o : Nat) (ob : Obj) (hg : (run armedHistory).heap[o]? = some ob)
    (hd : ob.strong.isDead = true) :
    ob.links = none ∧ ob.value = none ∧ ob.implicit = false
      ∧ (ob.freed = true ↔ (run armedHistory).extW o + (run armedHistory).inHeapW o = 0) :=
  C04_no_leak_without_a_panic (run_reachable armedHistory) (by rw [run_armedHistory])
    (by rw [run_armedHistory]) (by rw [run_armedHistory]) (by rw [run_armedHistory]; decide) hg hd

/-- member 0 is kept by its Weak handle, member 1 is released -/
example : (run armedHistory).extW 0 + (run armedHistory).inHeapW 0 = 1
    ∧ (run armedHistory).extW 1 + (run armedHistory).inHeapW 1 = 0
    ∧ (run armedHistory).heap.map (·.freed) = [false, true, false] := by
  rw [run_armedHistory]; decide +kernel

/-- a history whose destructor script contains `setPanic` (so it is not `noPanic`) but finds no handle
to arm when it runs: everything is collected, `C04_no_panic_so_far_leaks_nothing` applies -/
def harmlessHistory : List (Op × List Nat) :=
  [(.act .new, []), (.setScript 0 [.setPanic 0], []), (.act (.drop 0), [])]

example : ¬ ∀ oh ∈ harmlessHistory, oh.1.noPanic := by decide

example (o : Nat) (ob : Obj) (hg : (run harmlessHistory).heap[o]? = some ob) : ob.freed = true := by
  have e : run harmlessHistory
      = { heap := [.husk 0], log := [.destroyed 0, .freed 0], nextVid := 1 } := by decide +kernel
  have hd : ∀ ob ∈ (run harmlessHistory).heap, ob.strong.isDead = true := by rw [e]; decide
  exact C04_no_panic_so_far_leaks_nothing (run_reachable harmlessHistory) (by rw [e]) (by rw [e])
    (by rw [e]) (by rw [e]; decide) (fun o ob hg => hd ob (List.mem_of_getElem? hg)) (by rw [e])
    (by rw [e]) o ob hg

/-! ### (b) The hypothesis is necessary: a destructor that does panic leaks

The same ring, member 0 armed.  The collection destroys value 1, then value 0, whose destructor
panics: the `phase3` continuation (release of the implicit weak references) is discarded.  At the
next operation boundary `Ev.panicked` is in the log, both members are dead, no Weak handle to either
exists — and neither allocation has been released (this is C11's legitimate leak). -/

def panickedHistory : List (Op × List Nat) :=
  [(.act .new, []), (.act .new, []),
   (.act (.clone 1), []), (.act (.link 2 0), []),     -- 0 → 1
   (.act (.clone 0), []), (.act (.link 2 1), []),     -- 1 → 0: a two-cycle
   (.act (.setPanic 0), []),                          -- member 0's destructor will panic
   (.act (.drop 1), []),
   (.act (.drop 0), [])]                              -- the group {0, 1} is collected; value 0 panics

theorem run_panickedHistory : run panickedHistory =
    { heap := [.husk 1 true, .husk 1 true],
      log := [.traced 1 2 3, .traced 0 2 3, .destroyed 1, .destroyed 0, .panicked], nextVid := 2 } := by
  decide +kernel

example : let s := run panickedHistory
    s.err = none ∧ s.stack = [] ∧ s.unwinding = false ∧ s.roots = [] ∧ s.wroots = [] ∧ s.vals = []
    ∧ Ev.panicked ∈ s.log
    ∧ s.log = [.traced 1 2 3, .traced 0 2 3, .destroyed 1, .destroyed 0, .panicked]
    ∧ s.heap.map (fun ob => (ob.strong, ob.weak, ob.links.isNone, ob.value.isSome, ob.freed, ob.implicit))
      = [(.uninit, 1, true, false, false, true), (.uninit, 1, true, false, false, true)] := by
  rw [run_panickedHistory]; decide +kernel

/-- the conclusion of `C04_no_leak_without_a_panic` fails at both objects of that (reachable,
error-free, quiescent) state: dead, no Weak handle, not released, implicit weak still owned -/
example : Reachable (run panickedHistory)
    ∧ ∀ o < 2, ∃ ob, (run panickedHistory).heap[o]? = some ob ∧ ob.strong.isDead = true
        ∧ (run panickedHistory).extW o + (run panickedHistory).inHeapW o = 0
        ∧ ob.freed = false ∧ ob.implicit = true :=
  ⟨run_reachable _, by rw [run_panickedHistory]; decide +kernel⟩

/-- and the release invariant itself is lost there: only the third disjunct of
`C04_release_invariant_lost_only_by_panic` holds -/
example : ¬ (run panickedHistory).InvN ∧ (run panickedHistory).unwinding = false
    ∧ Ev.panicked ∈ (run panickedHistory).log ∧ (run panickedHistory).err = none := by
  rw [run_panickedHistory]
  refine ⟨fun hN => ?_, rfl, by decide, rfl⟩
  have h2 := hN 0 _ rfl rfl rfl
  rw [owed_of_stack_nil rfl] at h2
  cases h2

end Cactus
