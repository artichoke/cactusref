import Cactus.Lemmas.Basic
import Cactus.Lemmas.NoRevive
import Cactus.Lemmas.Shared.OneStep   -- `Shared.rcDrop_dead_noop`
import Cactus.Lemmas.Shared.Eval      -- decidable equality of `State`
/-!
# C16 — cloning a handle to a destroyed object aborts; dropping it has no effect; the object's
count is never revived

What is proved here:
* about single calls, in an arbitrary state: `C16_clone_dead_aborts`, `C16_cloneField_dead_aborts`
  (the only way safe code can clone such a handle: a destructor cloning one of its own fields),
  `C16_abort_is_final`, `C16_drop_dead_noop`;
* example: both situations inside a real group teardown (a destructor that clones its handle to an
  already dead peer; the drop glue dropping a handle to an already dead peer);
* about whole histories (last section, "Whole histories: no resurrection"; lemmas in
  `Lemmas/NoRevive.lean`): no transition of the machine — machine step, user-level action at top
  level or inside a destructor, operation start, operation boundary, failure — makes a dead
  (destroyed or released) object live again, from an *arbitrary* state (no invariant, no contract,
  whatever the error field): `C16_dead_stays_dead_step`, `C16_dead_stays_dead_action`; hence along
  any execution (`Later`, the reflexive-transitive closure of the transitions that generate
  `Reachable`) and for `run`: `C16_dead_stays_dead_later`, `C16_dead_stays_dead`; a released
  allocation stays released and its index is never reused: `C16_released_stays_released`,
  `C16_new_is_fresh`; a moved-out value is never put back: `C16_destroyed_value_stays_out`; the
  event log only grows, so a `destroyed` event stays: `C16_log_only_grows`; a `Weak` to an object
  that was dead at some earlier point of the history never upgrades (C05 over whole histories):
  `C16_upgrade_after_death`;
* example: a ring is collected, six more operations run (`new`, `clone`, `upgrade` of a Weak to a
  dead member, `new`, `link`, `upgrade`), by evaluation and by the theorems.
Not proved: that `abort` is what the real process does is observed by the harness (subprocess exit
status).
-/
namespace Cactus
open State

/-- `inc_strong` on a dead object (count 0 or the uninit sentinel) terminates the process:
the machine enters the sticky `abort` state and the heap is untouched (rc.rs:1782-1799). -/
theorem C16_clone_dead_aborts (s : State) (o : Nat) (ob : Obj)
    (hc : s.cell o = some ob) (hd : ob.strong.isDead = true) (he : s.err = none) :
    (s.incStrong o).err = some .abort ∧ (s.incStrong o).heap = s.heap
      ∧ (s.incStrong o).roots = s.roots := by
  rw [incStrong_of_dead hc hd]
  exact ⟨fail_err_of_none s _ he, fail_heap s _, fail_roots s _⟩

/-- the only way safe code can clone such a handle: a destructor cloning one of its own fields -/
theorem C16_cloneField_dead_aborts (s : State) (fh fw : List Nat) (k o : Nat) (ob : Obj)
    (hk : nthMod fh k = some o) (hc : s.cell o = some ob) (hd : ob.strong.isDead = true)
    (he : s.err = none) :
    (applyAct s fh fw (.cloneField k)).err = some .abort := by
  simp only [applyAct, hk]
  exact (C16_clone_dead_aborts s o ob hc hd he).1

/-- once aborted the machine never moves again -/
theorem C16_abort_is_final (s : State) (e : Err) (h : s.err = some e) : step s = s :=
  step_of_err h

/-- dropping a handle to a dead object returns before touching anything (drop.rs:121-123) -/
theorem C16_drop_dead_noop (s : State) (o : Nat) (ob : Obj)
    (hc : s.cell o = some ob) (hd : ob.strong.isDead = true) : s.rcDrop o = s :=
  Shared.rcDrop_dead_noop s o ob hc hd

/-- non-vacuity: a dead, not yet released object -/
example : ({ heap := [{ strong := .uninit, weak := 1, links := none, value := none, freed := false }] } : State).cell 0
    = some { strong := .uninit, weak := 1, links := none, value := none, freed := false } := by decide

/-! ## Non-vacuity, inside a real teardown

A two-cycle `0 ↔ 1` built with `link`; object 0's destructor clones its own strong field (its handle
to 1).  The last `drop` collects the group, destroying value 1 first (hint `[1, 0]`):
* while value 1's fields are dropped, the `Rc::drop` of its handle to the already dead member 0 is
  the no-op of `C16_drop_dead_noop`;
* when value 0's destructor then clones its handle to the already dead member 1, the machine aborts
  as in `C16_cloneField_dead_aborts`. -/

def cloneDeadBuild : List (Op × List Nat) :=
  [(.act .new, []), (.act .new, []),
   (.act (.clone 1), []), (.act (.link 2 0), []),       -- 0 → 1
   (.act (.clone 0), []), (.act (.link 2 1), []),       -- 1 → 0
   (.setScript 0 [.cloneField 0], []),                  -- 0's destructor clones its handle to 1
   (.act (.drop 1), [])]                                -- program's handle to 1

/-- the state in which the collecting `drop 0` has pushed its `rcDrop 0` frame -/
def cloneDeadStart : State := applyOp { run cloneDeadBuild with hint := [1, 0] } (.act (.drop 0))

/-- four steps later: value 1's drop glue is about to drop its handle to member 0 -/
def cloneDeadMid4 : State := step (step (step (step cloneDeadStart)))

/-- the end state of the build history -/
theorem run_cloneDeadBuild : run cloneDeadBuild =
    { heap := [.live 2 1 [(⟨1, .fwd⟩, 1), (⟨1, .bwd⟩, 1)] { Val.plain 0 [1] with script := [.cloneField 0] },
               .live 1 1 [(⟨0, .bwd⟩, 1), (⟨0, .fwd⟩, 1)] (.plain 1 [0])],
      roots := [0], log := [.traced 1 2 3], nextVid := 2 } := by
  decide +kernel

/-- … and so are the first four steps of the collecting `drop 0` -/
theorem cloneDeadMid4_eq : cloneDeadMid4 =
    { heap := [.husk 1 true, .husk 1 true],
      stack := [.rcDrop 0, .dropFields [] [],
        .dropVal { Val.plain 0 [1] with script := [.cloneField 0] }, .phase3 [1, 0]],
      log := [.traced 1 2 3, .traced 0 2 3, .destroyed 1], hint := [1, 0], nextVid := 2 } := by
  rw [cloneDeadMid4, cloneDeadStart, run_cloneDeadBuild]; decide +kernel

/-- both members are already marked dead there, and the frame on top is `rcDrop 0` -/
example : cloneDeadMid4.err = none
    ∧ cloneDeadMid4.stack = [.rcDrop 0, .dropFields [] [],
        .dropVal { vid := 0, held := [1], weaks := [], script := [.cloneField 0], panics := false },
        .phase3 [1, 0]]
    ∧ cloneDeadMid4.heap.map (·.strong) = [.uninit, .uninit] := by rw [cloneDeadMid4_eq]; decide

/-- `C16_drop_dead_noop` instantiated: running that frame changes nothing -/
example : ({ cloneDeadMid4 with stack := cloneDeadMid4.stack.tail } : State).rcDrop 0
    = { cloneDeadMid4 with stack := cloneDeadMid4.stack.tail } :=
  C16_drop_dead_noop _ 0
    { strong := .uninit, weak := 1, links := none, value := none, freed := false }
    (by rw [cloneDeadMid4_eq]; rfl) rfl

/-- three more steps: value 0's destructor body is about to run `cloneField 0` -/
def cloneDeadMid7 : State := step (step (step cloneDeadMid4))

example : cloneDeadMid7.err = none
    ∧ cloneDeadMid7.stack = [.script [1] [] [.cloneField 0], .dropFields [1] [], .phase3 [1, 0]] := by
  rw [cloneDeadMid7, cloneDeadMid4_eq]; decide +kernel

/-- `C16_cloneField_dead_aborts` instantiated at the state in which the script action runs (the
`script` frame popped, its remainder pushed back: `C10_script_uses_applyAct`) -/
example : (applyAct (({ cloneDeadMid7 with stack := [.dropFields [1] [], .phase3 [1, 0]] } : State).push
      [.script [1] [] []]) [1] [] (.cloneField 0)).err = some .abort :=
  C16_cloneField_dead_aborts _ [1] [] 0 1
    { strong := .uninit, weak := 1, links := none, value := none, freed := false }
    (by decide) (by rw [cloneDeadMid7, cloneDeadMid4_eq]; decide +kernel) rfl
    (by rw [cloneDeadMid7, cloneDeadMid4_eq]; decide +kernel)

/-- by evaluation: that is the next machine step, the whole history ends in the sticky `abort` state
(`C16_abort_is_final`), and value 0's destructor had started but nothing was released -/
example : (step cloneDeadMid7).err = some .abort
    ∧ (run (cloneDeadBuild ++ [(.act (.drop 0), [1, 0])])).err = some .abort
    ∧ (run (cloneDeadBuild ++ [(.act (.drop 0), [1, 0]), (.act .new, [])])).err = some .abort
    ∧ (run (cloneDeadBuild ++ [(.act (.drop 0), [1, 0])])).log
        = [.traced 1 2 3, .traced 0 2 3, .destroyed 1, .destroyed 0] := by
  rw [cloneDeadMid7, cloneDeadMid4_eq, run_append, run_append, run_cloneDeadBuild]; decide +kernel

/-! ## Whole histories: no resurrection

`s.isLive o = false` with `o < s.heap.length` says: allocation `o` exists and is dead (its strong
cell is `0` or the `uninit` sentinel: its value has been or is being destroyed) or already released.
The statements below need no hypothesis on the state: no invariant, no adoption contract, and the
error field may be anything. -/

/-- one machine step (library code, or one action of a running destructor) revives nothing, and
the index stays allocated -/
theorem C16_dead_stays_dead_step (s : State) (o : Nat) (ho : o < s.heap.length)
    (hd : s.isLive o = false) :
    o < (step s).heap.length ∧ (step s).isLive o = false :=
  ⟨Nat.lt_of_lt_of_le ho (step_heap_length s), step_isLive_false s o ho hd⟩

/-- no user-level action, at top level or inside a destructor with fields `fh`/`fw`, revives
anything (`clone`, `upgrade`, `fromRaw`, `incStrong`, `cloneField`, `upgradeField`, `makeMut`, …) -/
theorem C16_dead_stays_dead_action (s : State) (fh fw : List Nat) (a : Act) (o : Nat)
    (ho : o < s.heap.length) (hd : s.isLive o = false) :
    o < (applyAct s fh fw a).heap.length ∧ (applyAct s fh fw a).isLive o = false :=
  ⟨Nat.lt_of_lt_of_le ho (applyAct_heap_length s fh fw a), applyAct_isLive_false s fh fw a o ho hd⟩

/-- the remaining transitions: start of an operation (any operation, any layout hint), the
operation boundary, any failure -/
theorem C16_dead_stays_dead_op (s : State) (op : Op) (hint : List Nat) (e : Err) (o : Nat)
    (ho : o < s.heap.length) (hd : s.isLive o = false) :
    (o < (applyOp (s.begin hint) op).heap.length ∧ (applyOp (s.begin hint) op).isLive o = false)
      ∧ (o < (endOp s).heap.length ∧ (endOp s).isLive o = false)
      ∧ (o < (s.fail e).heap.length ∧ (s.fail e).isLive o = false) :=
  ⟨⟨Nat.lt_of_lt_of_le ho (applyOp_heap_length (s.begin hint) op),
      applyOp_isLive_false (s.begin hint) op o ho (hint_isLive_false s hint o hd)⟩,
    ⟨Nat.lt_of_lt_of_le ho (endOp_heap_length s), endOp_isLive_false s o ho hd⟩,
    ⟨Nat.lt_of_lt_of_le ho (fail_heap_length s e), fail_isLive_false s e o hd⟩⟩

/-- along any execution: if `t` is later than `s` (`Later`: any sequence of operation starts,
machine steps, operation boundaries and out-of-fuel failures leads from `s` to `t`) then an object
that is dead in `s` is dead in `t` -/
theorem C16_dead_stays_dead_later {s t : State} (h : Later s t) (o : Nat) (ho : o < s.heap.length)
    (hd : s.isLive o = false) :
    o < t.heap.length ∧ t.isLive o = false :=
  later_isLive_false h ho hd

/-- every reachable state is later than the initial state, and the state after a history is later
than the state after any prefix of it: `Later` covers all executions -/
theorem C16_later_covers (s : State) (hr : Reachable s) (ops1 ops2 : List (Op × List Nat)) :
    Later {} s ∧ Later (run ops1) (run (ops1 ++ ops2)) :=
  ⟨Later.of_reachable hr, later_run_append ops1 ops2⟩

/-- histories: an object dead after `ops1` is dead after `ops1 ++ ops2`, whatever `ops2` is -/
theorem C16_dead_stays_dead (ops1 ops2 : List (Op × List Nat)) (o : Nat)
    (ho : o < (run ops1).heap.length) (hd : (run ops1).isLive o = false) :
    (run (ops1 ++ ops2)).isLive o = false :=
  run_isLive_false ops1 ops2 o ho hd

/-- a released allocation stays released along any execution (the `freed` flag is never cleared) -/
theorem C16_released_stays_released {s t : State} (h : Later s t) (o : Nat) (ob : Obj)
    (hg : s.heap[o]? = some ob) (hf : ob.freed = true) :
    ∃ ob', t.heap[o]? = some ob' ∧ ob'.freed = true :=
  later_freed h hg hf

/-- … and its index is never handed out again: `Rc::new` returns the first index past the heap and
leaves every existing allocation as it is -/
theorem C16_new_is_fresh (s : State) (fh fw : List Nat) :
    (applyAct s fh fw .new).roots = s.roots ++ [s.heap.length]
      ∧ (applyAct s fh fw .new).heap.length = s.heap.length + 1
      ∧ ∀ o, o < s.heap.length → (applyAct s fh fw .new).heap[o]? = s.heap[o]? :=
  ⟨rfl, alloc_heap_length s _, fun _ ho => getElem?_alloc_of_lt s _ ho⟩

/-- the value of a destroyed object, once moved out, is never put back; the dead strong cell stays
dead also while Weak handles keep the allocation -/
theorem C16_destroyed_value_stays_out {s t : State} (h : Later s t) (o : Nat) (ob : Obj)
    (hg : s.heap[o]? = some ob) :
    (ob.value = none → ∃ ob', t.heap[o]? = some ob' ∧ ob'.value = none)
      ∧ (ob.strong.isDead = true → ∃ ob', t.heap[o]? = some ob' ∧ ob'.strong.isDead = true) :=
  ⟨later_value_none h hg, later_dead h hg⟩

/-- the event log only grows: the log after `ops1` is a prefix of the log after `ops1 ++ ops2`, so a
`destroyed v` (or `freed o`) event, once there, stays, in place -/
theorem C16_log_only_grows (ops1 ops2 : List (Op × List Nat)) :
    (run ops1).log <+: (run (ops1 ++ ops2)).log
      ∧ (run ops1).destroyedVids <+: (run (ops1 ++ ops2)).destroyedVids
      ∧ (run ops1).freedIds <+: (run (ops1 ++ ops2)).freedIds :=
  ⟨run_log_prefix ops1 ops2, run_destroyedVids_prefix ops1 ops2,
    later_freedIds_prefix (later_run_append ops1 ops2)⟩

/-- C05 over whole histories: if `o` was dead at some point `s` of an execution then at every
later point `t` upgrading a Weak to `o` (the allocation still being held by that Weak) returns
`None` and changes nothing but the log -/
theorem C16_upgrade_after_death {s t : State} (h : Later s t) (o : Nat) (ho : o < s.heap.length)
    (hd : s.isLive o = false) (fh fw : List Nat) (w : Nat) (ob' : Obj)
    (hw : nthMod t.wroots w = some o) (hc : t.cell o = some ob') :
    applyAct t fh fw (.upgrade w) = t.emit (retBool false) := by
  have hdead : ob'.strong.isDead = true := State.Grow.cell_dead h.grow ho hd hc
  simp only [applyAct, hw, hc, hdead, if_true]

/-! ### Non-vacuity: a collected ring, then six more operations

`0 ↔ 1` built with `link`, a Weak to member 0 kept by the program; the last `drop` collects the
ring: both values destroyed, allocation 1 released, allocation 0 kept by the Weak. -/

def ringThenDead : List (Op × List Nat) :=
  [(.act .new, []), (.act .new, []),
   (.act (.clone 1), []), (.act (.link 2 0), []),       -- 0 → 1
   (.act (.clone 0), []), (.act (.link 2 1), []),       -- 1 → 0
   (.act (.downgrade 0), []),                           -- Weak to 0
   (.act (.drop 1), []), (.act (.drop 0), [])]          -- the second drop collects the ring

/-- six further operations, among them `upgrade` of the Weak to the dead member 0 (twice) -/
def afterDeath : List (Op × List Nat) :=
  [(.act .new, []), (.act (.clone 0), []), (.act (.upgrade 0), []),
   (.act .new, []), (.act (.link 2 0), []), (.act (.upgrade 0), [])]

theorem run_ringThenDead : run ringThenDead =
    { heap := [.husk 1, .husk 0], wroots := [0],
      log := [.traced 1 2 3, .traced 0 2 3, .destroyed 1, .destroyed 0, .freed 1], nextVid := 2 } := by
  decide +kernel

/-- by evaluation: after the collection both members are dead (0 still allocated, 1 released) -/
example : (run ringThenDead).err = none
    ∧ (run ringThenDead).heap.length = 2
    ∧ (run ringThenDead).isLive 0 = false ∧ (run ringThenDead).isLive 1 = false
    ∧ (run ringThenDead).heap.map (·.strong) = [.uninit, .uninit]
    ∧ (run ringThenDead).heap.map (·.freed) = [false, true]
    ∧ (run ringThenDead).wroots = [0]
    ∧ (run ringThenDead).log
        = [.traced 1 2 3, .traced 0 2 3, .destroyed 1, .destroyed 0, .freed 1] := by
  rw [run_ringThenDead]; decide

/-- by evaluation: after the six further operations there is still no error, the
members are still dead, both `upgrade`s returned `None` (`ret 0`), the two new objects got the fresh
indices 2 and 3, and the old log is a prefix of the new one -/
example : (run (ringThenDead ++ afterDeath)).err = none
    ∧ (run (ringThenDead ++ afterDeath)).isLive 0 = false
    ∧ (run (ringThenDead ++ afterDeath)).isLive 1 = false
    ∧ (run (ringThenDead ++ afterDeath)).heap.map (·.strong) = [.uninit, .uninit, .cnt 2, .cnt 1]
    ∧ (run (ringThenDead ++ afterDeath)).heap.map (·.freed) = [false, true, false, false]
    ∧ (run (ringThenDead ++ afterDeath)).roots = [2, 2]
    ∧ (run (ringThenDead ++ afterDeath)).log
        = [.traced 1 2 3, .traced 0 2 3, .destroyed 1, .destroyed 0, .freed 1, .ret 0, .ret 0] := by
  rw [run_append, run_ringThenDead]; decide +kernel

/-- the same by the theorems: the hypotheses of `C16_dead_stays_dead` hold for both members -/
example : (run (ringThenDead ++ afterDeath)).isLive 0 = false
    ∧ (run (ringThenDead ++ afterDeath)).isLive 1 = false :=
  ⟨C16_dead_stays_dead ringThenDead afterDeath 0 (by rw [run_ringThenDead]; decide)
     (by rw [run_ringThenDead]; rfl),
   C16_dead_stays_dead ringThenDead afterDeath 1 (by rw [run_ringThenDead]; decide)
     (by rw [run_ringThenDead]; rfl)⟩

/-- … for *any* continuation, not only this one -/
example (ops2 : List (Op × List Nat)) :
    (run (ringThenDead ++ ops2)).isLive 0 = false ∧ (run (ringThenDead ++ ops2)).isLive 1 = false
      ∧ [Ev.traced 1 2 3, .traced 0 2 3, .destroyed 1, .destroyed 0, .freed 1]
          <+: (run (ringThenDead ++ ops2)).log
      ∧ ∃ ob', (run (ringThenDead ++ ops2)).heap[1]? = some ob' ∧ ob'.freed = true := by
  refine ⟨C16_dead_stays_dead ringThenDead ops2 0 (by rw [run_ringThenDead]; decide)
      (by rw [run_ringThenDead]; rfl),
    C16_dead_stays_dead ringThenDead ops2 1 (by rw [run_ringThenDead]; decide)
      (by rw [run_ringThenDead]; rfl), ?_, ?_⟩
  · have h := (C16_log_only_grows ringThenDead ops2).1
    rwa [run_ringThenDead] at h
  · exact C16_released_stays_released (later_run_append ringThenDead ops2) 1 (.husk 0)
      (by rw [run_ringThenDead]; rfl) rfl

/-- `C16_upgrade_after_death` instantiated at the third of the six operations: the state before it
is later than the state after the collection, so the `upgrade` returns `None` -/
example :
    applyAct (run (ringThenDead ++ afterDeath.take 2)) [] [] (.upgrade 0)
      = (run (ringThenDead ++ afterDeath.take 2)).emit (retBool false) :=
  C16_upgrade_after_death (later_run_append ringThenDead (afterDeath.take 2)) 0
    (by rw [run_ringThenDead]; decide) (by rw [run_ringThenDead]; rfl) [] [] 0 (.husk 1)
    (by rw [run_append, run_ringThenDead]; decide +kernel)
    (by rw [run_append, run_ringThenDead]; decide +kernel)

/-- `C16_new_is_fresh` instantiated at the first of the six operations: the new handle designates
index 2, the first one past the two dead members -/
example : (applyAct (run ringThenDead) [] [] .new).roots = [2] := by
  have h := (C16_new_is_fresh (run ringThenDead) [] []).1
  rw [run_ringThenDead] at h ⊢
  exact h

end Cactus
